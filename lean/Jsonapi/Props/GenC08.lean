/-
For C07/C08: the two list parsers of simple_url.go, as translated from the source
(Generated/Funcs.lean; `strings.Split` on a one-byte separator is the model's `splitOn`), are the
model's: split and drop the empty items, order kept.
-/
import Jsonapi.Generated.Funcs
import Jsonapi.Model.Url
namespace Jsonapi

private theorem foldl_keep_nonempty (l acc : List GoString) :
    l.foldl (fun acc x => if x = ([] : GoString) then acc else acc ++ [x]) acc =
      acc ++ l.filter (fun x => !decide (x = [])) := by
  induction l generalizing acc with
  | nil => simp
  | cons a t ih =>
    by_cases h : a = []
    · subst h; simpa using ih acc
    · simp only [List.foldl_cons, h, if_false, List.filter_cons, decide_false, Bool.not_false, if_true]
      rw [ih]; simp

theorem Gen_parseCommaList_eq (s : GoString) : Gen.parseCommaList s = parseCommaList s := by
  unfold Gen.parseCommaList parseCommaList
  simp [foldl_keep_nonempty]

theorem Gen_parseFragments_eq (s : GoString) : Gen.parseFragments s = parseFragments s := by
  unfold Gen.parseFragments parseFragments
  simp [foldl_keep_nonempty]

end Jsonapi

section Axioms
open Jsonapi
#print axioms Gen_parseCommaList_eq
#print axioms Gen_parseFragments_eq
end Axioms
