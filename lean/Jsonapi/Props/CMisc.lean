/-
CMisc — the library's remaining small pieces (Model/Misc.lean), tied to the real code by
the `misc` correspondence suite.

  1. `Resources` and `WrapperCollection` refine a plain list (style of C19): after any
     sequence of `Add`, `Len`/`At` agree with the list of accepted elements.
  2. `NewIdentifiers` / `Identifiers.IDs`.
  3. `Type.Equal` (an equivalence, blind to map order and to NewFunc, NOT blind to nil
     vs empty maps), `Type.Copy`, `Type.Fields`.
  4. The 28 `NewErr…` constructors, `Error.Error()`, the members of an error's JSON.
  5. The `Meta` getters.

Domain: `TypeV.WF` (unique map keys, true of every Go map) where a statement needs it.
-/
import Jsonapi.Proofs.MiscLemmas
namespace Jsonapi
open GoMap MiscL

/-! ### 1. Resources -/

/-- `Add` appends, whatever the value. -/
theorem CM_resources_run {α : Type} (c : RColl α) (rs : List (RArg α)) :
    (c.run rs).col = c.col ++ rs := by
  induction rs generalizing c with
  | nil => simp [RColl.run]
  | cons r rs ih => simpa [RColl.run, RColl.add] using ih (c.add r)

/-- After any sequence of `Add` on an empty `Resources`: `Len` is the number of `Add`s,
`At(i)` is the i-th added value for `0 ≤ i < Len`, and nil (none) exactly outside that
range (negative indexes included); `GetType` is the zero `Type`. -/
theorem CM_resources_refines {α : Type} (rs : List (RArg α)) :
    let c := (RColl.run ({} : RColl α) rs)
    c.len = rs.length ∧
    (∀ i : Int, 0 ≤ i → i < rs.length → c.at? i = rs[i.toNat]? ∧ c.at? i ≠ none) ∧
    (∀ i : Int, (i < 0 ∨ (rs.length : Int) ≤ i) → c.at? i = none) ∧
    c.getType = TypeV.zero := by
  have hcol : (RColl.run ({} : RColl α) rs).col = rs := CM_resources_run {} rs
  simp only [RColl.len, RColl.at?, hcol]
  refine ⟨trivial, fun i h0 h1 => ?_, fun i h => if_neg (by omega), rfl⟩
  rw [if_pos ⟨h0, h1⟩, List.getElem?_eq_getElem (by omega)]
  exact ⟨rfl, nofun⟩

/-! ### 1. WrapperCollection -/

/-- `WrapCollection(r)`: an empty collection of the sample's type; a nil sample panics. -/
theorem CM_wrapCollection {α : Type} (t : TypeV) :
    (∃ c : WColl α, WColl.wrap (some t) = .ok c ∧ c.getType = t ∧ c.len = 0) ∧
    (WColl.wrap none : Res (WColl α)) = .panic :=
  ⟨⟨{ typ := t, col := [] }, rfl, rfl, rfl⟩, rfl⟩

/-- `Add` of anything that is not a `*Wrapper` changes nothing. -/
theorem CM_wrapper_add_other_noop {α : Type} (c : WColl α) (x : α) : c.add (.other x) = c := rfl

/-- A sequence of `Add` appends the accepted (`*Wrapper`) arguments, in order, and never
changes the collection's type. -/
theorem CM_wrapper_run {α : Type} (c : WColl α) (rs : List (RArg α)) :
    (c.run rs).col = c.col ++ RArg.accepted rs ∧ (c.run rs).getType = c.getType := by
  induction rs generalizing c with
  | nil => simp [WColl.run, RArg.accepted]
  | cons r rs ih =>
    have := ih (c.add r)
    cases r <;> simpa [WColl.run, WColl.add, WColl.getType, RArg.accepted] using this

/-- `At` never panics on a non-negative index … -/
theorem CM_wrapper_at_no_panic {α : Type} (c : WColl α) (i : Int) (h : 0 ≤ i) :
    c.at? i ≠ .panic ∧ c.at? i ≠ .err := by
  unfold WColl.at?
  by_cases h1 : i < (c.col.length : Int)
  · rw [if_pos h1, if_neg (by omega)]; exact ⟨(by intro h; cases h), (by intro h; cases h)⟩
  · rw [if_neg h1]; exact ⟨(by intro h; cases h), (by intro h; cases h)⟩

/-- … and always panics on a negative one (the only test is `len(wc.col) > i`). -/
theorem CM_wrapper_at_negative_panics {α : Type} (c : WColl α) (i : Int) (h : i < 0) :
    c.at? i = .panic := by
  unfold WColl.at?
  rw [if_pos (by omega), if_pos h]

/-- After any sequence of `Add` on a fresh `WrapCollection`: `Len` is the number of
accepted arguments, `At(i)` is the i-th accepted one for `0 ≤ i < Len`, nil for
`i ≥ Len`; `GetType` is still the sample's type. -/
theorem CM_wrapper_refines {α : Type} (t : TypeV) (rs : List (RArg α)) :
    let c := (WColl.run ({ typ := t, col := [] } : WColl α) rs)
    c.len = (RArg.accepted rs).length ∧
    (∀ i : Int, 0 ≤ i → i < (RArg.accepted rs).length →
      c.at? i = .ok ((RArg.accepted rs)[i.toNat]?) ∧ c.at? i ≠ .ok none) ∧
    (∀ i : Int, ((RArg.accepted rs).length : Int) ≤ i → c.at? i = .ok none) ∧
    c.getType = t := by
  have hrun := CM_wrapper_run ({ typ := t, col := [] } : WColl α) rs
  have hcol : (WColl.run ({ typ := t, col := [] } : WColl α) rs).col = RArg.accepted rs := by
    rw [hrun.1]; rfl
  simp only [WColl.len, WColl.at?, hcol]
  refine ⟨trivial, fun i h0 h1 => ?_, fun i h => if_neg (by omega), hrun.2⟩
  rw [if_pos h1, if_neg (by omega), List.getElem?_eq_getElem (by omega)]
  exact ⟨rfl, nofun⟩

/-! ### 2. Identifiers -/

/-- `IDs(NewIdentifiers(t, ids))` is `ids` (a nil `ids` comes back as an empty slice). -/
theorem CM_identifiers_ids (t : GoString) (ids : Option (List GoString)) :
    identIDs (newIdentifiers t ids) = some (ids.getD []) := by
  simp [identIDs, newIdentifiers, List.map_map, Function.comp_def]

/-- Every identifier has type `t`, and there are as many as IDs, in the same order. -/
theorem CM_identifiers_types (t : GoString) (ids : Option (List GoString)) :
    ∃ l, newIdentifiers t ids = some l ∧ l.length = (ids.getD []).length ∧
      (∀ x ∈ l, x.typ = t) ∧ ∀ i : Nat, (l[i]?).map (fun x : Ident => x.id) = (ids.getD [])[i]? := by
  refine ⟨_, rfl, by simp, ?_, ?_⟩
  · intro x hx
    obtain ⟨id, _, rfl⟩ := List.mem_map.1 hx
    rfl
  · intro i
    simp only [List.getElem?_map, Option.map_map, Function.comp_def]
    cases (ids.getD [])[i]? <;> rfl

/-- A nil or empty input gives an empty, non-nil list; neither function ever returns a
nil slice. -/
theorem CM_identifiers_nonnil (t : GoString) :
    newIdentifiers t none = some [] ∧ newIdentifiers t (some []) = some [] ∧
    (∀ ids, newIdentifiers t ids ≠ none) ∧ (∀ l, identIDs l ≠ none) ∧ identIDs none = some [] :=
  ⟨rfl, rfl, (by intro _ h; cases h), (by intro _ h; cases h), rfl⟩

/-! ### 3. Type.Equal / Copy / Fields -/

/-- What `Equal` decides (unique keys): same name, same nil-ness of each map, same
lookups in each map. -/
theorem CM_equal_iff (t u : TypeV) (ht : t.WF) (hu : u.WF) :
    t.equal u = true ↔
      t.name = u.name ∧ t.attrsNil = u.attrsNil ∧ t.relsNil = u.relsNil ∧
      (∀ k, get? t.attrs k = get? u.attrs k) ∧ (∀ k, get? t.rels k = get? u.rels k) :=
  (equal_iff t u ht hu).trans (by simp only [view, Prod.mk.injEq, funext_iff])

theorem CM_equal_refl (t : TypeV) (ht : t.WF) : t.equal t = true :=
  (equal_iff t t ht ht).2 rfl

theorem CM_equal_symm (t u : TypeV) (ht : t.WF) (hu : u.WF) : t.equal u = u.equal t := by
  rw [Bool.eq_iff_iff, equal_iff t u ht hu, equal_iff u t hu ht]
  exact eq_comm

theorem CM_equal_trans (t u v : TypeV) (ht : t.WF) (hu : u.WF) (hv : v.WF)
    (h₁ : t.equal u = true) (h₂ : u.equal v = true) : t.equal v = true :=
  (equal_iff t v ht hv).2 (((equal_iff t u ht hu).1 h₁).trans ((equal_iff u v hu hv).1 h₂))

/-- `Equal` does not see the iteration order of the maps: two values with the same name
and nil-ness whose maps are permutations of each other are equal, and compare alike with
every third type, on either side. -/
theorem CM_equal_perm (t t' u : TypeV) (ht : t.WF) (hu : u.WF)
    (hn : t.name = t'.name) (hna : t.attrsNil = t'.attrsNil) (hnr : t.relsNil = t'.relsNil)
    (hpa : t.attrs.Perm t'.attrs) (hpr : t.rels.Perm t'.rels) :
    t'.WF ∧ t.equal t' = true ∧ t.equal u = t'.equal u ∧ u.equal t = u.equal t' := by
  have ht' : t'.WF := ⟨(hpa.map Prod.fst).nodup_iff.1 ht.1, (hpr.map Prod.fst).nodup_iff.1 ht.2⟩
  have hv : view t = view t' := by
    simp only [view, hn, hna, hnr, funext (DetL.get?_eq_of_perm hpa ht.1),
      funext (DetL.get?_eq_of_perm hpr ht.2)]
  refine ⟨ht', (equal_iff t t' ht ht').2 hv, ?_, ?_⟩
  · rw [Bool.eq_iff_iff, equal_iff t u ht hu, equal_iff t' u ht' hu, hv]
  · rw [Bool.eq_iff_iff, equal_iff u t hu ht, equal_iff u t' hu ht', hv]

/-- NewFunc is ignored. -/
theorem CM_equal_ignores_newfunc (t u : TypeV) (b : Bool) :
    ({ t with hasNew := b } : TypeV).equal u = t.equal u ∧
    u.equal ({ t with hasNew := b } : TypeV) = u.equal t :=
  ⟨rfl, rfl⟩

/-- A nil map and an empty map are different to `Equal`. -/
theorem CM_equal_nil_vs_empty (n : GoString) :
    TypeV.equal { typ := { name := n, attrs := [], rels := [] }, attrsNil := true, relsNil := true }
      { typ := { name := n, attrs := [], rels := [] }, attrsNil := false, relsNil := false } = false ∧
    TypeV.equal { typ := { name := n, attrs := [], rels := [] }, attrsNil := true }
      { typ := { name := n, attrs := [], rels := [] }, attrsNil := false } = false := by
  simp [TypeV.equal, TypeV.mapDeepEqual]

/-- `Copy` always has non-nil maps, the same entries, the same name and NewFunc. -/
theorem CM_copy_shape (t : TypeV) :
    t.copy.attrsNil = false ∧ t.copy.relsNil = false ∧ t.copy.hasNew = t.hasNew ∧
    t.copy.name = t.name ∧ t.copy.attrs = t.attrs ∧ t.copy.rels = t.rels ∧
    (t.WF → t.copy.WF) :=
  ⟨rfl, rfl, rfl, rfl, rfl, rfl, fun h => h⟩

/-- `t.Equal(t.Copy())` holds exactly when `t` has no nil map. -/
theorem CM_equal_copy (t : TypeV) (ht : t.WF) :
    t.equal t.copy = (!t.attrsNil && !t.relsNil) ∧ t.copy.equal t = (!t.attrsNil && !t.relsNil) := by
  have key : t.equal t.copy = (!t.attrsNil && !t.relsNil) := by
    rw [Bool.eq_iff_iff, equal_iff t t.copy ht ht]
    show view t = (t.name, false, false, get? t.attrs, get? t.rels) ↔ _
    simp [view]
  exact ⟨key, (CM_equal_symm t.copy t ht ht).trans key⟩

/-- In particular a type with a nil map is not equal to its own copy, while the copy
is equal to its copy. -/
theorem CM_equal_copy_nil (t : TypeV) (ht : t.WF) :
    ((t.attrsNil = true ∨ t.relsNil = true) → t.equal t.copy = false) ∧
    t.copy.equal t.copy.copy = true := by
  refine ⟨?_, ?_⟩
  · intro h
    rw [(CM_equal_copy t ht).1]
    rcases h with h | h <;> simp [h]
  · rw [(CM_equal_copy t.copy ht).1]; rfl

theorem CM_copy_idem (t : TypeV) : t.copy.copy = t.copy := by
  simp [TypeV.copy, TypeV.eff, TypeV.attrs, TypeV.rels]

theorem CM_fields_copy (t : TypeV) : t.copy.fields = t.fields := by
  simp [TypeV.fields, TypeV.copy, TypeV.eff, TypeV.attrs, TypeV.rels]

/-- `Fields` is sorted and is a permutation of the attribute names followed by the
relationship names (one entry per map entry). -/
theorem CM_fields_sorted_perm (t : TypeV) :
    t.fields.Pairwise (· ≤ ·) ∧
    t.fields.Perm (t.attrs.vals.map (·.name) ++ t.rels.vals.map (·.fromName)) ∧
    t.fields.length = t.attrs.length + t.rels.length := by
  refine ⟨DetL.sortStrings_sorted _, DetL.sortStrings_perm _, ?_⟩
  have := (DetL.sortStrings_perm (t.attrs.vals.map (·.name) ++ t.rels.vals.map (·.fromName))).length_eq
  simp only [List.length_append, List.length_map, GoMap.vals] at this
  exact this

/-- `Fields` does not depend on the iteration order of the two maps. -/
theorem CM_fields_perm (t t' : TypeV) (hpa : t.attrs.Perm t'.attrs) (hpr : t.rels.Perm t'.rels) :
    t.fields = t'.fields := by
  apply DetL.sortStrings_eq_of_perm
  exact List.Perm.append ((hpa.map (·.2)).map (·.name)) ((hpr.map (·.2)).map (·.fromName))

/-! ### 4. error.go -/

/-- The table has the 28 constructors of error.go (`NewError` aside), under distinct names;
every one writes distinct keys into Source and into Meta. -/
theorem CM_err_table :
    ErrCtor.table.length = 28 ∧ (ErrCtor.table.map (·.name)).Nodup ∧
    ∀ c ∈ ErrCtor.table, (c.source.map (·.1)).Nodup ∧ (c.emeta.map (·.1)).Nodup :=
  ⟨rfl, by simp [ErrCtor.table], by decide +kernel⟩

/-- Every constructor's status is a 4xx/5xx code that `http.StatusText` knows; the Status
string is its three decimal digits, which `Error()`'s `Atoi` reads back. -/
theorem CM_err_status (c : ErrCtor) (hc : c ∈ ErrCtor.table) (q : GoString → GoString)
    (args : List GoString) :
    400 ≤ c.status ∧ c.status ≤ 599 ∧ httpStatusText c.status ≠ [] ∧
    (c.build q args).status = printNat c.status ∧ (c.build q args).status.length = 3 ∧
    (c.build q args).status ≠ [] ∧ goAtoi (c.build q args).status = c.status := by
  have h : ∀ c ∈ ErrCtor.table,
      400 ≤ c.status ∧ c.status ≤ 599 ∧ httpStatusText c.status ≠ [] := by decide +kernel
  obtain ⟨h1, h2, h3⟩ := h c hc
  have hl := printNat_length_three c.status (by omega) (by omega)
  refine ⟨h1, h2, h3, rfl, hl, ?_, goAtoi_printNat c.status (by omega)⟩
  show printNat c.status ≠ []
  exact List.ne_nil_of_length_pos (by omega)

/-- The title is never empty, except that `NewErrBadRequest` passes its caller's title on. -/
theorem CM_err_title (c : ErrCtor) (hc : c ∈ ErrCtor.table) (q : GoString → GoString)
    (args : List GoString) :
    (c.name = "NewErrBadRequest" ∧ (c.build q args).title = args.getD 0 [] ∧
      (c.build q args).detail = args.getD 1 []) ∨
    (c.name ≠ "NewErrBadRequest" ∧ (c.build q args).title ≠ []) := by
  rcases List.mem_cons.1 hc with rfl | (hc : c ∈ ErrCtor.table.tail)
  · exact .inl ⟨rfl, List.append_nil _, List.append_nil _⟩
  · obtain ⟨s, ps, ht, hs⟩ := title_lit c hc
    have hnd : "NewErrBadRequest" ∉ ErrCtor.table.tail.map (·.name) :=
      (List.nodup_cons.1 CM_err_table.2.1).1
    refine .inr ⟨fun h => hnd (List.mem_map.2 ⟨c, hc, h⟩), ?_⟩
    show ErrCtor.inst q args c.title ≠ []
    rw [ht]
    exact inst_lit_ne_nil q args ps (gs_ne_nil hs)

/-- `Error.MarshalJSON`: the object has exactly the members whose fields are non-empty. -/
theorem CM_error_json_members (e : ErrorObj) (k : GoString) :
    e.toJson.has k = true ↔
      (k = K.id ∧ e.id ≠ []) ∨ (k = K.code ∧ e.code ≠ []) ∨ (k = K.status ∧ e.status ≠ []) ∨
      (k = K.title ∧ e.title ≠ []) ∨ (k = K.detail ∧ e.detail ≠ []) ∨
      (k = K.links ∧ e.links ≠ []) ∨ (k = K.source ∧ e.source ≠ []) ∨
      (k = K.kmeta ∧ e.emeta ≠ []) := by
  unfold ErrorObj.toJson
  simp only [MarshalL.has_sortMembers, List.map_append, apply_ite (List.map _), List.map_cons,
    List.map_nil, List.mem_append, List.mem_ite_nil_left, List.mem_ite_nil_right,
    List.mem_singleton, List.isEmpty_iff, or_assoc, ne_eq, and_comm]

/-- The JSON of a constructor's result: `status` always, `title` whenever the title is
non-empty (always, but for `NewErrBadRequest("", …)`), `detail` / `source` / `meta` exactly
when non-empty, never `id`, `code` or `links`. -/
theorem CM_err_json (c : ErrCtor) (hc : c ∈ ErrCtor.table) (q : GoString → GoString)
    (args : List GoString) :
    let e := c.build q args
    e.toJson.has K.status = true ∧
    (e.toJson.has K.title = true ↔ e.title ≠ []) ∧
    (e.toJson.has K.detail = true ↔ e.detail ≠ []) ∧
    (e.toJson.has K.source = true ↔ e.source ≠ []) ∧
    (e.toJson.has K.kmeta = true ↔ e.emeta ≠ []) ∧
    e.toJson.has K.id = false ∧ e.toJson.has K.code = false ∧ e.toJson.has K.links = false ∧
    (∀ k, e.toJson.has k = true →
      k = K.status ∨ k = K.title ∨ k = K.detail ∨ k = K.source ∨ k = K.kmeta) := by
  intro e
  have hs : e.status ≠ [] := (CM_err_status c hc q args).2.2.2.2.2.1
  have hid : e.id = [] := rfl
  have hcode : e.code = [] := rfl
  have hlinks : e.links = [] := rfl
  -- the eight keys are distinct closed terms: `decide` tells them apart
  simp +decide only [← Bool.not_eq_true, CM_error_json_members, hid, hcode, hlinks, hs, ne_eq,
    and_false, false_or, or_false, false_and, true_and, not_false_eq_true, and_true]
  rintro k (h | ⟨h, _⟩ | ⟨h, _⟩ | ⟨h, _⟩ | ⟨h, _⟩) <;> simp [h]

/-- Source and Meta are non-empty (and so are members of the JSON, `CM_err_json`) exactly
for the constructors that write into them. -/
theorem CM_err_source_meta (c : ErrCtor) (q : GoString → GoString) (args : List GoString) :
    ((c.build q args).source = [] ↔ c.source = []) ∧
    ((c.build q args).emeta = [] ↔ c.emeta = []) := by
  have hs : ∀ l : List (GoString × Json), sortMembers l = [] ↔ l = [] := fun l => by
    unfold sortMembers
    rw [← List.length_eq_zero_iff, (List.mergeSort_perm l _).length_eq, List.length_eq_zero_iff]
  exact ⟨(hs _).trans (instMap_eq_nil q args c.source), (hs _).trans (instMap_eq_nil q args c.emeta)⟩

/-- `Error()`: the switch, for every status-text function. -/
theorem CM_error_string (st : Int → GoString) (e : ErrorObj) :
    (st (goAtoi e.status) ≠ [] → e.status ≠ [] → e.detail ≠ [] →
      e.errorString st = e.status ++ K.sp ++ st (goAtoi e.status) ++ K.colonSp ++ e.detail) ∧
    (st (goAtoi e.status) ≠ [] → e.status ≠ [] → e.detail = [] → e.title ≠ [] →
      e.errorString st = e.status ++ K.sp ++ st (goAtoi e.status) ++ K.colonSp ++ e.title) ∧
    (st (goAtoi e.status) ≠ [] → e.status ≠ [] → e.detail = [] → e.title = [] →
      e.errorString st = e.status ++ K.sp ++ st (goAtoi e.status)) ∧
    ((st (goAtoi e.status) = [] ∨ e.status = []) → e.detail ≠ [] → e.errorString st = e.detail) ∧
    ((st (goAtoi e.status) = [] ∨ e.status = []) → e.detail = [] → e.errorString st = e.title) := by
  unfold ErrorObj.errorString
  refine ⟨?_, ?_, ?_, ?_, ?_⟩
  · intro h1 h2 h3; simp [h1, h2, h3]
  · intro h1 h2 h3 h4; simp [h1, h2, h3, h4]
  · intro h1 h2 h3 h4; simp [h1, h2, h3, h4]
  · rintro (h | h) h3 <;> simp [h, h3]
  · rintro (h | h) h3 <;> simp [h, h3]

/-- `Error()` of a constructor's result, for every status-text function that knows the
code (the real one does, `CM_err_status`): `"<status> <text>: <detail>"`, the title
standing in for an empty detail, and `"<status> <text>"` when both are empty. -/
theorem CM_err_error_string (c : ErrCtor) (hc : c ∈ ErrCtor.table) (st : Int → GoString)
    (hst : st c.status ≠ []) (q : GoString → GoString) (args : List GoString) :
    let e := c.build q args
    (e.detail ≠ [] → e.errorString st =
      printNat c.status ++ K.sp ++ st c.status ++ K.colonSp ++ e.detail) ∧
    (e.detail = [] → e.title ≠ [] → e.errorString st =
      printNat c.status ++ K.sp ++ st c.status ++ K.colonSp ++ e.title) ∧
    (e.detail = [] → e.title = [] → e.errorString st = printNat c.status ++ K.sp ++ st c.status) := by
  intro e
  obtain ⟨_, _, _, h4, _, h6, h7⟩ := CM_err_status c hc q args
  have hst' : st (goAtoi e.status) ≠ [] := by rw [h7]; exact hst
  obtain ⟨a, b, d, _, _⟩ := CM_error_string st e
  rw [h7] at a b d
  exact ⟨fun h => a hst h6 h, fun h h' => b hst h6 h h', fun h h' => d hst h6 h h'⟩

/-! ### 5. meta.go getters -/

/-- `Has` is true exactly when the key is in the map. -/
theorem CM_meta_has (m : MetaMap) (k : GoString) : m.has k = true ↔ k ∈ GoMap.keys m :=
  GoMap.has_iff_mem_keys

/-- `GetInt` is 0 unless the value is an `int`, and then it is that int. -/
theorem CM_meta_getInt (m : MetaMap) (k : GoString) :
    (∀ i, m.index k = .int i → m.getInt k = i) ∧
    ((∀ i, m.index k ≠ .int i) → m.getInt k = 0) ∧
    (m.getInt k ≠ 0 → m.index k = .int (m.getInt k)) := by
  unfold MetaMap.getInt
  cases h : m.index k <;> simp

/-- `GetBool` is true only for the bool `true`. -/
theorem CM_meta_getBool (m : MetaMap) (k : GoString) :
    m.getBool k = true ↔ m.index k = .bool true := by
  unfold MetaMap.getBool
  cases h : m.index k <;> simp

/-- A missing key reads as the nil interface: `"<nil>"`, 0, false, the zero time. -/
theorem CM_meta_absent (m : MetaMap) (k : GoString) (h : m.has k = false)
    (parse : GoString → Option Time) :
    m.index k = .nil ∧ m.getString k = some MetaMap.sNil ∧ m.getInt k = 0 ∧
    m.getBool k = false ∧ m.getTime parse k = MetaMap.zeroTime := by
  have hi : m.index k = .nil := by
    unfold MetaMap.has GoMap.has at h
    unfold MetaMap.index
    cases hg : GoMap.get? m k with
    | none => rfl
    | some v => rw [hg] at h; cases h
  simp [MetaMap.getString, MetaMap.getInt, MetaMap.getBool, MetaMap.getTime, hi]

/-- `GetTime` is the zero time unless the value is a string that parses, and then it is
what `time.Parse` returned. -/
theorem CM_meta_getTime (m : MetaMap) (k : GoString) (parse : GoString → Option Time) :
    (∀ s t, m.index k = .str s → parse s = some t → m.getTime parse k = t) ∧
    (∀ s, m.index k = .str s → parse s = none → m.getTime parse k = MetaMap.zeroTime) ∧
    ((∀ s, m.index k ≠ .str s) → m.getTime parse k = MetaMap.zeroTime) := by
  unfold MetaMap.getTime
  refine ⟨fun s t h hp => by simp only [h, hp, Option.getD_some],
    fun s h hp => by simp only [h, hp, Option.getD_none], fun h => ?_⟩
  cases hi : m.index k <;> first | rfl | exact absurd hi (h _)

/-- `GetString` on the modelled kinds. -/
theorem CM_meta_getString (m : MetaMap) (k : GoString) :
    (∀ s, m.index k = .str s → m.getString k = some s) ∧
    (m.index k = .bool true → m.getString k = some sTrue) ∧
    (m.index k = .bool false → m.getString k = some sFalse) ∧
    (∀ i, m.index k = .int i → m.getString k = some (printInt i)) ∧
    (m.index k = .nil → m.getString k = some MetaMap.sNil) := by
  unfold MetaMap.getString
  exact ⟨fun s h => by rw [h], fun h => by rw [h]; rfl, fun h => by rw [h]; rfl,
    fun i h => by rw [h], fun h => by rw [h]⟩

section Axioms
#print axioms CM_resources_run
#print axioms CM_resources_refines
#print axioms CM_wrapCollection
#print axioms CM_wrapper_add_other_noop
#print axioms CM_wrapper_run
#print axioms CM_wrapper_at_no_panic
#print axioms CM_wrapper_at_negative_panics
#print axioms CM_wrapper_refines
#print axioms CM_identifiers_ids
#print axioms CM_identifiers_types
#print axioms CM_identifiers_nonnil
#print axioms CM_equal_iff
#print axioms CM_equal_refl
#print axioms CM_equal_symm
#print axioms CM_equal_trans
#print axioms CM_equal_perm
#print axioms CM_equal_ignores_newfunc
#print axioms CM_equal_nil_vs_empty
#print axioms CM_copy_shape
#print axioms CM_equal_copy
#print axioms CM_equal_copy_nil
#print axioms CM_copy_idem
#print axioms CM_fields_copy
#print axioms CM_fields_sorted_perm
#print axioms CM_fields_perm
#print axioms CM_err_table
#print axioms CM_err_status
#print axioms CM_err_title
#print axioms CM_error_json_members
#print axioms CM_err_json
#print axioms CM_err_source_meta
#print axioms CM_error_string
#print axioms CM_err_error_string
#print axioms CM_meta_has
#print axioms CM_meta_getInt
#print axioms CM_meta_getBool
#print axioms CM_meta_absent
#print axioms CM_meta_getTime
#print axioms CM_meta_getString
end Axioms

end Jsonapi
