/-
C18 — Copying a resource (soft or wrapped) or a type yields an object with the same type
name, fields, ID and field values as the source, and afterwards no operation on either one
(setting fields, adding or removing fields of its type, marshaling, filtering, or modifying
a slice obtained from it) changes anything read from the other. A resource's New likewise
returns a zero-valued resource of the same type that shares no mutable state with its source.

Property theorems only; the machinery is in `Jsonapi/Proofs/HeapLemmas.lean`
(namespace `Jsonapi.HeapL`). Model: `Jsonapi/Model/Heap.lean`.

The definitions used in the statements (`ValidVal`, `Valid`, `Sep`, `FreshModes`, `content`,
`contents`) are at the top of `HeapLemmas`.
-/
import Jsonapi.Proofs.HeapLemmas
namespace Jsonapi
open HeapL

/-! ### 1. The obligation on the extracted facts -/

/-- What `copyData` and `Wrapper.Copy` store for `[]byte`, `[]string`, `*[]byte` is a fresh
slice. This is the statement that breaks when the Go code stops doing so. -/
theorem C18_facts : FreshModes softStoreMode ∧ FreshModes wrappedStoreMode := by decide +kernel

/-! ### 2. The copy reads like the source -/

theorem C18_copy_same (mode : String → StoreMode) (hm : FreshModes mode) (h : Heap) (r : HRes)
    (hv : Valid h r) :
    let (h', c) := r.copy mode h
    c.id = r.id ∧
    h'.read c.typ = h.read r.typ ∧
    c.data.keys = r.data.keys ∧
    contents h' c = contents h r ∧
    r.observe h' = r.observe h ∧
    Valid h' c ∧ Valid h' r := by
  obtain ⟨e, hid, hty, hk, hc, hvc, _⟩ := copy_spec hm hv
  exact ⟨hid, hty, hk, hc, observe_ext e hv, hvc, hv.ext e⟩

/-- Under `Valid`, equal `contents` never hides a dangling address. -/
theorem C18_contents_no_dangling (h : Heap) (r : HRes) (hv : Valid h r) :
    ∀ p ∈ r.data, content h p.2 ≠ .dangling :=
  fun p hp => content_ne_dangling (hv.data p hp)

/-! ### 3. The copy reaches no cell of the source -/

theorem C18_sep (mode : String → StoreMode) (hm : FreshModes mode) (h : Heap) (r : HRes)
    (hv : Valid h r) :
    let (_, c) := r.copy mode h
    Sep c r ∧ Sep r c := by
  obtain ⟨_, _, _, _, _, _, hfresh⟩ := copy_spec hm hv
  have s := sep_of_fresh hv hfresh
  exact ⟨s, s.symm⟩

/-! ### 4. Independence under every operation history -/

theorem C18_independent (h : Heap) (a b : HRes) (ha : Valid h a) (hb : Valid h b)
    (hs : Sep a b) (ops : List HOp) :
    let (h', a') := a.applyAll h ops
    b.observe h' = b.observe h ∧ Valid h' a' ∧ Valid h' b ∧ Sep a' b ∧ Sep b a' := by
  obtain ⟨o, va, vb, s⟩ := applyAll_indep b ops h a ha hb hs
  exact ⟨o, va, vb, s, s.symm⟩

/-- After `Copy`: any history on the copy leaves the source's observation unchanged, and any
history on the source leaves the copy's observation unchanged. -/
theorem C18_copy_independent (mode : String → StoreMode) (hm : FreshModes mode) (h : Heap)
    (r : HRes) (hv : Valid h r) (ops : List HOp) :
    let (h', c) := r.copy mode h
    r.observe (c.applyAll h' ops).1 = r.observe h' ∧
    c.observe (r.applyAll h' ops).1 = c.observe h' := by
  obtain ⟨e, _, _, _, _, hvc, hfresh⟩ := copy_spec hm hv
  have s := sep_of_fresh hv hfresh
  have hvr := hv.ext e
  exact ⟨(applyAll_indep r ops _ _ hvc hvr s).1, (applyAll_indep _ ops _ _ hvr hvc s.symm).1⟩

/-- Interleaved histories: first `ops1` on the copy, then `ops2` on the source (as left by
the copy's history — unchanged), and the copy still reads what its own history made it. -/
theorem C18_copy_independent_interleaved (mode : String → StoreMode) (hm : FreshModes mode)
    (h : Heap) (r : HRes) (hv : Valid h r) (ops1 ops2 : List HOp) :
    let (h', c) := r.copy mode h
    let (h1, c1) := c.applyAll h' ops1
    let (h2, _) := r.applyAll h1 ops2
    r.observe h1 = r.observe h' ∧ c1.observe h2 = c1.observe h1 := by
  obtain ⟨e, _, _, _, _, hvc, hfresh⟩ := copy_spec hm hv
  have s := sep_of_fresh hv hfresh
  have hvr := hv.ext e
  obtain ⟨o1, vc1, vr1, s1⟩ := applyAll_indep r ops1 _ _ hvc hvr s
  exact ⟨o1, (applyAll_indep _ ops2 _ _ vr1 vc1 s1.symm).1⟩

/-! ### 5. New -/

theorem C18_new (h : Heap) (r : HRes) (hv : Valid h r) :
    let (h', n) := r.new h
    n.id = [] ∧ n.data = [] ∧ h'.read n.typ = h.read r.typ ∧
    Sep n r ∧ Sep r n ∧ Valid h' n ∧ Valid h' r ∧ r.observe h' = r.observe h := by
  obtain ⟨e, hid, hd, hty, hvn, hfresh⟩ := new_spec hv
  have s := sep_of_fresh hv hfresh
  exact ⟨hid, hd, hty, s, s.symm, hvn, hv.ext e, observe_ext e hv⟩

theorem C18_new_independent (h : Heap) (r : HRes) (hv : Valid h r) (ops : List HOp) :
    let (h', n) := r.new h
    r.observe (n.applyAll h' ops).1 = r.observe h' ∧
    n.observe (r.applyAll h' ops).1 = n.observe h' := by
  obtain ⟨e, _, _, _, hvn, hfresh⟩ := new_spec hv
  have s := sep_of_fresh hv hfresh
  have hvr := hv.ext e
  exact ⟨(applyAll_indep r ops _ _ hvn hvr s).1, (applyAll_indep _ ops _ _ hvr hvn s.symm).1⟩

/-! ### 6. The converse: a shared slice is detected -/

/-- If the copy stored the source's own `[]byte` slice, writing a byte through the copy
would change what is read from the source: the facts obligation `C18_facts` matters. -/
theorem C18_shared_is_detected (mode : String → StoreMode) (hm : mode "[]uint8" = .shared) :
    Valid exHeapShared exResShared ∧
    (let (h1, c) := exResShared.copy mode exHeapShared
     let (h2, _) := c.apply h1 (.writeBytes [98] 0 9)
     exResShared.observe h2 ≠ exResShared.observe h1) := by
  refine ⟨exResShared_valid, ?_⟩
  have hc : exResShared.copy mode exHeapShared =
      ({ cells := [.typ Typ.empty, .bytes [1, 2], .typ Typ.empty] },
       { typ := 2, id := [49], data := [([98], .bytes (some 1))] }) := by
    simp only [HRes.copy, copyData, copyHVal, hm]
    rfl
  rw [hc]
  decide +kernel

/-! ### Non-vacuity: a concrete copy, mutated, leaves the source's observation alone -/

example :
    exRes.observe exAfter.1 = exRes.observe exHeap ∧
    exAfter.2.observe exAfter.1 ≠ exCopy.2.observe exCopy.1 ∧
    exCopy.2.reach = [4, 5, 6, 7] ∧
    exAfter.1.read 5 = some (.bytes [9, 2]) ∧ exAfter.1.read 6 = some (.bytes [7]) ∧
    exAfter.1.read 7 = some (.strs [[97], [98]]) := by
  refine ⟨?_, ?_, ?_, ?_, ?_, ?_⟩ <;> decide

#print axioms C18_facts
#print axioms C18_copy_same
#print axioms C18_contents_no_dangling
#print axioms C18_sep
#print axioms C18_independent
#print axioms C18_copy_independent
#print axioms C18_copy_independent_interleaved
#print axioms C18_new
#print axioms C18_new_independent
#print axioms C18_shared_is_detected

end Jsonapi
