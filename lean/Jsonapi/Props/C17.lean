/-
C17 — Resources (soft and struct-wrapped) behave as the abstract resource: Get returns the
value most recently Set, else the field's zero value; both implementations are
indistinguishable through the Resource interface; Equal/EqualStrict are reflexive and
symmetric and sound (up to the known finding on attribute names).

Definitions used in the statements (in Proofs/SoftLemmas, ResourceLemmas, DeclLemmas, EqualLemmas):
* `Hist := List (GoString × GoVal)`, `SetHistOk t h := ∀ p ∈ h, Spec.setOk t p.1 p.2 = true`;
* `Typ.fieldKeys t := t.attrs.keys ++ t.rels.keys`;
* `Spec.structable t` (Bool): the type name is not "", "attr", "rel" or "rel,…", and no
  relationship's target type / inverse name contains a comma — what `Check`/`Wrap` need to
  accept the struct `declOfTyp t`;
* `runSets w h`: the Sets of `h` on a wrapper one after the other, `Res.bind`-chained, so
  that `.ok` means no Set panicked;
* `ResView.keyed r`: map keys are the stored names and are unique; `ResView.ok r := r.wf = true ∧ r.keyed`.
-/
import Jsonapi.Proofs.ResourceLemmas
import Jsonapi.Proofs.DeclLemmas
import Jsonapi.Proofs.EqualLemmas
namespace Jsonapi
open GoMap

/-! ### 1. SoftResource refines the abstract resource -/

theorem C17_soft_refines (t : Typ) (ht : TypWF t) (hn : Spec.namesOk t = true) (h : Hist)
    (hok : SetHistOk t h) :
    let s := h.foldl (fun s p => s.set p.1 p.2) ({ typ := t, id := [], data := [] } : Soft)
    (∀ f ∈ t.attrs.keys ++ t.rels.keys, Spec.canon (s.get f) = Spec.specGet t h f) ∧
    s.get idName = .val .string (.s (Spec.specId h)) ∧ s.typ = t := by
  intro s
  have inv : SoftInv t h s := by
    have := SoftInv.run ht hn h hok [] _ (SoftInv.init t)
    simpa using this
  refine ⟨?_, ?_, inv.typ⟩
  · intro f hf
    rw [Soft.get_field ht s inv.typ inv.keys hf (namesOk_mem hn hf).1]
    exact inv.vals f hf
  · rw [Soft.get_id, inv.id]

/-! ### 2. The wrapped struct refines the abstract resource

No sortedness assumption on `t.attrs` / `t.rels`: only membership in the sorted declaration is
used. `Spec.structable t` is what makes `Check` / `Wrap` accept the struct `declOfTyp t`. -/

theorem C17_wrapped_refines (t : Typ) (ht : TypWF t) (hn : Spec.namesOk t = true)
    (hs : Spec.structable t = true) (h : Hist) (hok : SetHistOk t h) :
    ∃ w0 w, wrap (declOfTyp t) (Wrapped.zeroVals (declOfTyp t)) = .ok w0 ∧
      runSets w0 h = .ok w ∧
      (∀ f ∈ t.attrs.keys ++ t.rels.keys, ∃ v, w.get f = .ok v ∧ Spec.canon v = Spec.specGet t h f) ∧
      w.get idName = .ok (.val .string (.s (Spec.specId h))) := by
  obtain ⟨w0, hw, hd, hv, hty, _⟩ := wrap_declOfTyp ht hn hs (Wrapped.zeroVals (declOfTyp t))
  obtain ⟨w, hr, inv⟩ := WInv.run ht hn h hok [] w0 (WInv.init ht hn w0 hd hv hty)
  rw [List.nil_append] at inv
  exact ⟨w0, w, hw, hr, fun f hf => inv.get_field ht hn hf, inv.get_id⟩

/-! ### 3. Indistinguishable through the Resource interface -/

theorem C17_indistinguishable (t : Typ) (ht : TypWF t) (hn : Spec.namesOk t = true)
    (hs : Spec.structable t = true) (h : Hist) (hok : SetHistOk t h) :
    let s := h.foldl (fun s p => s.set p.1 p.2) ({ typ := t, id := [], data := [] } : Soft)
    ∃ w0 w, wrap (declOfTyp t) (Wrapped.zeroVals (declOfTyp t)) = .ok w0 ∧
      runSets w0 h = .ok w ∧
      (∀ f ∈ t.attrs.keys ++ t.rels.keys, ∃ v, w.get f = .ok v ∧ Spec.canon (s.get f) = Spec.canon v) ∧
      w.get idName = .ok (s.get idName) ∧ w.typ = s.typ.name := by
  intro s
  obtain ⟨h1, h2, h3⟩ := C17_soft_refines t ht hn h hok
  obtain ⟨w0, hw, hd, hv, hty, _⟩ := wrap_declOfTyp ht hn hs (Wrapped.zeroVals (declOfTyp t))
  obtain ⟨w, hr, inv⟩ := WInv.run ht hn h hok [] w0 (WInv.init ht hn w0 hd hv hty)
  rw [List.nil_append] at inv
  refine ⟨w0, w, hw, hr, ?_, ?_, ?_⟩
  · intro f hf
    obtain ⟨v, e1, e2⟩ := inv.get_field ht hn hf
    exact ⟨v, e1, (h1 f hf).trans e2.symm⟩
  · show w.get idName = .ok (s.get idName)
    rw [h2]; exact inv.get_id
  · show w.typ = s.typ.name
    rw [h3]; exact inv.typ

/-! ### 4. Fresh resources -/

theorem C17_fresh (t : Typ) (ht : TypWF t) (hn : Spec.namesOk t = true) :
    -- the soft resource
    (let s : Soft := { typ := t, id := [], data := [] }
     s.view.typeName = t.name ∧ s.view.attrs = t.attrs ∧ s.view.rels = t.rels ∧ s.view.id = [] ∧
     (∀ f ∈ t.attrs.keys ++ t.rels.keys,
        Spec.canon (s.get f) = Spec.zeroOf t f ∧ Spec.canon (s.view.get f) = Spec.zeroOf t f)) ∧
    -- the wrapped struct
    (Spec.structable t = true →
      ∃ w0 v, wrap (declOfTyp t) (Wrapped.zeroVals (declOfTyp t)) = .ok w0 ∧ w0.view = some v ∧
        v.typeName = t.name ∧ v.id = [] ∧
        v.attrs.Perm t.attrs ∧
        v.rels.Perm (t.rels.map (fun p => (p.1, { p.2 with fromType := t.name, fromOne := false }))) ∧
        (∀ f ∈ t.attrs.keys ++ t.rels.keys, ∃ x, w0.get f = .ok x ∧ Spec.canon x = Spec.zeroOf t f ∧
          Spec.canon (v.get f) = Spec.zeroOf t f)) := by
  constructor
  · intro s
    have inv : SoftInv t [] s := SoftInv.init t
    refine ⟨rfl, rfl, rfl, rfl, ?_⟩
    intro f hf
    have hg : Spec.canon (s.get f) = Spec.zeroOf t f := by
      rw [Soft.get_field ht s inv.typ inv.keys hf (namesOk_mem hn hf).1]
      exact inv.vals f hf
    exact ⟨hg, by rw [Soft.view_get ht s rfl (by intro x hx; cases hx) hf (namesOk_mem hn hf).1]; exact hg⟩
  · intro hs
    obtain ⟨w0, hw, hd, hv, hty, hat, hre⟩ := wrap_declOfTyp ht hn hs (Wrapped.zeroVals (declOfTyp t))
    have inv : WInv t [] w0 := WInv.init ht hn w0 hd hv hty
    have hA := structAttrs_declOfTyp ht hs
    have hR := structRels_declOfTyp_eq ht hs
    rw [hR] at hre
    simp only [Res.ok.injEq] at hre
    have kA : w0.attrs.keys.Perm t.attrs.keys := by rw [hat, hA]; exact sortByKey_keys_perm _
    have kR : w0.rels.keys.Perm t.rels.keys := by
      rw [← hre]
      have : GoMap.keys (List.map (fun p : GoString × Rel => (p.1, normRel t.name p.2)) (Typ.sortByKey t.rels)) =
          GoMap.keys (Typ.sortByKey t.rels) := by simp [keys]
      rw [this]; exact sortByKey_keys_perm _
    obtain ⟨v, hview, e1, e2, e3, e4, e5⟩ := inv.view ht hn kA kR
    refine ⟨w0, v, hw, hview, by rw [e1, hty], by rw [e2]; rfl, ?_, ?_, ?_⟩
    · rw [e3, hat, hA]; exact sortByKey_perm _
    · rw [e4, ← hre]; exact (sortByKey_perm _).map _
    · intro f hf
      obtain ⟨x, hx, hc⟩ := inv.get_field ht hn hf
      exact ⟨x, hx, hc, by rw [e5 f hf x hx]; exact hc⟩

/-! ### 5. The equality helpers -/

theorem C17_equal_refl (a : ResView) (ha : a.ok) : equal a a = .ok true := equal_refl ha

/-- Symmetry needs no hypothesis at all (also for ill-typed views and for panics). -/
theorem C17_equal_symm (a b : ResView) : equal a b = equal b a := equal_symm a b

/-- Partial soundness (known finding: attribute names are not compared, see below).
Only `keyed` is needed, not `wf`. -/
theorem C17_equal_sound (a b : ResView) (ha : a.keyed) (hb : b.keyed) (h : equal a b = .ok true) :
    a.typeName = b.typeName ∧ a.attrs.length = b.attrs.length ∧
    (sortOn (fun r : Rel => r.fromName) a.rels.vals).map (·.fromName) =
      (sortOn (fun r : Rel => r.fromName) b.rels.vals).map (·.fromName) ∧
    (∀ (i : Nat) (x y : Attr),
      (sortOn (fun a : Attr => a.name) a.attrs.vals)[i]? = some x →
      (sortOn (fun a : Attr => a.name) b.attrs.vals)[i]? = some y →
      deepEqual (a.get x.name) (b.get y.name) = true ∨
        ((a.get x.name).isNilValue = true ∧ (b.get y.name).isNilValue = true) ∨
        ((a.get x.name).isEmptyBytes = true ∧ (b.get y.name).isEmptyBytes = true)) ∧
    (∀ n ∈ a.rels.keys, ∃ ra rb, a.rels.get? n = some ra ∧ b.rels.get? n = some rb ∧
      ra.toOne = rb.toOne ∧ a.get n = b.get n ∧
      (if ra.toOne then ∃ id, a.get n = .val .string (.s id) else ∃ l, a.get n = .strs l)) := by
  obtain ⟨h1, h2, h3, h4, h5⟩ := (equal_ok_iff a b).1 h
  refine ⟨h1, ?_, (map_eq_iff_zip _ _).2 ⟨h4, fun p hp => (relStep_ok_iff.1 (h5 p hp)).1⟩,
    fun i x y hx hy => (attrTest_false_iff a b (x, y)).1 (h3 _ (mem_zip_iff.2 ⟨i, hx, hy⟩)), ?_⟩
  · rw [sortOn_length, sortOn_length] at h2
    simpa [GoMap.vals] using h2
  · intro n hn
    obtain ⟨ra, hra⟩ := mem_keys_get? hn
    have hva := (mem_vals_iff_get? a.rels Rel.fromName ha.2.1 ha.2.2.2 ra).2
      (by rw [← ha.2.1 _ (mem_of_get? hra)]; exact hra)
    obtain ⟨rb, hz⟩ := exists_zip_of_mem h4 ((mem_sortOn _ _ _).2 hva)
    obtain ⟨s1, s2, s3, s4⟩ := relStep_ok_iff.1 (h5 _ hz)
    have hn' : ra.fromName = n := (ha.2.1 _ (mem_of_get? hra)).symm
    simp only [hn'] at s1 s3 s4
    have hvb := (mem_vals_iff_get? b.rels Rel.fromName hb.2.1 hb.2.2.2 rb).1
      ((mem_sortOn _ _ _).1 (List.of_mem_zip hz).2)
    rw [← s1] at hvb s3
    exact ⟨ra, rb, hra, hvb, s2, s3, s4⟩

/-- Full-strength soundness as the property text reads it: Equal never holds between
resources that differ in attribute names. -/
def C17_equal_statement : Prop :=
  ∀ a b : ResView, a.ok → b.ok → equal a b = .ok true →
    a.typeName = b.typeName ∧
    (sortOn (fun a : Attr => a.name) a.attrs.vals).map (·.name) =
      (sortOn (fun a : Attr => a.name) b.attrs.vals).map (·.name)

/-- Known, unrepaired defect of Go's `Equal` (pinned by the library's own test suite):
attributes are paired by sorted position and their names are never compared. Witness: two
resources of type "t" whose only attribute is "x" resp. "xq", both holding int 1. -/
def C17_cexA : ResView :=
  { typeName := [116], id := [], attrs := [([120], { name := [120], ty := 2, nullable := false })],
    rels := [], vals := [([120], .val .int (.i 1))] }
def C17_cexB : ResView :=
  { typeName := [116], id := [], attrs := [([120, 113], { name := [120, 113], ty := 2, nullable := false })],
    rels := [], vals := [([120, 113], .val .int (.i 1))] }

theorem C17_equal_names_counterexample : ¬ C17_equal_statement := by
  intro hst
  have h := hst C17_cexA C17_cexB (by decide +kernel) (by decide +kernel) (by decide +kernel)
  exact absurd h.2 (by decide +kernel)

theorem C17_equalStrict_id (a b : ResView) (h : equalStrict a b = .ok true) :
    a.id = b.id ∧ equal a b = .ok true := by
  unfold equalStrict at h
  split at h
  · cases h
  · rename_i hid
    exact ⟨by simpa using hid, h⟩

/-! ### Non-vacuity: a concrete type and history inside the theorems' domain -/

/-- Type "t" with a nullable int attribute "a", a bytes attribute "b", a to-one
relationship "o" and a to-many relationship "m" (both to type "u"). -/
def C17_exT : Typ :=
  { name := [116],
    attrs := [([98], { name := [98], ty := 14, nullable := false }),
              ([97], { name := [97], ty := 2, nullable := true })],
    rels := [([111], { fromType := [116], fromName := [111], toOne := true, toType := [117], toName := [], fromOne := false }),
             ([109], { fromType := [116], fromName := [109], toOne := false, toType := [117], toName := [], fromOne := false })] }

/-- Four Sets: a := &7, a := nil (untyped), o := "k", m := ["k"]. -/
def C17_exH : Hist :=
  [([97], .ptr .int (some (.i 7))), ([97], .nil), ([111], .val .string (.s [107])), ([109], .strs [[107]])]

example :
    ((∀ p ∈ C17_exT.attrs, p.1 = p.2.name ∧ p.2.name ≠ [] ∧ 1 ≤ p.2.ty ∧ p.2.ty ≤ 14) ∧
     (∀ p ∈ C17_exT.rels, p.1 = p.2.fromName ∧ p.2.fromName ≠ [] ∧ p.2.toType ≠ []) ∧
     C17_exT.attrs.keys.Nodup ∧ C17_exT.rels.keys.Nodup ∧
     (∀ k ∈ C17_exT.attrs.keys, k ∉ C17_exT.rels.keys)) ∧
    Spec.namesOk C17_exT = true ∧ Spec.structable C17_exT = true ∧
    (∀ p ∈ C17_exH, Spec.setOk C17_exT p.1 p.2 = true) ∧
    -- and the conclusions, computed: the nullable int reads nil after the untyped nil
    Spec.specGet C17_exT C17_exH [97] = .nil ∧
    Spec.canon ((C17_exH.foldl (fun s p => s.set p.1 p.2)
      ({ typ := C17_exT, id := [], data := [] } : Soft)).get [97]) = .nil ∧
    (C17_exH.foldl (fun s p => s.set p.1 p.2)
      ({ typ := C17_exT, id := [], data := [] } : Soft)).get [98] = .val .bytes (.bs (some [])) := by decide +kernel

/-- Core's `mergeSort` is by well-founded recursion and does not evaluate; a two-element map
in the wrong order is all the example needs. -/
theorem Typ.sortByKey_swap {β} {a b : GoString × β} (h : a.1 < b.1) : Typ.sortByKey [b, a] = [a, b] := by
  simp [Typ.sortByKey, List.mergeSort, h]

/-- The declared struct of the example type: ID, a, b, m, o. -/
theorem C17_exT_decl : declOfTyp C17_exT =
    [{ name := sID, ty := .attr .string false, json := idName, api := [116] },
     { name := [70], ty := .attr .int true, json := [97], api := sAttr },
     { name := [70], ty := .attr .bytes false, json := [98], api := sAttr },
     { name := [70], ty := .strs, json := [109], api := [114, 101, 108, 44, 117] },
     { name := [70], ty := .attr .string false, json := [111], api := [114, 101, 108, 44, 117] }] := by
  rw [declOfTyp_eq, C17_exT, Typ.sortByKey_swap (by decide), Typ.sortByKey_swap (by decide)]
  decide +kernel

/-- The wrapped struct on the example: Wrap succeeds, the four Sets succeed, and the
fields read a = nil (after the untyped nil), b = nil byte slice, o = "k", m = ["k"], id = "". -/
example :
    ((wrap (declOfTyp C17_exT) (Wrapped.zeroVals (declOfTyp C17_exT))).bind (fun w0 =>
      (runSets w0 C17_exH).bind (fun w => .ok [w.get [97], w.get [98], w.get [111], w.get [109], w.get idName]))) =
      .ok [.ok .nil, .ok (.val .bytes (.bs none)), .ok (.val .string (.s [107])), .ok (.strs [[107]]),
           .ok (.val .string (.s []))] := by
  rw [C17_exT_decl]; decide +kernel

theorem C17_exT_wf : TypWF C17_exT :=
  by decide +kernel

theorem C17_exH_ok : SetHistOk C17_exT C17_exH := by unfold SetHistOk; decide +kernel

example := C17_indistinguishable C17_exT C17_exT_wf (by decide +kernel) (by decide +kernel) C17_exH C17_exH_ok
example := C17_fresh C17_exT C17_exT_wf (by decide +kernel)

end Jsonapi

section Axioms
open Jsonapi
#print axioms C17_soft_refines
#print axioms C17_wrapped_refines
#print axioms C17_indistinguishable
#print axioms C17_fresh
#print axioms C17_equal_refl
#print axioms C17_equal_symm
#print axioms C17_equal_sound
#print axioms C17_equal_names_counterexample
#print axioms C17_equalStrict_id
#print axioms C17_exT_decl
#print axioms C17_exT_wf
#print axioms C17_exH_ok
end Axioms
