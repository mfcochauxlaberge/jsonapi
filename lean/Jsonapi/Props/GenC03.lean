/-
T1b for C03/C04: `buildSelfLink` and `buildRelationshipLinks` translated from link.go on this
run are the model's link builders for every resource, prefix and relationship name.
-/
import Jsonapi.Generated.Funcs
import Jsonapi.Model.Marshal
import Jsonapi.Proofs.ListLemmas
namespace Jsonapi

theorem Gen_buildSelfLink_eq (r : ResView) (prepath : GoString) :
    Gen.buildSelfLink r prepath = buildSelfLink r prepath := by
  unfold Gen.buildSelfLink buildSelfLink K.slash
  rw [isSuffixOf_singleton]
  by_cases h : prepath.getLast? = some 47
  · by_cases h2 : r.id ≠ [] ∧ r.typeName ≠ []
    · simp [h, h2.1, h2.2, List.append_assoc]
    · simp [h, h2]
  · by_cases h2 : r.id ≠ [] ∧ r.typeName ≠ []
    · simp [h, h2.1, h2.2, List.append_assoc]
    · simp [h, h2]

/-- link.go `buildRelationshipLinks`: the model's links object has exactly the members of the
Go map literal (a permutation of them: encoding/json writes a map in key order, `related`
before `self`). -/
theorem Gen_buildRelationshipLinks_eq (r : ResView) (prepath rel : GoString) :
    ∃ ms, buildRelationshipLinks r prepath rel = .obj ms ∧
      ms.Perm ((Gen.buildRelationshipLinks r prepath rel).map (fun p => (p.1, Json.str p.2))) ∧
      ms.map (·.1) = [K.related, K.self] := by
  refine ⟨_, rfl, ?_, rfl⟩
  unfold Gen.buildRelationshipLinks
  rw [Gen_buildSelfLink_eq]
  simp only [List.map_cons, List.map_nil, K.related, K.self, K.slash, K.slashRelationships, K.relationships,
    List.append_assoc]
  exact List.Perm.swap _ _ _

end Jsonapi

section Axioms
open Jsonapi
#print axioms Gen_buildSelfLink_eq
#print axioms Gen_buildRelationshipLinks_eq
end Axioms
