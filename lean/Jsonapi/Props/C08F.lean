/-
C08F — the JSON codec of the `filter` parameter, modelled and proved (C08 assumed it).

Props/C08.lean states what it needs of `json.Marshal` / `json.Unmarshal` on a filter label
and on a `Filter` as the structure `CodecLaws`, a hypothesis of `C08_reparse`. Here the two
decoders and the two encoders are the model of the real code (Model/FilterJson.lean:
`Filter.UnmarshalJSON` with encoding/json's struct and `any` decoding rules on the tree of
the text, `json.Marshal` of a `Filter`, the string codec of Model/JsonText.lean and
Spec/JsonParse.lean) and `CodecLaws` is a theorem about them (`C08F_real_codecs`), so
`C08_reparse` holds with no assumption on the codec (`C08F_reparse`).

What stays a parameter: `numCanon`, the text Go prints for the float64 a number literal
denotes (`NumCanonLaws`: printing is idempotent and prints a JSON number; `id` satisfies both,
and is what Go does on integer numerals within ±2^53, the domain on which the `filterjson`
suite compares the model with the real code).

Validity of UTF-8. The model's string codec copies every byte; Go replaces each byte that is
not part of a well-formed UTF-8 sequence by U+FFFD, when reading and when writing. Go's writer
is modelled too (`goLabelBody`, compared with `json.Marshal` on every generated label): it is
the model's writer on well-formed UTF-8 (`C08F_label_rt_valid`, `utf8Valid` decidable) and
loses the label otherwise (`C08F_label_rt_invalid_counterexample`), so `CodecLaws.label_rt`,
which quantifies over all byte strings, is a law of the copying model and not of the real
writer; `C08F_go_codecs` is the variant restricted to `utf8Valid` labels. This does not weaken
`C08F_reparse` for the real code: the label of a parsed URL is what `json.Unmarshal`
returned, which is always well-formed UTF-8, where the two writers agree. The reader
(`Spec.parseJson`) is the real one on well-formed UTF-8 without whitespace between tokens and
without surrogate escapes (the domain of the `filterjson` suite; `String()` writes neither).
-/
import Jsonapi.Props.C08
import Jsonapi.Proofs.FilterJsonLemmas
namespace Jsonapi
open FjL UrlL

/-- What is assumed of Go's float64 printing of a number literal. -/
structure NumCanonLaws (numCanon : GoString → GoString) : Prop where
  /-- printing the printed text again changes nothing -/
  idem : ∀ x, numCanon (numCanon x) = numCanon x
  /-- a JSON number is printed as a JSON number -/
  ok : ∀ x, Spec.numOk x = true → Spec.numOk (numCanon x) = true

theorem C08F_numCanon_id : NumCanonLaws id := ⟨fun _ => rfl, fun _ h => h⟩

/-! ### labels -/

/-- `json.Unmarshal("\"" + body + "\"", &label)` on the body `json.Marshal(l)` wrote gives
`l` back, for every byte string (no hypothesis is needed for the model, which copies bytes
that are not UTF-8; it is the real codec on `utf8Valid` labels, see the header). -/
theorem C08F_label_rt (l : GoString) : labelDec (labelBody l) = some l := by
  have h := JsonL.parseJson_render (.str l) (by simp only [Json.numsOk])
  simp only [Json.render, renderStr] at h
  unfold labelDec labelBody
  rw [h]

/-- The same for Go's encoder with its U+FFFD replacement (`goLabelBody`, compared with
`json.Marshal` on every generated label, well formed or not): on a label that is well-formed
UTF-8 (`utf8Valid`, decidable) it writes what the model's encoder writes, so the label is
recovered. -/
theorem C08F_label_rt_valid (l : GoString) (h : utf8Valid l = true) :
    goLabelBody l = labelBody l ∧ labelDec (goLabelBody l) = some l := by
  have e : goLabelBody l = labelBody l := goStrBody_valid l h
  exact ⟨e, by rw [e]; exact C08F_label_rt l⟩

/-- The hypothesis is needed: for the byte FF `json.Marshal` writes backslash-u-f-f-f-d, which
decodes to U+FFFD (EF BF BD), not to the label. So `CodecLaws.label_rt`, stated for all byte
strings, is not a law of the real encoder; it is one on `utf8Valid` labels (`C08F_go_codecs`). -/
theorem C08F_label_rt_invalid_counterexample :
    utf8Valid [0xFF] = false ∧ goLabelBody [0xFF] = [92, 117, 102, 102, 102, 100] ∧
    labelDec (goLabelBody [0xFF]) = some [0xEF, 0xBF, 0xBD] := by decide

theorem C08F_label_ne (l : GoString) (hl : l ≠ []) : labelBody l ≠ [] := by
  intro hb
  have h := C08F_label_rt l
  rw [hb] at h
  have h0 : labelDec [] = some [] := by decide
  rw [h0] at h
  exact hl (Option.some.inj h).symm

/-! ### filters -/

/-- an accepted text parses to a tree on which `Filter.UnmarshalJSON` succeeds, and the canonical
text is `json.Marshal` of the result -/
theorem c08f_filterDec_some {nc : GoString → GoString} {x f : GoString}
    (h : filterDec nc x = some f) :
    ∃ j t, Spec.parseJson x = some j ∧ filterOfJson nc j = .ok t ∧ f = renderFilter t := by
  unfold filterDec at h
  cases hp : Spec.parseJson x with
  | none => rw [hp] at h; cases h
  | some j =>
    simp only [hp] at h
    cases hf : filterOfJson nc j <;> rw [hf] at h <;> cases h
    exact ⟨j, _, rfl, hf, rfl⟩

/-- What `Filter.UnmarshalJSON` returns on the tree of any accepted text is well formed: a
filter list exactly under `and` / `or` (with the field cleared), a normalised value
elsewhere. -/
theorem C08F_filter_wf (nc : GoString → GoString) (hnc : NumCanonLaws nc) (x : GoString)
    (j : Json) (t : FilterVal) (hp : Spec.parseJson x = some j) (hf : filterOfJson nc j = .ok t) :
    WF nc t :=
  filterOfJson_wf nc hnc.idem hnc.ok j (parseJson_numsOk x j hp) t hf

/-- The canonical text comes from a tree: the text read by the strict JSON reader,
`Filter.UnmarshalJSON` on it, and `json.Marshal`; and that filter is recovered — the tree, not
only the text — from the canonical text: it parses to the JSON of the filter, on which
`Filter.UnmarshalJSON` returns the filter. -/
theorem C08F_filter_tree (nc : GoString → GoString) (hnc : NumCanonLaws nc) (x f : GoString)
    (h : filterDec nc x = some f) :
    ∃ j t, Spec.parseJson x = some j ∧ filterOfJson nc j = .ok t ∧ f = renderFilter t ∧
      Spec.parseJson f = some (filterToJson t) ∧ filterOfJson nc (filterToJson t) = .ok t := by
  obtain ⟨j, t, hp, hf, rfl⟩ := c08f_filterDec_some h
  have hwf := C08F_filter_wf nc hnc x j t hp hf
  exact ⟨j, t, hp, hf, rfl, JsonL.parseJson_render _ (filterToJson_numsOk nc t hwf),
    filterOfJson_filterToJson nc t hwf⟩

/-- The canonical text is a fixed point: decoding it and marshaling the result gives the same
text. This is `CodecLaws.filter_rt` with `Canon f := ∃ x, filterDec nc x = some f`. -/
theorem C08F_filter_idem (nc : GoString → GoString) (hnc : NumCanonLaws nc) (x f : GoString)
    (h : filterDec nc x = some f) : filterDec nc f = some f := by
  obtain ⟨j, t, _, _, hf, hparse, hback⟩ := C08F_filter_tree nc hnc x f h
  unfold filterDec
  rw [hparse]
  simp only [hback, hf]

/-- the canonical text is an object: it starts with `{` (what `NewSimpleURL` tests) -/
theorem C08F_canon_head (nc : GoString → GoString) (x f : GoString)
    (h : filterDec nc x = some f) : f.head? = some 123 := by
  obtain ⟨_, ⟨field, op, col, val⟩, _, _, rfl⟩ := c08f_filterDec_some h
  simp only [renderFilter, filterToJson_eq, Json.render, List.head?_cons]

/-! ### `CodecLaws` of the modelled codecs -/

/-- All four laws C08 assumes, for the model of the real codecs. No side condition beyond
the two laws of the number printer: `label_rt` and `label_ne` hold for every byte string
because the model copies bytes that are not UTF-8 (header: the real codec has `label_rt` on
`utf8Valid` labels, which is all a parsed URL can hold). -/
theorem C08F_real_codecs (nc : GoString → GoString) (hnc : NumCanonLaws nc) :
    CodecLaws labelDec (filterDec nc) labelBody (fun f => ∃ x, filterDec nc x = some f) where
  label_rt := C08F_label_rt
  label_ne := C08F_label_ne
  filter_rt := fun f ⟨x, hx⟩ => C08F_filter_idem nc hnc x f hx
  canon_head := fun f ⟨x, hx⟩ => C08F_canon_head nc x f hx

/-- `CodecLaws` with the two label laws restricted to labels satisfying `P`. -/
structure CodecLawsOn (P : GoString → Prop) (labelDec filterDec : GoString → Option GoString)
    (labelBody : GoString → GoString) (Canon : GoString → Prop) : Prop where
  label_rt : ∀ l, P l → labelDec (labelBody l) = some l
  label_ne : ∀ l, P l → l ≠ [] → labelBody l ≠ []
  filter_rt : ∀ f, Canon f → filterDec f = some f
  canon_head : ∀ f, Canon f → f.head? = some 123

/-- The laws with Go's encoder (U+FFFD replacement included) hold on well-formed UTF-8 labels,
and `CodecLaws` itself — all byte strings — does not hold of it. `C08_reparse` is stated with
`CodecLaws`, so it is instantiated with the model's encoder (`C08F_reparse`), which is Go's on
every label a parsed URL can hold (`json.Unmarshal` only returns well-formed UTF-8). -/
theorem C08F_go_codecs (nc : GoString → GoString) (hnc : NumCanonLaws nc) :
    CodecLawsOn (fun l => utf8Valid l = true) labelDec (filterDec nc) goLabelBody
      (fun f => ∃ x, filterDec nc x = some f) ∧
    ¬ CodecLaws labelDec (filterDec nc) goLabelBody (fun f => ∃ x, filterDec nc x = some f) := by
  refine ⟨⟨fun l h => (C08F_label_rt_valid l h).2, fun l h hl => ?_,
    fun f ⟨x, hx⟩ => C08F_filter_idem nc hnc x f hx,
    fun f ⟨x, hx⟩ => C08F_canon_head nc x f hx⟩, fun laws => ?_⟩
  · rw [(C08F_label_rt_valid l h).1]; exact C08F_label_ne l hl
  · have h1 := laws.label_rt [0xFF]
    rw [C08F_label_rt_invalid_counterexample.2.2] at h1
    exact absurd h1 (by decide)

/-- with `numCanon := id` (integer numerals within ±2^53): no hypothesis left -/
theorem C08F_real_codecs_id :
    CodecLaws labelDec (filterDec id) labelBody (fun f => ∃ x, filterDec id x = some f) :=
  C08F_real_codecs id C08F_numCanon_id

/-- `C08_reparse` with the modelled codecs in place of the assumed ones: for a URL returned by
`NewURLFromRaw` whose filter (if any) is the canonical text of some accepted text, `String()`
parses back — with the filter parameter decoded by the modelled `json.Unmarshal` — to the
same URL. -/
theorem C08F_reparse (nc : GoString → GoString) (hnc : NumCanonLaws nc)
    (σ : Schema) (path : GoString) (values : GoMap (List GoString)) (fd : FilterDec) (u : URL)
    (hσ : Inv σ) (hn : NamesOK σ) (h : newURLFrom σ (some (path, values, fd)) = .ok u)
    (hv : values.keys.Nodup) (hne : NoEmptySelection u)
    (hcanon : ∀ f, u.params.filter = some f → ∃ x, filterDec nc x = some f)
    (hbrace : u.params.filterLabel ≠ [] → (labelBody u.params.filterLabel).head? ≠ some 123) :
    ∃ u',
      Spec.parseRaw (u.string (c08_env labelBody u)) =
        some (Spec.emittedPath u, Spec.emittedValues u (c08_env labelBody u)) ∧
      newURLFrom σ (some (Spec.emittedPath u, Spec.emittedValues u (c08_env labelBody u),
        c08_reparseFd labelDec (filterDec nc) (Spec.emittedValues u (c08_env labelBody u)))) = .ok u' ∧
      u'.fragments = u.fragments ∧ u'.resType = u.resType ∧ u'.resID = u.resID ∧
      u'.rel = u.rel ∧ u'.isCol = u.isCol ∧
      (∀ t, (u'.params.fields.get? t).map Typ.sortStrings =
            (u.params.fields.get? t).map Typ.sortStrings) ∧
      u'.params.sortingRules = u.params.sortingRules ∧
      (u.isCol = true → ∀ k, u'.params.page.get? k = u.params.page.get? k) ∧
      u'.params.filterLabel = u.params.filterLabel ∧ u'.params.filter = u.params.filter ∧
      u'.string (c08_env labelBody u') = u.string (c08_env labelBody u) :=
  C08_reparse σ path values fd u labelDec (filterDec nc) labelBody
    (fun f => ∃ x, filterDec nc x = some f) hσ hn (C08F_real_codecs nc hnc) h hv hne hcanon hbrace

/-! ### the filter of a parsed URL is canonical -/

theorem c08f_simpleStep_filter {fd : FilterDec} {su su' : SimpleURL} {name : GoString}
    {vs : List GoString} (h : simpleStep fd su name vs = .ok su')
    (hsu : su.filter = none ∨ su.filter = fd.filter) :
    su'.filter = none ∨ su'.filter = fd.filter := by
  rw [simpleStep_eq] at h
  cases hc : classify name <;> simp only [hc] at h
  · cases h; exact hsu
  · cases h; split <;> exact hsu
  · rcases (filterStep_ok h).2.2.2.2.2.2 with h1 | h1
    · rw [h1.2.2]; exact hsu
    · exact .inr h1.2.1.symm
  · cases h; exact hsu
  · cases h; exact hsu
  · cases h

/-- `NewSimpleURL` only stores a filter that the decoder of the `filter` parameter returned -/
theorem c08f_newSimpleURL_filter {path : GoString} {values : GoMap (List GoString)}
    {fd : FilterDec} {su : SimpleURL} (h : newSimpleURL path values fd = .ok su) :
    su.filter = none ∨ su.filter = fd.filter := by
  rw [newSimpleURL_eq] at h
  exact rfold_inv _ (fun su => su.filter = none ∨ su.filter = fd.filter)
    (fun a b a' ha hs => c08f_simpleStep_filter hs ha) _ _ _ (.inl rfl) h

/-- The filter of a URL that `NewURLFromRaw` returned is what the decoder returned. -/
theorem C08F_parsed_filter (σ : Schema) (path : GoString) (values : GoMap (List GoString))
    (fd : FilterDec) (u : URL) (h : newURLFrom σ (some (path, values, fd)) = .ok u)
    (f : GoString) (hf : u.params.filter = some f) : fd.filter = some f := by
  obtain ⟨path', values', fd', su, hpar, hsu, hu⟩ := newURLFrom_ok σ _ u h
  cases hpar
  obtain ⟨u0, p, _, hp, hue⟩ := newURL_ok' hu
  have e : u.params.filter = su.filter := by
    obtain ⟨fm, _, _, _, hfil, _⟩ := newParams_ok hp
    rw [hue]
    exact hfil
  rw [e] at hf
  rcases c08f_newSimpleURL_filter hsu with h1 | h1
  · rw [h1] at hf; cases hf
  · rw [← h1]; exact hf

/-- `C08_reparse` for a URL parsed with the modelled decoders on its own `filter` parameter
(`c08_reparseFd labelDec (filterDec nc) values`: what simple_url.go computes from the values
map): nothing is assumed of the codec, and nothing of the filter. What remains besides the
hypotheses of C08 on the schema and the values map is `hbrace` (a label whose JSON body
starts with `{`; without the rewrite `String()` does on it, it would be re-read as a filter
object: `C08_label_brace_counterexample`). `C08G_reparse_real` (Props/C08G.lean) is this
theorem without `hbrace`. -/
theorem C08F_reparse_real (nc : GoString → GoString) (hnc : NumCanonLaws nc)
    (σ : Schema) (path : GoString) (values : GoMap (List GoString)) (u : URL)
    (hσ : Inv σ) (hn : NamesOK σ)
    (h : newURLFrom σ (some (path, values, c08_reparseFd labelDec (filterDec nc) values)) = .ok u)
    (hv : values.keys.Nodup) (hne : NoEmptySelection u)
    (hbrace : u.params.filterLabel ≠ [] → (labelBody u.params.filterLabel).head? ≠ some 123) :
    ∃ u',
      Spec.parseRaw (u.string (c08_env labelBody u)) =
        some (Spec.emittedPath u, Spec.emittedValues u (c08_env labelBody u)) ∧
      newURLFrom σ (some (Spec.emittedPath u, Spec.emittedValues u (c08_env labelBody u),
        c08_reparseFd labelDec (filterDec nc) (Spec.emittedValues u (c08_env labelBody u)))) = .ok u' ∧
      u'.fragments = u.fragments ∧ u'.resType = u.resType ∧ u'.resID = u.resID ∧
      u'.rel = u.rel ∧ u'.isCol = u.isCol ∧
      (∀ t, (u'.params.fields.get? t).map Typ.sortStrings =
            (u.params.fields.get? t).map Typ.sortStrings) ∧
      u'.params.sortingRules = u.params.sortingRules ∧
      (u.isCol = true → ∀ k, u'.params.page.get? k = u.params.page.get? k) ∧
      u'.params.filterLabel = u.params.filterLabel ∧ u'.params.filter = u.params.filter ∧
      u'.string (c08_env labelBody u') = u.string (c08_env labelBody u) :=
  C08F_reparse nc hnc σ path values _ u hσ hn h hv hne
    (fun f hf => ⟨_, C08F_parsed_filter σ path values _ u h f hf⟩) hbrace

/-! ### non-vacuity -/

/-- `{"O":"or","f":"dropped","v":[null,{"f":"a<","o":"=","v":{"b":1,"a":[true,null,"x"],"b":-2},"c":"n"},{"o":"and","v":null}],"zz":0}`:
upper-case key, a field cleared by `or`, a nil element, a map with a repeated key and
unsorted keys, `<` in a string, a nil filter list, an unknown member. -/
def c08f_text : GoString :=
  [123, 34, 79, 34, 58, 34, 111, 114, 34, 44, 34, 102, 34, 58, 34, 100, 114, 111, 112, 112, 101,
   100, 34, 44, 34, 118, 34, 58, 91, 110, 117, 108, 108, 44, 123, 34, 102, 34, 58, 34, 97, 60, 34,
   44, 34, 111, 34, 58, 34, 61, 34, 44, 34, 118, 34, 58, 123, 34, 98, 34, 58, 49, 44, 34, 97, 34,
   58, 91, 116, 114, 117, 101, 44, 110, 117, 108, 108, 44, 34, 120, 34, 93, 44, 34, 98, 34, 58,
   45, 50, 125, 44, 34, 99, 34, 58, 34, 110, 34, 125, 44, 123, 34, 111, 34, 58, 34, 97, 110, 100,
   34, 44, 34, 118, 34, 58, 110, 117, 108, 108, 125, 93, 44, 34, 122, 122, 34, 58, 48, 125]

/-- `{"f":"","o":"or","v":[null,{"f":"a<","o":"=","v":{"a":[true,null,"x"],"b":-2},"c":"n"},{"f":"","o":"and","v":null,"c":""}],"c":""}` -/
def c08f_canon : GoString :=
  [123, 34, 102, 34, 58, 34, 34, 44, 34, 111, 34, 58, 34, 111, 114, 34, 44, 34, 118, 34, 58, 91,
   110, 117, 108, 108, 44, 123, 34, 102, 34, 58, 34, 97, 92, 117, 48, 48, 51, 99, 34, 44, 34, 111,
   34, 58, 34, 61, 34, 44, 34, 118, 34, 58, 123, 34, 97, 34, 58, 91, 116, 114, 117, 101, 44, 110,
   117, 108, 108, 44, 34, 120, 34, 93, 44, 34, 98, 34, 58, 45, 50, 125, 44, 34, 99, 34, 58, 34,
   110, 34, 125, 44, 123, 34, 102, 34, 58, 34, 34, 44, 34, 111, 34, 58, 34, 97, 110, 100, 34, 44,
   34, 118, 34, 58, 110, 117, 108, 108, 44, 34, 99, 34, 58, 34, 34, 125, 93, 44, 34, 99, 34, 58,
   34, 34, 125]

set_option maxRecDepth 100000 in
example : filterDec id c08f_text = some c08f_canon := by decide +kernel

set_option maxRecDepth 100000 in
/-- the fixed point, evaluated -/
example : filterDec id c08f_canon = some c08f_canon := by decide +kernel

set_option maxRecDepth 100000 in
/-- the fixed point, from the theorem -/
example : filterDec id c08f_canon = some c08f_canon :=
  C08F_filter_idem id C08F_numCanon_id c08f_text c08f_canon (by decide +kernel)

set_option maxRecDepth 100000 in
example : (Spec.parseJson c08f_text).map (fun j => (filterOfJson id j).isOk) = some true := by
  decide +kernel

/-- `{"o":"and"}`: no `v` under `and` is rejected; `null` is accepted as the zero filter; an
array is not -/
example : filterDec id [123, 34, 111, 34, 58, 34, 97, 110, 100, 34, 125] = none := by decide +kernel
example : (filterDec id [110, 117, 108, 108]).isSome = true := by decide +kernel
example : filterDec id [91, 93] = none := by decide +kernel

/-- the label `a"bé` has the body `a\"bé`, and the escaped spelling `a\"bé` decodes to it -/
example : labelBody [97, 34, 98, 195, 169] = [97, 92, 34, 98, 195, 169] := by decide +kernel
example : labelDec [97, 92, 34, 98, 92, 117, 48, 48, 101, 57] = some [97, 34, 98, 195, 169] := by
  decide +kernel
example : labelDec [97, 34, 98] = none := by decide +kernel

/-- a number printer that is not the identity: every literal becomes `7` -/
example : NumCanonLaws (fun _ => [55]) := ⟨fun _ => rfl, fun _ _ => by decide⟩

end Jsonapi

section Axioms
open Jsonapi
#print axioms C08F_numCanon_id
#print axioms C08F_label_rt
#print axioms C08F_label_rt_valid
#print axioms C08F_label_rt_invalid_counterexample
#print axioms C08F_go_codecs
#print axioms C08F_label_ne
#print axioms C08F_filter_tree
#print axioms C08F_filter_idem
#print axioms C08F_canon_head
#print axioms C08F_filter_wf
#print axioms C08F_real_codecs
#print axioms C08F_real_codecs_id
#print axioms C08F_reparse
#print axioms C08F_parsed_filter
#print axioms C08F_reparse_real
end Axioms
