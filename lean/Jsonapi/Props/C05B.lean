/-
C05B — C05 from the payload BYTES.

`Props/C05.lean` quantifies over every skeleton `encoding/json` can hand to the library. Here
the decoding of the bytes is inside the model: `Spec.parseJsonC` reads the full JSON grammar
(white space, every escape, surrogate pairs, U+FFFD for unpaired surrogates and bytes that are
not UTF-8, Go's number grammar, the nesting limit of 10000), `Model/Decode.lean` decodes the
tree into the library's skeleton structs by `encoding/json`'s struct rules, and the byte-level
entry points `unmarshalResourceBytes`, … are the composition with the existing model. The
theorems quantify over EVERY byte string.

Still parameters (`Delegated`, universally quantified in every theorem): what
`json.Unmarshal(raw, &time.Time{})` returns for the raw text of a value, and the text Go prints
for the float64 of a number literal inside `meta`. Everything else about the decoding is
modelled (string decoding, base64, field matching, merging of repeated members).
-/
import Jsonapi.Props.C05
import Jsonapi.Props.C13
import Jsonapi.Model.Decode
import Jsonapi.Proofs.DecodeLemmas
import Jsonapi.Proofs.RoundTripBytesLemmas
namespace Jsonapi
open GoMap UnmL Spec

theorem unmarshalResourceBytes_ok {D : Delegated} {σ : SSchema} {bytes : GoString} {r : AnyRes} :
    unmarshalResourceBytes D σ bytes = .ok r →
      ∃ j sk, parseJsonC bytes = some j ∧ decodeRes D j = some sk ∧
        unmarshalResource σ sk = .ok r := by
  fun_cases unmarshalResourceBytes D σ bytes
  case case3 j hj sk hsk => exact fun h => ⟨j, sk, hj, hsk, h⟩
  all_goals nofun

theorem unmarshalPartialResourceBytes_ok {D : Delegated} {σ : SSchema} {bytes : GoString}
    {s : Soft} : unmarshalPartialResourceBytes D σ bytes = .ok s →
      ∃ j sk, parseJsonC bytes = some j ∧ decodeRes D j = some sk ∧
        unmarshalPartialResource σ sk = .ok s := by
  fun_cases unmarshalPartialResourceBytes D σ bytes
  case case3 j hj sk hsk => exact fun h => ⟨j, sk, hj, hsk, h⟩
  all_goals nofun

/-! ### 1. No entry point panics, whatever the bytes -/

theorem C05B_total (D : Delegated) (σ : SSchema) (hσ : σ.WF) (bytes : GoString) :
    unmarshalResourceBytes D σ bytes ≠ .panic ∧
    unmarshalPartialResourceBytes D σ bytes ≠ .panic ∧
    unmarshalCollectionBytes D σ bytes ≠ .panic ∧
    unmarshalDocumentBytes D σ bytes ≠ .panic ∧
    unmarshalIdentifierBytes (some σ) bytes ≠ .panic ∧
    unmarshalIdentifiersBytes (some σ) bytes ≠ .panic := by
  obtain ⟨h1, h2, h3, h4, h5, h6⟩ := C05_total σ hσ
  refine ⟨?_, ?_, ?_, ?_, ?_, ?_⟩
  · fun_cases unmarshalResourceBytes D σ bytes
    case case3 => exact h1 _
    all_goals nofun
  · fun_cases unmarshalPartialResourceBytes D σ bytes
    case case3 => exact h2 _
    all_goals nofun
  · fun_cases unmarshalCollectionBytes D σ bytes
    case case3 => exact h3 _
    all_goals nofun
  · fun_cases unmarshalDocumentBytes D σ bytes
    case case2 => exact h4 _
    all_goals nofun
  · fun_cases unmarshalIdentifierBytes (some σ) bytes
    case case2 => exact h5 _
    all_goals nofun
  · fun_cases unmarshalIdentifiersBytes (some σ) bytes
    case case2 => exact h6 _
    all_goals nofun

/-- Bytes that are not one JSON value (`json.Valid` false: bad grammar, a control byte in a
string, a bad escape, nesting deeper than 10000, anything after the value) are rejected by
every entry point with an error. -/
theorem C05B_invalid_json (D : Delegated) (σ : SSchema) (bytes : GoString)
    (h : parseJsonFull bytes = none) :
    unmarshalResourceBytes D σ bytes = .err ∧
    unmarshalPartialResourceBytes D σ bytes = .err ∧
    unmarshalCollectionBytes D σ bytes = .err ∧
    unmarshalDocumentBytes D σ bytes = .err ∧
    unmarshalIdentifierBytes (some σ) bytes = .err ∧
    unmarshalIdentifiersBytes (some σ) bytes = .err := by
  have hc : parseJsonC bytes = none := by
    unfold parseJsonFull at h
    cases hp : parseJsonC bytes with
    | none => rfl
    | some j => rw [hp] at h; cases h
  simp only [unmarshalResourceBytes, unmarshalPartialResourceBytes, unmarshalCollectionBytes,
    unmarshalDocumentBytes, unmarshalIdentifierBytes, unmarshalIdentifiersBytes, hc, and_self]

/-! ### 2. Accepted results conform to the schema -/

/-- Resource, collection, document (primary data and included), identifier, identifiers. -/
theorem C05B_conforms (D : Delegated) (σ : SSchema) (hσ : σ.WF) (bytes : GoString) :
    (∀ r, unmarshalResourceBytes D σ bytes = .ok r → Conforms σ r) ∧
    (∀ rs, unmarshalCollectionBytes D σ bytes = .ok rs → ∀ r ∈ rs, Conforms σ r) ∧
    (∀ d, unmarshalDocumentBytes D σ bytes = .ok d →
      (∀ r, d.data = .res r → Conforms σ r) ∧
      (∀ rs, d.data = .col rs → ∀ r ∈ rs, Conforms σ r) ∧
      (∀ r ∈ d.included, Conforms σ r)) ∧
    (∀ i, unmarshalIdentifierBytes (some σ) bytes = .ok i →
      i.1 ≠ [] ∧ i.2 ≠ [] ∧ σ.toSchema.hasType i.2 = true) ∧
    (∀ is, unmarshalIdentifiersBytes (some σ) bytes = .ok is →
      ∀ i ∈ is, i.1 ≠ [] ∧ i.2 ≠ [] ∧ σ.toSchema.hasType i.2 = true) := by
  refine ⟨fun r h => ?_, fun rs => ?_, fun d => ?_, fun i => ?_, fun is => ?_⟩
  · obtain ⟨_, sk, _, _, h⟩ := unmarshalResourceBytes_ok h
    exact C05_conforms σ hσ sk r h
  · fun_cases unmarshalCollectionBytes D σ bytes
    case case3 => exact fun h => (C05_collection σ hσ _ rs h).2
    all_goals nofun
  · fun_cases unmarshalDocumentBytes D σ bytes
    case case2 => exact C05_document σ hσ _ d
    all_goals nofun
  · fun_cases unmarshalIdentifierBytes (some σ) bytes
    case case2 => exact fun h => ((C05_identifiers σ).1 _ i h).2
    all_goals nofun
  · fun_cases unmarshalIdentifiersBytes (some σ) bytes
    case case2 j _ =>
      cases hd : decodeRaws j with
      | none => simp [unmarshalIdentifiers]
      | some l => exact fun h => ((C05_identifiers σ).2 _ is h).2
    all_goals nofun

/-- The type of an accepted resource is the one the payload names, and it is in the schema. -/
theorem C05B_type (D : Delegated) (σ : SSchema) (hσ : σ.WF) (bytes : GoString) (r : AnyRes)
    (h : unmarshalResourceBytes D σ bytes = .ok r) :
    ∃ j sk, parseJsonC bytes = some j ∧ decodeRes D j = some sk ∧
      σ.toSchema.hasType sk.typ = true ∧ ∃ v, r.view? = some v ∧ v.typeName = sk.typ := by
  obtain ⟨j, sk, hj, hsk, h⟩ := unmarshalResourceBytes_ok h
  exact ⟨j, sk, hj, hsk, C05_type σ hσ sk r h⟩

/-! ### 3. Partial unmarshaling accepts exactly the byte strings full unmarshaling accepts -/

theorem C05B_partial_iff (D : Delegated) (σ : SSchema) (hσ : σ.WF) (bytes : GoString) :
    ((∃ s, unmarshalPartialResourceBytes D σ bytes = .ok s) ↔
      (∃ r, unmarshalResourceBytes D σ bytes = .ok r)) ∧
    (unmarshalPartialResourceBytes D σ bytes = .err ↔ unmarshalResourceBytes D σ bytes = .err) := by
  cases h1 : parseJsonC bytes with
  | none =>
    simp [unmarshalPartialResourceBytes, unmarshalResourceBytes, h1]
  | some j =>
    cases h2 : decodeRes D j with
    | none =>
      simp [unmarshalPartialResourceBytes, unmarshalResourceBytes, h1, h2]
    | some sk =>
      simp only [unmarshalPartialResourceBytes, unmarshalResourceBytes, h1, h2]
      exact ⟨C13_accept_iff σ hσ sk, C13_reject_iff σ hσ sk⟩

/-- The skeleton the decoder hands over has distinct keys in `attributes` and in
`relationships` (they are Go maps): the hypothesis of `C13_fields` / `C13_values` holds for
every payload, so the partial resource has exactly the payload's fields. -/
theorem C05B_partial_fields (D : Delegated) (σ : SSchema) (hσ : σ.WF) (bytes : GoString) (s : Soft)
    (h : unmarshalPartialResourceBytes D σ bytes = .ok s) :
    ∃ j sk, parseJsonC bytes = some j ∧ decodeRes D j = some sk ∧
      sk.attrs.keys.Nodup ∧ sk.rels.keys.Nodup ∧
      ∃ st ∈ σ, st.typ.name = sk.typ ∧ s.typ.name = st.typ.name ∧ s.id = sk.id ∧
        (∀ key, s.typ.attrs.has key = true ↔ sk.attrs.has key = true) ∧
        (∀ key, s.typ.rels.has key = true ↔ (∃ v, sk.rels.get? key = some v ∧ v.present = true)) := by
  obtain ⟨j, sk, hj, hsk, h⟩ := unmarshalPartialResourceBytes_ok h
  have hk := DecL.decodeRes_nodup D j sk hsk
  obtain ⟨st, hst, h1, h2, h3, h4, _, h6, _⟩ := C13_fields σ hσ sk s hk h
  exact ⟨j, sk, hj, hsk, hk.1, hk.2, st, hst, h1, h2, h3, h4, h6⟩

/-! ### 4. The reader -/

/-- White space before the value is not part of it: all six entry points read `ws ++ bytes`
as they read `bytes`. (The weaker, proved part of "inserting white space between tokens does not
change the outcome"; white space between tokens and after the value is compared with the real
decoder by suite `bytes2` on half of its payloads.) -/
theorem C05B_ws_invariant_partial (D : Delegated) (σ : SSchema) (ws bytes : GoString)
    (h1 : ws.all isWs = true) :
    parseJsonFull (ws ++ bytes) = parseJsonFull bytes ∧
    unmarshalResourceBytes D σ (ws ++ bytes) = unmarshalResourceBytes D σ bytes ∧
    unmarshalPartialResourceBytes D σ (ws ++ bytes) = unmarshalPartialResourceBytes D σ bytes ∧
    unmarshalCollectionBytes D σ (ws ++ bytes) = unmarshalCollectionBytes D σ bytes ∧
    unmarshalDocumentBytes D σ (ws ++ bytes) = unmarshalDocumentBytes D σ bytes ∧
    unmarshalIdentifierBytes (some σ) (ws ++ bytes) = unmarshalIdentifierBytes (some σ) bytes ∧
    unmarshalIdentifiersBytes (some σ) (ws ++ bytes) = unmarshalIdentifiersBytes (some σ) bytes := by
  have h := DecL.parseJsonC_ws_leading ws bytes h1
  simp only [parseJsonFull, unmarshalResourceBytes, unmarshalPartialResourceBytes,
    unmarshalCollectionBytes, unmarshalDocumentBytes, unmarshalIdentifierBytes,
    unmarshalIdentifiersBytes, h, and_self]

/-- The full-grammar reader extends the strict compact reader on the text the model's renderer
writes: for a tree whose numbers match the JSON grammar and that is nested at most 10000 deep
(`FullL.depth`), `Spec.parseJson` gives the tree back (`JsonL.parseJson_render`) and
`parseJsonFull` gives the same tree with every string `s` (keys included) read as Go reads the
rendered literal, `unquote (renderStrBody s)` - the only place where the two readers can
differ (`Spec.parseJson` copies bytes that are not UTF-8, Go replaces them by U+FFFD). -/
theorem C05B_render_roundtrip (t : Json) (h : t.numsOk = true) (hd : FullL.depth t ≤ maxDepth) :
    Spec.parseJson t.render = some t ∧
    parseJsonFull t.render = some (FullL.mapStr (fun s => unquote (renderStrBody s)) t) := by
  refine ⟨JsonL.parseJson_render t h, ?_⟩
  unfold parseJsonFull
  rw [FullL.parseJsonC_render t h hd]
  exact congrArg some (FullL.toJson_toC t)

/-- When every string and key of the tree is made of printable ASCII bytes that the renderer
does not escape (`FullL.plainByte`: 0x20..0x7F without `"` `\` `<` `>` `&`), the two readers
agree: both give the tree back. (The case without escapes of "parseJsonFull (render j) = some j";
every tree whose strings are valid UTF-8: `C01B_parse_render`.) -/
theorem C05B_render_roundtrip_partial (t : Json) (h : t.numsOk = true)
    (hd : FullL.depth t ≤ maxDepth) (hs : FullL.strsAll (fun s => s.all FullL.plainByte) t = true) :
    parseJsonFull t.render = Spec.parseJson t.render ∧ parseJsonFull t.render = some t := by
  obtain ⟨h1, h2⟩ := C05B_render_roundtrip t h hd
  have e := FullL.mapStr_id (fun s => unquote (renderStrBody s)) (fun s => s.all FullL.plainByte)
    (fun s hp => RtbL.unquote_render s (RtbL.utf8Valid_plain s hp)) t hs
  rw [e] at h2
  exact ⟨h2.trans h1.symm, h2⟩

/-! ### Non-vacuity -/

/-- `{ "Id" : "1", "type":"t" , "attributes":{"a":7,"a":-128}, "relationships" : {"o":{"data":{"id":"k","type":"u"}}} }`
followed by a line feed: white space between tokens, the case variant `Id`, the key `a` twice
(the last value counts) and the escape `k` for `k`. -/
def C05B_exBytes : GoString :=
  [123, 32, 34, 73, 100, 34, 32, 58, 32, 34, 49, 34, 44, 32, 34, 116, 121, 112, 101, 34, 58, 34,
   116, 34, 32, 44, 32, 34, 97, 116, 116, 114, 105, 98, 117, 116, 101, 115, 34, 58, 123, 34, 97,
   34, 58, 55, 44, 34, 97, 34, 58, 45, 49, 50, 56, 125, 44, 32, 34, 114, 101, 108, 97, 116, 105,
   111, 110, 115, 104, 105, 112, 115, 34, 32, 58, 32, 123, 34, 111, 34, 58, 123, 34, 100, 97, 116,
   97, 34, 58, 123, 34, 105, 100, 34, 58, 34, 92, 117, 48, 48, 54, 98, 34, 44, 34, 116, 121, 112,
   101, 34, 58, 34, 117, 34, 125, 125, 125, 32, 125, 10]

/-- any decoder will do here: no time attribute, no meta -/
def C05B_exD : Delegated := { decTime := fun _ => none, numCanon := fun l => some l }

set_option maxRecDepth 20000 in
/-- The bytes decode to the skeleton of `C05_exSk` (id "1", type "t", a = -128, o = ("k","u")),
the payload is accepted with a = int8(-128), o = "k", m = [], id = "1"; with `128` as the last
value of `a` it is rejected, and so is the text cut short. -/
example :
    (match (parseJsonC C05B_exBytes).bind (decodeRes C05B_exD) with
      | some sk => sk.id == [49] && sk.typ == [116] &&
          sk.attrs.map (fun p => (p.1, p.2.bytes)) == [([97], [45, 49, 50, 56])] &&
          sk.rels.map (fun p => (p.1, p.2.present, p.2.decIdent)) == [([111], true, some ([107], [117]))]
      | none => false) = true ∧
    (match unmarshalResourceBytes C05B_exD C05_exσ C05B_exBytes with
      | .ok (.soft s) => [s.get [97], s.get [111], s.get [109], s.get idName] ==
          [.val .int8 (.i (-128)), .val .string (.s [107]), .strs [], .val .string (.s [49])]
      | _ => false) = true ∧
    (unmarshalPartialResourceBytes C05B_exD C05_exσ C05B_exBytes).isOk = true ∧
    (unmarshalResourceBytes C05B_exD C05_exσ (C05B_exBytes.take 51 ++ C05B_exBytes.drop 52)).isOk = false ∧
    (match unmarshalResourceBytes C05B_exD C05_exσ (C05B_exBytes.take 100) with
      | .err => true
      | _ => false) = true := by decide +kernel

example := C05B_total C05B_exD C05_exσ C05_exσ_wf C05B_exBytes

set_option maxRecDepth 20000 in
/-- Strings as Go decodes them: the surrogate pair D83D DE00 is U+1F600, a lone D800 and the byte
FF are U+FFFD each; `"😀\ud800` FF `"` reads as F0 9F 98 80, EF BF BD, EF BF BD. -/
example :
    (parseJsonFull [34, 92, 117, 100, 56, 51, 100, 92, 117, 100, 101, 48, 48, 92, 117, 100, 56, 48, 48, 0xFF, 34]).map
        (fun j => match j with
          | .str s => s
          | _ => [])
      = some [0xF0, 0x9F, 0x98, 0x80, 0xEF, 0xBF, 0xBD, 0xEF, 0xBF, 0xBD] ∧
    -- ` [ TAB 1 , LF true CR ] ` is `[1,true]`
    (parseJsonFull [32, 91, 9, 49, 32, 44, 10, 116, 114, 117, 101, 13, 93, 32]).map Json.render
      = some [91, 49, 44, 116, 114, 117, 101, 93] ∧
    -- `[1,]`, `01`, a TAB inside a string, a form feed before the value
    (parseJsonFull [91, 49, 44, 93]).isNone = true ∧ (parseJsonFull [48, 49]).isNone = true ∧
    (parseJsonFull [34, 9, 34]).isNone = true ∧ (parseJsonFull [12, 49]).isNone = true := by decide +kernel

end Jsonapi

section Axioms
open Jsonapi
#print axioms C05B_total
#print axioms C05B_invalid_json
#print axioms C05B_conforms
#print axioms C05B_type
#print axioms C05B_partial_iff
#print axioms C05B_partial_fields
#print axioms C05B_ws_invariant_partial
#print axioms C05B_render_roundtrip
#print axioms C05B_render_roundtrip_partial
end Axioms
