/-
C15, counting form. `C15_each` gives, for an offending relationship, one entry of `check σ`
whose (type name, FromName) is the offender's: two offenders can share that entry's label
(two entries of one `Rels` map whose values carry the same FromName under different keys, or
two types of the same name). Here the property's "at least one error for each offending
relationship" is stated by COUNTING occurrences:

* an occurrence is a pair (type of the schema, entry of its `Rels` map), listed in iteration
  order with multiplicity (`occurrences`);
* `offends σ owner r` is the property's text read as a Boolean, written without `checkRel`;
* `checkCount σ` is the sum over the occurrences of `checkRel` (`C15C_checkCount_eq_sum`),
  every offending occurrence contributes at least one (`C15C_checkRel_pos_of_offends`, for all
  schemas), hence `checkCount σ ≥ offenderCount σ` (`C15C_count_ge`, for all schemas).

"No error iff no occurrence offends": the direction `checkCount σ = 0 → nobody offends` holds
for all schemas; the converse is FALSE for all schemas (`C15C_count_zero_iff_counterexample`):
`Check` tests "the target type does not exist" by `s.GetType(rel.ToType).Name == ""`, so in a
schema that holds a type whose name is "" (the exported field `Types` allows it; `AddType`
refuses it) a relationship whose ToType is "" is reported although `HasType("")` is true. The
exact statement for all schemas is `C15C_checkRel_pos_iff_exact` / `C15C_count_zero_iff_partial`
(offends, or that quirk); with the decidable hypothesis `namesNonEmpty σ` (no type named "",
C14's invariant) the quirk cannot occur and the iff is `C15C_count_zero_iff`.
-/
import Jsonapi.Props.C15
import Jsonapi.Props.GenC15b
namespace Jsonapi
open Schema GoMap

namespace C15C

/-- The property's "offending", as a Boolean and written from the text: the target type does
not exist in the schema, or an inverse is named and (the relationship is not declared from its
own type, or no relationship of the target type names it back and points back). -/
def offends (σ : Schema) (owner : Typ) (r : Rel) : Bool :=
  !(σ.types.any (fun t => decide (t.name = r.toType))) ||
  (decide (r.toName ≠ []) &&
    (decide (r.fromType ≠ owner.name) ||
     !((σ.getType r.toType).rels.vals.any (fun ι =>
        decide (ι.fromName = r.toName) && decide (ι.toName = r.fromName) &&
          decide (ι.toType = owner.name)))))

/-- Every (type, relationship entry) pair of the schema, in iteration order, with multiplicity:
occurrences, not names. -/
def occurrences (σ : Schema) : List (Typ × Rel) :=
  σ.types.flatMap (fun t => t.rels.map (fun p => (t, p.2)))

/-- Number of offending occurrences. -/
def offenderCount (σ : Schema) : Nat :=
  (occurrences σ).countP (fun o => offends σ o.1 o.2)

/-- The one way `Check` reports a relationship that does not offend: the schema holds a type
named "" and the relationship's ToType is "" (`GetType("").Name == ""` although the type exists). -/
def emptyNameQuirk (σ : Schema) (r : Rel) : Bool :=
  decide (r.toType = []) && σ.hasType []

/-- No type of the schema is named "" (decidable form of `NamesNonEmpty`). -/
def namesNonEmpty (σ : Schema) : Bool := σ.types.all (fun t => decide (t.name ≠ []))

/-! ### list arithmetic -/

theorem countP_le_sum {α : Type} (l : List α) (p : α → Bool) (f : α → Nat)
    (h : ∀ x ∈ l, p x = true → 1 ≤ f x) : l.countP p ≤ (l.map f).sum := by
  induction l with
  | nil => exact Nat.le_refl 0
  | cons a l ih =>
    rw [List.countP_cons, List.map_cons, List.sum_cons, Nat.add_comm]
    refine Nat.add_le_add ?_ (ih fun x hx => h x (List.mem_cons_of_mem _ hx))
    split
    · exact h a List.mem_cons_self ‹_›
    · exact Nat.zero_le _

theorem sum_le_two_countP {α : Type} (l : List α) (p : α → Bool) (f : α → Nat)
    (h2 : ∀ x ∈ l, f x ≤ 2) (h : ∀ x ∈ l, 1 ≤ f x → p x = true) :
    (l.map f).sum ≤ 2 * l.countP p := by
  induction l with
  | nil => exact Nat.le_refl 0
  | cons a l ih =>
    rw [List.countP_cons, List.map_cons, List.sum_cons, Nat.add_comm (List.countP p l), Nat.mul_add]
    refine Nat.add_le_add ?_ (ih (fun x hx => h2 x (List.mem_cons_of_mem _ hx))
      fun x hx => h x (List.mem_cons_of_mem _ hx))
    split
    · exact h2 a List.mem_cons_self
    · exact Nat.le_of_lt_succ (Nat.lt_of_not_le fun h1 => ‹¬ _› (h a List.mem_cons_self h1))

end C15C
open C15C

/-- The Boolean reading is the `Prop` one of Props/C15.lean. -/
theorem C15C_offends_iff_offending (σ : Schema) (t : Typ) (r : Rel) :
    offends σ t r = true ↔ offending σ t r := by
  have hC : (!((σ.getType r.toType).rels.vals.any (fun ι =>
        decide (ι.fromName = r.toName) && decide (ι.toName = r.fromName) &&
          decide (ι.toType = t.name)))) = true ↔
      ¬ ∃ ι ∈ (σ.getType r.toType).rels.vals,
        ι.fromName = r.toName ∧ ι.toName = r.fromName ∧ ι.toType = t.name := by
    rw [Bool.not_eq_true', ← Bool.not_eq_true, List.any_eq_true]
    simp only [Bool.and_eq_true, decide_eq_true_eq, and_assoc]
  unfold offends offending Schema.hasType
  rw [Bool.or_eq_true, Bool.and_eq_true, Bool.or_eq_true, hC, decide_eq_true_eq, decide_eq_true_eq,
    Bool.not_eq_true', ← Bool.not_eq_true]

/-- `namesNonEmpty` is the hypothesis of the C15 theorems. -/
theorem C15C_namesNonEmpty_iff (σ : Schema) : namesNonEmpty σ = true ↔ NamesNonEmpty σ := by
  unfold namesNonEmpty NamesNonEmpty
  simp only [List.all_eq_true, decide_eq_true_eq]

theorem C15C_namesNonEmpty_no_quirk (σ : Schema) (h : namesNonEmpty σ = true) (r : Rel) :
    emptyNameQuirk σ r = false := by
  rw [emptyNameQuirk, ((C15C_namesNonEmpty_iff σ).1 h).hasType_nil, Bool.and_false]

theorem C15C_checkRel_le_two (σ : Schema) (t : Typ) (r : Rel) : checkRel σ t r ≤ 2 := by
  have ite : ∀ (c : Prop) [Decidable c] (a b : Nat), a ≤ 1 → b ≤ 1 → (if c then a else b) ≤ 1 := by
    intro c _ a b ha hb; split <;> assumption
  exact Nat.add_le_add (ite _ _ _ (Nat.le_refl 1) (Nat.zero_le 1))
    (ite _ _ _ (Nat.zero_le 1) (ite _ _ _ (Nat.le_refl 1) (ite _ _ _ (Nat.zero_le 1) (Nat.le_refl 1))))

/-- For every schema and every occurrence: `Check` appends at least one error for it exactly
when it offends or the empty-name quirk applies. -/
theorem C15C_checkRel_pos_iff_exact (σ : Schema) (t : Typ) (r : Rel) :
    1 ≤ checkRel σ t r ↔ (offends σ t r = true ∨ emptyNameQuirk σ r = true) := by
  rw [C15C_offends_iff_offending]
  unfold checkRel offending emptyNameQuirk
  rw [Nat.succ_le_iff, Nat.add_pos_iff_pos_or_pos, checkTarget_pos_iff, checkInverse_pos_iff,
    Bool.and_eq_true, decide_eq_true_eq, Bool.not_eq_true, or_right_comm]

/-- Every offending occurrence gets at least one error - for ALL schemas. -/
theorem C15C_checkRel_pos_of_offends (σ : Schema) (t : Typ) (r : Rel)
    (h : offends σ t r = true) : 1 ≤ checkRel σ t r :=
  (C15C_checkRel_pos_iff_exact σ t r).2 (.inl h)

theorem C15C_checkRel_pos_iff (σ : Schema) (hn : namesNonEmpty σ = true) (t : Typ) (r : Rel) :
    1 ≤ checkRel σ t r ↔ offends σ t r = true := by
  rw [C15C_checkRel_pos_iff_exact, C15C_namesNonEmpty_no_quirk σ hn r, or_iff_left Bool.false_ne_true]

theorem C15C_checkRel_zero_iff (σ : Schema) (hn : namesNonEmpty σ = true) (t : Typ) (r : Rel) :
    checkRel σ t r = 0 ↔ offends σ t r = false := by
  rw [← Bool.not_eq_true, ← C15C_checkRel_pos_iff σ hn]; omega

theorem C15C_checkRel_zero_imp (σ : Schema) (t : Typ) (r : Rel) (h : checkRel σ t r = 0) :
    offends σ t r = false :=
  Bool.eq_false_iff.2 fun h' => by have := C15C_checkRel_pos_of_offends σ t r h'; omega

theorem C15C_checkCount_eq_sum (σ : Schema) :
    checkCount σ = ((occurrences σ).map (fun o => checkRel σ o.1 o.2)).sum := by
  rw [checkCount_eq_sum, occurrences, List.map_flatMap, sum_flatMap]
  simp only [List.map_map, Function.comp_def]

/-- For every schema: at least one error per offending occurrence, counted with multiplicity. -/
theorem C15C_count_ge (σ : Schema) : offenderCount σ ≤ checkCount σ := by
  rw [C15C_checkCount_eq_sum]
  exact countP_le_sum _ _ _ (fun o _ h => C15C_checkRel_pos_of_offends σ o.1 o.2 h)

theorem C15C_count_le_exact (σ : Schema) :
    checkCount σ ≤ 2 * (occurrences σ).countP (fun o => offends σ o.1 o.2 || emptyNameQuirk σ o.2) := by
  rw [C15C_checkCount_eq_sum]
  exact sum_le_two_countP _ _ _ (fun o _ => C15C_checkRel_le_two σ o.1 o.2)
    fun o _ h => Bool.or_eq_true _ _ ▸ (C15C_checkRel_pos_iff_exact σ o.1 o.2).1 h

/-- On a schema with no type named "": at most two errors per offending occurrence. -/
theorem C15C_count_le (σ : Schema) (hn : namesNonEmpty σ = true) :
    checkCount σ ≤ 2 * offenderCount σ := by
  rw [C15C_checkCount_eq_sum]
  exact sum_le_two_countP _ _ _ (fun o _ => C15C_checkRel_le_two σ o.1 o.2)
    fun o _ h => (C15C_checkRel_pos_iff σ hn o.1 o.2).1 h

theorem C15C_count_zero_iff_partial (σ : Schema) :
    checkCount σ = 0 ↔
      ∀ o ∈ occurrences σ, offends σ o.1 o.2 = false ∧ emptyNameQuirk σ o.2 = false := by
  rw [C15C_checkCount_eq_sum, List.sum_eq_zero_iff_forall_eq_nat]
  simp only [List.mem_map, forall_exists_index, and_imp, forall_apply_eq_imp_iff₂]
  refine forall₂_congr fun o _ => ?_
  rw [← Bool.not_eq_true, ← Bool.not_eq_true, ← not_or, ← C15C_checkRel_pos_iff_exact]; omega

theorem C15C_count_zero_imp (σ : Schema) (h : checkCount σ = 0) :
    ∀ o ∈ occurrences σ, offends σ o.1 o.2 = false :=
  fun o ho => ((C15C_count_zero_iff_partial σ).1 h o ho).1

/-- On a schema with no type named "": no error iff no occurrence offends. -/
theorem C15C_count_zero_iff (σ : Schema) (hn : namesNonEmpty σ = true) :
    checkCount σ = 0 ↔ ∀ o ∈ occurrences σ, offends σ o.1 o.2 = false := by
  rw [C15C_count_zero_iff_partial]
  exact ⟨fun h o ho => (h o ho).1, fun h o ho => ⟨h o ho, C15C_namesNonEmpty_no_quirk σ hn o.2⟩⟩

theorem C15C_count_zero_iff_offenderCount (σ : Schema) (hn : namesNonEmpty σ = true) :
    checkCount σ = 0 ↔ offenderCount σ = 0 := by
  rw [C15C_count_zero_iff σ hn, offenderCount, List.countP_eq_zero]
  simp only [Bool.not_eq_true]

/-- The iff WITHOUT the hypothesis is false: a type named "" with a one-way relationship to the
type named "": the target type exists (`hasType`), no inverse is named, so nothing offends -
and `Check` reports one error ("ToType … does not exist"). -/
theorem C15C_count_zero_iff_counterexample :
    ¬ ∀ σ : Schema, (checkCount σ = 0 ↔ ∀ o ∈ occurrences σ, offends σ o.1 o.2 = false) := by
  intro h
  let r : Rel := { fromType := [], fromName := gs "x", toOne := true, toType := [], toName := [], fromOne := false }
  let σ : Schema := { types := [{ name := [], attrs := [], rels := [(gs "x", r)] }] }
  have h1 : ∀ o ∈ occurrences σ, offends σ o.1 o.2 = false := by decide +kernel
  have h2 : checkCount σ = 1 := by decide +kernel
  have := (h σ).2 h1
  omega

theorem C15C_checkRel_pos_iff_counterexample :
    ¬ ∀ (σ : Schema) (t : Typ) (r : Rel), (1 ≤ checkRel σ t r ↔ offends σ t r = true) := by
  intro h
  let r : Rel := { fromType := [], fromName := gs "x", toOne := true, toType := [], toName := [], fromOne := false }
  let t : Typ := { name := [], attrs := [], rels := [(gs "x", r)] }
  have h1 : offends { types := [t] } t r = false := by decide +kernel
  have h2 : checkRel { types := [t] } t r = 1 := by decide +kernel
  have := (h { types := [t] } t r).1 (by omega)
  rw [h1] at this; cases this

/-! ### the translated `Check` -/

/-- For every schema: `len(s.Check())` is at least the number of offending occurrences. -/
theorem C15C_gen_length_ge (σ : Schema) : offenderCount σ ≤ (Gen.Schema_Check σ).length := by
  rw [Gen_Schema_Check_length]; exact C15C_count_ge σ

/-- On a schema with no type named "": at most two errors per offending occurrence. -/
theorem C15C_gen_length_le (σ : Schema) (hn : namesNonEmpty σ = true) :
    (Gen.Schema_Check σ).length ≤ 2 * offenderCount σ := by
  rw [Gen_Schema_Check_length]; exact C15C_count_le σ hn

theorem C15C_gen_nil_imp (σ : Schema) (h : Gen.Schema_Check σ = []) :
    ∀ o ∈ occurrences σ, offends σ o.1 o.2 = false := by
  apply C15C_count_zero_imp
  rw [← Gen_Schema_Check_length, h]; rfl

theorem C15C_gen_nil_iff_partial (σ : Schema) :
    Gen.Schema_Check σ = [] ↔
      ∀ o ∈ occurrences σ, offends σ o.1 o.2 = false ∧ emptyNameQuirk σ o.2 = false := by
  rw [← C15C_count_zero_iff_partial, ← Gen_Schema_Check_length, List.length_eq_zero_iff]

/-- On a schema with no type named "": the translated `Check` returns the empty slice iff no
occurrence offends. -/
theorem C15C_gen_nil_iff (σ : Schema) (hn : namesNonEmpty σ = true) :
    Gen.Schema_Check σ = [] ↔ ∀ o ∈ occurrences σ, offends σ o.1 o.2 = false := by
  rw [← C15C_count_zero_iff σ hn, ← Gen_Schema_Check_length, List.length_eq_zero_iff]

theorem C15C_gen_nil_iff_counterexample :
    ¬ ∀ σ : Schema, (Gen.Schema_Check σ = [] ↔ ∀ o ∈ occurrences σ, offends σ o.1 o.2 = false) := by
  intro h
  apply C15C_count_zero_iff_counterexample
  intro σ
  rw [← h σ, ← Gen_Schema_Check_length, List.length_eq_zero_iff]

/-! ### Non-vacuity

Two offenders of ONE type carrying the same FromName (under two keys of the `Rels` map - the
exported map allows it; `AddRel` keys by FromName): `C15_each` gives both the same label
(`a`, `x`), the counting form sees two. The hypothesis `namesNonEmpty` holds. -/
example :
    let r1 : Rel := { fromType := gs "a", fromName := gs "x", toOne := true, toType := gs "zz", toName := [], fromOne := false }
    let r2 : Rel := { fromType := gs "a", fromName := gs "x", toOne := false, toType := gs "b", toName := gs "y", fromOne := true }
    let r3 : Rel := { fromType := gs "b", fromName := gs "w", toOne := true, toType := gs "a", toName := [], fromOne := false }
    let a : Typ := { name := gs "a", attrs := [], rels := [(gs "x", r1), (gs "k", r2)] }
    let b : Typ := { name := gs "b", attrs := [], rels := [(gs "w", r3)] }
    let σ : Schema := { types := [a, b] }
    namesNonEmpty σ = true ∧ (occurrences σ).length = 3 ∧ offenderCount σ = 2 ∧
      checkCount σ = 2 ∧ 2 ≤ checkCount σ ∧
      (check σ).map (fun e => (e.1, e.2.1)) = [(gs "a", gs "x"), (gs "a", gs "x")] := by decide +kernel

/-! Two offenders in two types of the same name, same FromName; one of them earns two errors
(dangling target and a foreign FromType), so `checkCount` (3) exceeds `offenderCount` (2) and
stays within twice it. -/
example :
    let r1 : Rel := { fromType := gs "q", fromName := gs "x", toOne := true, toType := gs "zz", toName := gs "y", fromOne := false }
    let r2 : Rel := { fromType := gs "a", fromName := gs "x", toOne := false, toType := gs "a", toName := gs "y", fromOne := true }
    let a1 : Typ := { name := gs "a", attrs := [], rels := [(gs "x", r1)] }
    let a2 : Typ := { name := gs "a", attrs := [], rels := [(gs "x", r2)] }
    let σ : Schema := { types := [a1, a2] }
    namesNonEmpty σ = true ∧ offenderCount σ = 2 ∧ checkCount σ = 3 ∧
      (Gen.Schema_Check σ).length = 3 := by decide +kernel

/-! A coherent two-way pair: the hypothesis holds, nobody offends, no error. -/
example :
    let r1 : Rel := { fromType := gs "a", fromName := gs "x", toOne := true, toType := gs "b", toName := gs "y", fromOne := true }
    let r2 : Rel := { fromType := gs "b", fromName := gs "y", toOne := true, toType := gs "a", toName := gs "x", fromOne := true }
    let a : Typ := { name := gs "a", attrs := [], rels := [(gs "x", r1)] }
    let b : Typ := { name := gs "b", attrs := [], rels := [(gs "y", r2)] }
    let σ : Schema := { types := [a, b] }
    namesNonEmpty σ = true ∧ (occurrences σ).length = 2 ∧ offenderCount σ = 0 ∧
      checkCount σ = 0 ∧ Gen.Schema_Check σ = [] := by decide +kernel

end Jsonapi

section Axioms
open Jsonapi
#print axioms C15C_offends_iff_offending
#print axioms C15C_namesNonEmpty_iff
#print axioms C15C_namesNonEmpty_no_quirk
#print axioms C15C_checkRel_le_two
#print axioms C15C_checkRel_pos_iff_exact
#print axioms C15C_checkRel_pos_of_offends
#print axioms C15C_checkRel_pos_iff
#print axioms C15C_checkRel_zero_iff
#print axioms C15C_checkRel_zero_imp
#print axioms C15C_checkCount_eq_sum
#print axioms C15C_count_ge
#print axioms C15C_count_le_exact
#print axioms C15C_count_le
#print axioms C15C_count_zero_imp
#print axioms C15C_count_zero_iff_partial
#print axioms C15C_count_zero_iff
#print axioms C15C_count_zero_iff_offenderCount
#print axioms C15C_count_zero_iff_counterexample
#print axioms C15C_checkRel_pos_iff_counterexample
#print axioms C15C_gen_length_ge
#print axioms C15C_gen_length_le
#print axioms C15C_gen_nil_imp
#print axioms C15C_gen_nil_iff_partial
#print axioms C15C_gen_nil_iff
#print axioms C15C_gen_nil_iff_counterexample
end Axioms
