/-
C01 — Marshaling a resource and unmarshaling it again yields the same resource.

"For every schema type, whether its resources are wrapped structs or soft resources, and every
resource of that type, marshaling the resource with all of its fields and all relationship
data selected and unmarshaling the bytes against the same schema yields a resource with the
same type name, the same ID and, for every attribute and relationship, the same value. Same
value means: integers exactly, strings code point for code point, times as the same instant,
byte strings byte for byte, null-ness preserved, to-one IDs equal and to-many relationships
the same set of IDs."

How the pieces fit:
* the marshaling side is the JSON tree of `Spec.resourceObject` (C04_resource: the model's
  `marshalResource` returns exactly that tree on the domain `ResView.keyedWf`);
* between the two sides stands `encoding/json`: `Spec.skeletonOf c t` is the resource skeleton
  it decodes from the tree `t` (strings verbatim; numbers / booleans / null by their literal;
  time.Time and []byte through the delegated decoders `c : Spec.Codecs`, about which only the
  two codec laws `time_law` and `b64_law` are assumed — structure fields, no axioms);
* integers are printed by `strconv.Itoa`-style code and parsed by `strconv.ParseInt/ParseUint`,
  both modelled: `C01_int_roundtrip` is their codec law, proved here;
* `Spec.sameVal` is "same value" (`C01_sameVal_*` spell it out).

Domain (the hypotheses of `C01_roundtrip`): a well-formed schema (`SSchema.WF`, as in C05/C06),
a type `st` of the schema (soft: `st.backed = false`, wrapped struct: `st.backed = true`), a
resource view `r` that is `keyedWf` (C04's domain: well-typed, maps keyed by name), has the
type's name, the type's attribute definitions, the type's relationship definitions up to the
fields the library reads (`Spec.relCore`: name, cardinality, target type), and whose attribute
values are in the domain of the delegated codecs (`Spec.codecDom`: a time satisfies
`c.TimeOk`).
-/
import Jsonapi.Proofs.RoundTripResLemmas
import Jsonapi.Proofs.RoundTripCodecs
namespace Jsonapi
open GoMap UnmL MarshalL RtL

/-! ### 1. The codec laws of strconv -/

/-- Decimal printing: a non-empty string of ASCII digits whose value is the number. -/
theorem C01_printNat (n : Nat) :
    printNat n ≠ [] ∧ (printNat n).all isDigit = true ∧ digitsVal (printNat n) = n :=
  printNat_spec n

/-- For every integer kind and every integer in the kind's range, parsing the printed integer
with the width of the kind gives the integer back: `ParseInt` for the five signed kinds,
`ParseUint` for the five unsigned kinds (all widths, uint64 above 2^63 included). -/
theorem C01_int_roundtrip (k : Kind) (lo hi n : Int) (hr : k.range? = some (lo, hi))
    (hlo : lo ≤ n) (hhi : n ≤ hi) :
    (k.isSigned = true → parseInt k.bits (printInt n) = some n) ∧
    (k.isUnsigned = true → parseUint k.bits (printInt n) = some n.toNat ∧ (n.toNat : Int) = n) := by
  constructor
  · intro hs
    rw [Kind.signed_range k hs] at hr
    cases hr
    exact parseInt_printInt k.bits n hlo (by omega)
  · intro hu
    rw [Kind.unsigned_range k hu] at hr
    cases hr
    exact ⟨parseUint_printInt k.bits n hlo (by omega), by omega⟩

/-- every integer kind is signed or unsigned, so `C01_int_roundtrip` covers all ten -/
theorem C01_int_kinds (k : Kind) : k.isInt = true ↔ (k.isSigned = true ∨ k.isUnsigned = true) := by
  cases k <;> decide

/-- the widths themselves: any `bits`, any integer of the width -/
theorem C01_parse_print (bits : Nat) (i : Int) :
    (-((2 ^ (bits - 1) : Nat) : Int) ≤ i → i < ((2 ^ (bits - 1) : Nat) : Int) →
      parseInt bits (printInt i) = some i) ∧
    (0 ≤ i → i < ((2 ^ bits : Nat) : Int) → parseUint bits (printInt i) = some i.toNat) :=
  ⟨parseInt_printInt bits i, parseUint_printInt bits i⟩

/-! ### 2. One attribute value -/

/-- What the model writes for a value of the attribute's type (`encodeAttr`), decoded by
`encoding/json` (`Spec.rawOf`), is accepted by `Attr.UnmarshalToType` and is the same value. -/
theorem C01_value_roundtrip (c : Spec.Codecs) (a : Attr) (k : Kind) (hk : Kind.ofCode? a.ty = some k)
    (v : GoVal) (hv : v.hasAttrType k a.nullable = true ∨ (a.nullable = true ∧ v = .nil))
    (hdom : Spec.codecDom c v) :
    ∃ v', unmarshalToType a (Spec.rawOf c (encodeAttr v)) = .ok v' ∧ Spec.sameVal v' v :=
  value_roundtrip c a k hk v hv hdom

/-- "Same value", spelled out: to-many relationships are compared as the same IDs up to
order; everything else through the canonical reading (`Spec.canon`: typed and untyped nil
alike, nil and empty byte strings alike), times as instants. -/
theorem C01_sameVal_strs (a b : List GoString) : Spec.sameVal (.strs a) (.strs b) ↔ a.Perm b := by
  rw [sameVal_strs]

theorem C01_sameVal_of_canon_eq (a b : GoVal) (h : Spec.canon a = Spec.canon b) : Spec.sameVal a b :=
  sameVal_of_canon_eq h

/-- For values that are neither times nor to-many lists "same value" is equality of the
canonical readings: integers, strings, booleans and byte strings are compared exactly. -/
theorem C01_sameVal_exact (a b : GoVal) (h : Spec.sameVal a b)
    (hl : ∀ l, a ≠ .strs l) (ht : ∀ k t, Spec.canon a ≠ .val k (.t t) ∧ Spec.canon a ≠ .ptr k (some (.t t))) :
    Spec.canon a = Spec.canon b := by
  rw [sameVal_nonstrs b hl] at h
  unfold sameCanon at h
  split at h
  · rename_i k t _ _ e _; exact absurd e (ht k t).1
  · rename_i k t _ _ e _; exact absurd e (ht k t).2
  · exact h

/-- Integers: exactly. -/
theorem C01_sameVal_int (a : GoVal) (k : Kind) (n : Int) (h : Spec.sameVal a (.val k (.i n))) :
    a = .val k (.i n) := by
  have hl : ∀ l, a ≠ .strs l := by
    rintro l rfl
    simp [Spec.sameVal, Spec.canon] at h
  rw [sameVal_nonstrs _ hl, canon_val, canonPay_of_ne (p := .i n) nofun] at h
  unfold sameCanon at h
  split at h
  · rename_i e; cases e
  · rename_i e; cases e
  · obtain ⟨p, rfl, hp⟩ := canon_eq_val h
    rw [canonPay_eq hp nofun]

/-- Times: the same instant (seconds and nanoseconds; the zone offset is not compared). -/
theorem C01_sameVal_time (k k' : Kind) (x y : Time) :
    (Spec.sameVal (.val k (.t x)) (.val k' (.t y)) ↔ k = k' ∧ x.sec = y.sec ∧ x.nsec = y.nsec) ∧
    (Spec.sameVal (.ptr k (some (.t x))) (.ptr k' (some (.t y))) ↔
      k = k' ∧ x.sec = y.sec ∧ x.nsec = y.nsec) := by
  constructor
  · rw [sameVal_nonstrs _ (by intro l e; cases e), canon_val, canon_val, canonPay_of_ne (p := .t x) nofun,
      canonPay_of_ne (p := .t y) nofun]
    exact Iff.rfl
  · rw [sameVal_nonstrs _ (by intro l e; cases e), canon_ptr_some, canon_ptr_some, canonPay_of_ne (p := .t x) nofun,
      canonPay_of_ne (p := .t y) nofun]
    exact Iff.rfl

/-- A non-nil pointer to a nil byte slice is written as `""` (never `null`) and comes back as
a non-nil pointer to the empty slice: null-ness is preserved, the bytes are the same up to
`Spec.canon` (nil and empty byte strings alike). Before the repair of `MarshalResource`
(known_findings.json, C01) it was written as `null` and came back as a nil pointer. -/
theorem C01_ptr_nil_bytes (c : Spec.Codecs) :
    let a : Attr := { name := [98], ty := 14, nullable := true }
    let v : GoVal := .ptr .bytes (some (.bs none))
    Kind.ofCode? a.ty = some .bytes ∧ v.hasAttrType .bytes a.nullable = true ∧
    unmarshalToType a (Spec.rawOf c (encodeAttr v)) = .ok (.ptr .bytes (some (.bs (some [])))) ∧
    Spec.sameVal (.ptr .bytes (some (.bs (some [])))) v := by
  intro a v
  have hb : c.b64dec [] = some [] := c.b64_law []
  refine ⟨by decide, by decide, ?_, sameVal_of_canon_eq rfl⟩
  rw [toType_bytes a _ (by simp [Spec.rawOf, encodeAttr, v]; decide) (by decide)]
  simp [Spec.rawOf, encodeAttr, hb, mkVal, a, v]

/-- A nil byte slice held by value is written as `""` and comes back as the empty, non-nil
byte slice: the same value only up to `Spec.canon` (this is why "byte for byte" is stated
through the canonical reading). -/
theorem C01_nil_bytes (c : Spec.Codecs) :
    let a : Attr := { name := [98], ty := 14, nullable := false }
    unmarshalToType a (Spec.rawOf c (encodeAttr (.val .bytes (.bs none)))) =
      .ok (.val .bytes (.bs (some []))) := by
  intro a
  have hb : c.b64dec [] = some [] := c.b64_law []
  rw [toType_bytes a _ (by simp [Spec.rawOf, encodeAttr]; decide) (by decide)]
  simp [Spec.rawOf, encodeAttr, hb, mkVal, a]

/-! ### 3. The resource -/

/-- The bundled domain `RtL.ResDom` is exactly the list of hypotheses of `C01_roundtrip`. -/
theorem C01_ResDom_def (c : Spec.Codecs) (st : SType) (r : ResView) :
    ResDom c st r ↔
      r.keyedWf ∧ r.typeName = st.typ.name ∧
      (∀ key a, r.attrs.get? key = some a ↔ st.typ.attrs.get? key = some a) ∧
      (∀ key, (r.rels.get? key).map Spec.relCore = (st.typ.rels.get? key).map Spec.relCore) ∧
      (∀ key ∈ r.attrs.keys, Spec.codecDom c (r.get key)) :=
  ⟨fun h => ⟨h.keyed, h.tname, h.attrs, h.rels, h.dom⟩,
   fun ⟨h1, h2, h3, h4, h5⟩ => ⟨h1, h2, h3, h4, h5⟩⟩

/-- The general form, for an arbitrary field selection `fields` and an arbitrary `relData`
map (used for documents, C02): the skeleton of the marshaled object is accepted; type name
and ID come back; every selected attribute and every selected relationship whose data is
requested comes back with the same value; every other field of the type reads its zero
value (`Spec.zeroOf`). -/
theorem C01_roundtrip_selection (c : Spec.Codecs) (σ : SSchema) (hσ : σ.WF) (st : SType)
    (hst : st ∈ σ) (r : ResView) (hd : ResDom c st r) (prepath : GoString)
    (fields : List GoString) (relData : GoMap (List GoString)) :
    ∃ res v', unmarshalResource σ (Spec.skeletonOf c (Spec.resourceObject r prepath fields relData))
        = .ok res ∧ res.view? = some v' ∧ v'.typeName = r.typeName ∧ v'.id = r.id ∧
      (∀ f ∈ r.attrs.keys, f ∈ fields → Spec.sameVal (v'.get f) (r.get f)) ∧
      (∀ f ∈ r.rels.keys, f ∈ fields → f ∈ (relData.get? r.typeName).getD [] →
        Spec.sameVal (v'.get f) (r.get f)) ∧
      (∀ f ∈ r.attrs.keys ++ r.rels.keys,
        (f ∉ fields ∨ (f ∈ r.rels.keys ∧ f ∉ (relData.get? r.typeName).getD [])) →
        Spec.canon (v'.get f) = Spec.zeroOf st.typ f) := by
  obtain ⟨res, h, v', h1, h2, h3, h4, h5, h6⟩ :=
    resource_roundtrip c σ hσ st hst r hd prepath fields relData
  exact ⟨res, v', h, h1, h2, h3, h4, h5, h6⟩

/-- C01: all fields and all relationship data selected. -/
theorem C01_roundtrip (c : Spec.Codecs) (σ : SSchema) (hσ : σ.WF) (st : SType) (hst : st ∈ σ)
    (r : ResView) (hr : r.keyedWf) (htn : r.typeName = st.typ.name)
    (hattrs : ∀ key a, r.attrs.get? key = some a ↔ st.typ.attrs.get? key = some a)
    (hrels : ∀ key, (r.rels.get? key).map Spec.relCore = (st.typ.rels.get? key).map Spec.relCore)
    (hdom : ∀ key ∈ r.attrs.keys, Spec.codecDom c (r.get key))
    (prepath : GoString) :
    let t := Spec.resourceObject r prepath (Spec.allFields r) [(r.typeName, r.rels.keys)]
    ∃ res v', unmarshalResource σ (Spec.skeletonOf c t) = .ok res ∧ res.view? = some v' ∧
      v'.typeName = r.typeName ∧ v'.id = r.id ∧
      (∀ f ∈ Spec.allFields r, Spec.sameVal (v'.get f) (r.get f)) := by
  intro t
  obtain ⟨res, v', h, h1, h2, h3, h4, h5, -⟩ :=
    C01_roundtrip_selection c σ hσ st hst r ⟨hr, htn, hattrs, hrels, hdom⟩ prepath
      (Spec.allFields r) [(r.typeName, r.rels.keys)]
  refine ⟨res, v', h, h1, h2, h3, ?_⟩
  have hw : (GoMap.get? [(r.typeName, r.rels.keys)] r.typeName).getD [] = r.rels.keys := by
    simp [GoMap.get?]
  rw [hw] at h5
  intro f hf
  rcases List.mem_append.1 hf with ha | hrl
  · exact h4 f ha hf
  · exact h5 f hrl hf hrl

/-- The same through the model's `MarshalResource` (C04_resource): it succeeds on the
resource, and unmarshaling what it wrote gives the resource back. -/
theorem C01_roundtrip_model (c : Spec.Codecs) (σ : SSchema) (hσ : σ.WF) (st : SType) (hst : st ∈ σ)
    (r : ResView) (hr : r.keyedWf) (htn : r.typeName = st.typ.name)
    (hattrs : ∀ key a, r.attrs.get? key = some a ↔ st.typ.attrs.get? key = some a)
    (hrels : ∀ key, (r.rels.get? key).map Spec.relCore = (st.typ.rels.get? key).map Spec.relCore)
    (hdom : ∀ key ∈ r.attrs.keys, Spec.codecDom c (r.get key))
    (prepath : GoString) :
    ∃ t r', marshalResource r prepath (Spec.allFields r) [(r.typeName, r.rels.keys)] = .ok (t, r') ∧
      ∃ res v', unmarshalResource σ (Spec.skeletonOf c t) = .ok res ∧ res.view? = some v' ∧
        v'.typeName = r.typeName ∧ v'.id = r.id ∧
        (∀ f ∈ Spec.allFields r, Spec.sameVal (v'.get f) (r.get f)) := by
  obtain ⟨r', hm, -⟩ := C04_resource r hr prepath (Spec.allFields r) [(r.typeName, r.rels.keys)] []
  exact ⟨_, r', hm, C01_roundtrip c σ hσ st hst r hr htn hattrs hrels hdom prepath⟩

/-! ### Non-vacuity -/

/-- int8 -128, uint64 2^64-1 (above 2^63), uint8 0: printed and parsed back. -/
example :
    parseInt 8 (printInt (-128)) = some (-128) ∧
    parseUint 64 (printInt 18446744073709551615) = some 18446744073709551615 ∧
    parseUint 8 (printInt 0) = some 0 ∧
    printInt (-128) = [45, 49, 50, 56] :=
  ⟨(C01_parse_print 8 (-128)).1 (by decide) (by decide),
   (C01_parse_print 64 18446744073709551615).2 (by decide) (by decide),
   (C01_parse_print 8 0).2 (by decide) (by decide), by simp [printInt, printNat, digitChar]⟩

/-- The codec laws are satisfiable (`RtL.codecsFor`: a real base64 decoder for the model's
encoder, a time decoder that knows one instant): the theorems are not vacuous in `c`. -/
example : Nonempty Spec.Codecs := ⟨codecsFor default⟩

/-- The codec laws are satisfied by real decoders (`RtL.realCodecs`): the RFC 3339 decoder
`Spec.parseRFC3339` (it inverts `formatTime` on `Spec.TimeDom`: local civil year 0..9999,
nanoseconds below a second, whole-minute zone strictly within a day) and the base64 decoder
`Spec.b64decode`. Every theorem stated for an arbitrary `c : Spec.Codecs` holds for them. -/
theorem C01_real_codecs :
    ∃ c : Spec.Codecs, c.parseTime = Spec.parseRFC3339 ∧ c.b64dec = Spec.b64decode ∧
      (∀ t, c.TimeOk t ↔ Spec.TimeDom t) :=
  ⟨realCodecs, rfl, rfl, fun _ => Iff.rfl⟩

/-- the decoder on literal text: "2018-02-02T18:35:06.5-09:30"; a wrong separator, a
trailing byte, an empty fraction and a ten-digit fraction are rejected -/
example :
    Spec.parseRFC3339 [50,48,49,56,45,48,50,45,48,50,84,49,56,58,51,53,58,48,54,46,53,45,48,57,58,51,48]
      = some ⟨1517630706, 500000000, -34200⟩ ∧
    Spec.parseRFC3339 [50,48,49,56,45,48,50,45,48,50,32,49,56,58,51,53,58,48,54,90] = none ∧
    Spec.parseRFC3339 [50,48,49,56,45,48,50,45,48,50,84,49,56,58,51,53,58,48,54,90,90] = none ∧
    Spec.parseRFC3339 [50,48,49,56,45,48,50,45,48,50,84,49,56,58,51,53,58,48,54,46,90] = none ∧
    Spec.parseRFC3339 [50,48,49,56,45,48,50,45,48,50,84,49,56,58,51,53,58,48,54,46,
      49,50,51,52,53,54,55,56,57,48,90] = none := by decide +kernel

/-- the round trip on an instant with a fraction and a negative half-hour zone, on the first
second of year 1 and the last nanosecond of year 9999 (UTC), and on the two ends of
`Spec.TimeDom` (local 0000-01-01T00:00:00+23:59, local 9999-12-31T23:59:59.999999999-23:59) -/
example :
    Spec.parseRFC3339 (formatTime ⟨1517630706, 500000000, -34200⟩) = some ⟨1517630706, 500000000, -34200⟩ ∧
    Spec.parseRFC3339 (formatTime ⟨-62135596800, 0, 0⟩) = some ⟨-62135596800, 0, 0⟩ ∧
    Spec.parseRFC3339 (formatTime ⟨253402300799, 999999999, 0⟩) = some ⟨253402300799, 999999999, 0⟩ ∧
    Spec.parseRFC3339 (formatTime ⟨-62167305540, 1, 86340⟩) = some ⟨-62167305540, 1, 86340⟩ ∧
    Spec.parseRFC3339 (formatTime ⟨253402387139, 999999999, -86340⟩) = some ⟨253402387139, 999999999, -86340⟩ :=
  ⟨parseRFC3339_formatTime _ (by decide), parseRFC3339_formatTime _ (by decide),
   parseRFC3339_formatTime _ (by decide), parseRFC3339_formatTime _ (by decide),
   parseRFC3339_formatTime _ (by decide)⟩

/-- `Spec.TimeDom` is decidable, and what it excludes: one second before local year 0 (the
year would be negative), one second after local year 9999 (five digits), a zone offset with
seconds (`zoneText` drops them), a zone offset of a whole day, a nanosecond count of a second -/
example : ¬ Spec.TimeDom ⟨-62167219201, 0, 0⟩ ∧ ¬ Spec.TimeDom ⟨253402300800, 0, 0⟩ ∧
    ¬ Spec.TimeDom ⟨0, 0, 30⟩ ∧ ¬ Spec.TimeDom ⟨0, 0, 86400⟩ ∧ ¬ Spec.TimeDom ⟨0, 1000000000, 0⟩ := by
  decide

/-- a time through `C01_value_roundtrip` with the real decoders -/
example :
    let t0 : Time := { sec := 1700000000, nsec := 500, off := 3600 }
    ∃ v', unmarshalToType { name := [116], ty := 13, nullable := true }
        (Spec.rawOf realCodecs (encodeAttr (.ptr .time (some (.t t0))))) = .ok v' ∧
      Spec.sameVal v' (.ptr .time (some (.t t0))) := by
  intro t0
  apply C01_value_roundtrip _ _ .time (by decide) _ (.inl (by decide))
  intro k t e
  rcases e with e | e
  · cases e
  · cases e; show Spec.TimeDom _; decide

/-- a time and a byte string through `C01_value_roundtrip` with `RtL.codecsFor` -/
example :
    let t0 : Time := { sec := 1700000000, nsec := 500, off := 3600 }
    (∃ v', unmarshalToType { name := [116], ty := 13, nullable := true }
        (Spec.rawOf (codecsFor t0) (encodeAttr (.ptr .time (some (.t t0))))) = .ok v' ∧
      Spec.sameVal v' (.ptr .time (some (.t t0)))) ∧
    (∃ v', unmarshalToType { name := [98], ty := 14, nullable := false }
        (Spec.rawOf (codecsFor t0) (encodeAttr (.val .bytes (.bs (some [1, 2, 255, 0]))))) = .ok v' ∧
      Spec.sameVal v' (.val .bytes (.bs (some [1, 2, 255, 0])))) := by
  intro t0
  constructor
  · apply C01_value_roundtrip _ _ .time (by decide) _ (.inl (by decide))
    intro k t e
    rcases e with e | e
    · cases e
    · cases e; rfl
  · apply C01_value_roundtrip _ _ .bytes (by decide) _ (.inl (by decide))
    intro k t e; rcases e with e | e <;> cases e

/-- Type "t": attributes "a" (int8), "s" (nullable string), "u" (uint64), "b" (bytes),
"f" (nullable bool); to-one relationship "o" and to-many relationship "m" to type "x". -/
def C01_exT : Typ :=
  { name := [116],
    attrs := [([97], { name := [97], ty := 3, nullable := false }),
              ([115], { name := [115], ty := 1, nullable := true }),
              ([117], { name := [117], ty := 11, nullable := false }),
              ([98], { name := [98], ty := 14, nullable := false }),
              ([102], { name := [102], ty := 12, nullable := true })],
    rels := [([111], { fromType := [116], fromName := [111], toOne := true, toType := [120], toName := [], fromOne := false }),
             ([109], { fromType := [116], fromName := [109], toOne := false, toType := [120], toName := [], fromOne := false })] }

/-- the same type under the name "w", struct-backed -/
def C01_exW : Typ := { C01_exT with name := [119] }

def C01_exσ : SSchema := [{ typ := C01_exT, backed := false }, { typ := C01_exW, backed := true }]

theorem C01_exσ_wf : C01_exσ.WF := by
  refine ⟨by decide, ?_⟩
  intro st hst
  simp only [C01_exσ, List.mem_cons, List.not_mem_nil, or_false] at hst
  rcases hst with rfl | rfl
  · exact ⟨by decide, ⟨by decide, by decide, by decide, by decide, by decide⟩, by decide, by decide⟩
  · exact ⟨by decide, ⟨by decide, by decide, by decide, by decide, by decide⟩, by decide, by decide⟩

/-- a resource of the type: a = -128, s = nil, u = 2^64-1, b = nil byte slice, f = &true,
o = "k", m = ["2", "1"] (unsorted) -/
def C01_exR (tn : GoString) : ResView :=
  { typeName := tn, id := [49], attrs := C01_exT.attrs, rels := C01_exT.rels,
    vals := [([97], .val .int8 (.i (-128))), ([115], .ptr .string none),
             ([117], .val .uint64 (.i 18446744073709551615)), ([98], .val .bytes (.bs none)),
             ([102], .ptr .bool (some (.b true))),
             ([111], .val .string (.s [107])), ([109], .strs [[50], [49]])] }

theorem C01_exR_dom (c : Spec.Codecs) (st : SType) (h : st.typ = C01_exT ∨ st.typ = C01_exW) :
    ResDom c st (C01_exR st.typ.name) := by
  have ha : st.typ.attrs = C01_exT.attrs := by rcases h with h | h <;> rw [h] <;> rfl
  have hr : st.typ.rels = C01_exT.rels := by rcases h with h | h <;> rw [h] <;> rfl
  refine ⟨?_, rfl, ?_, ?_, ?_⟩
  · rcases h with h | h <;> rw [h] <;> decide
  · intro key a; rw [ha]; exact Iff.rfl
  · intro key; rw [hr]; rfl
  · intro key hk
    have hk' : key ∈ [[97], [115], [117], [98], [102]] := hk
    simp only [List.mem_cons, List.not_mem_nil, or_false] at hk'
    rcases hk' with rfl | rfl | rfl | rfl | rfl <;>
      simp [Spec.codecDom, C01_exR, ResView.get, GoMap.get?]

/-- The hypotheses of `C01_roundtrip` are satisfiable, for the soft type and for the
struct-backed type, with every decoder `c` satisfying the codec laws; the conclusion gives
the resource back. -/
example (c : Spec.Codecs) (st : SType) (hst : st ∈ C01_exσ) :
    ∃ res v', unmarshalResource C01_exσ (Spec.skeletonOf c
        (Spec.resourceObject (C01_exR st.typ.name) [47] (Spec.allFields (C01_exR st.typ.name))
          [(st.typ.name, C01_exT.rels.keys)])) = .ok res ∧
      res.view? = some v' ∧ v'.typeName = st.typ.name ∧ v'.id = [49] ∧
      v'.get [97] = .val .int8 (.i (-128)) ∧
      Spec.sameVal (v'.get [109]) (.strs [[50], [49]]) := by
  have hd : ResDom c st (C01_exR st.typ.name) := by
    apply C01_exR_dom
    simp only [C01_exσ, List.mem_cons, List.not_mem_nil, or_false] at hst
    rcases hst with rfl | rfl
    · exact .inl rfl
    · exact .inr rfl
  obtain ⟨res, v', h1, h2, h3, h4, h5⟩ := C01_roundtrip c C01_exσ C01_exσ_wf st hst
    (C01_exR st.typ.name) hd.keyed hd.tname hd.attrs hd.rels hd.dom [47]
  refine ⟨res, v', h1, h2, h3, h4, ?_, ?_⟩
  · exact C01_sameVal_int _ _ _ (h5 [97] (by simp [Spec.allFields, C01_exR, C01_exT, GoMap.keys]))
  · exact h5 [109] (by simp [Spec.allFields, C01_exR, C01_exT, GoMap.keys])

end Jsonapi

section Axioms
open Jsonapi
#print axioms C01_printNat
#print axioms C01_int_roundtrip
#print axioms C01_int_kinds
#print axioms C01_parse_print
#print axioms C01_value_roundtrip
#print axioms C01_sameVal_strs
#print axioms C01_sameVal_of_canon_eq
#print axioms C01_sameVal_exact
#print axioms C01_sameVal_int
#print axioms C01_sameVal_time
#print axioms C01_ptr_nil_bytes
#print axioms C01_nil_bytes
#print axioms C01_ResDom_def
#print axioms C01_roundtrip_selection
#print axioms C01_roundtrip
#print axioms C01_roundtrip_model
#print axioms C01_exσ_wf
#print axioms C01_exR_dom
#print axioms C01_real_codecs
#print axioms RtL.realCodecs
#print axioms RtL.parseRFC3339_formatTime
#print axioms RtL.daysFromCivil_civilFromDays
#print axioms RtL.b64decode_b64enc
end Axioms
