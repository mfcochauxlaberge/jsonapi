/-
C14 — schema editing keeps the schema well-formed and is all-or-nothing.
Histories start from the empty schema; a `Type` value passed to `AddType` is itself
well-formed (built with AddAttr/AddRel/BuildType), its name is arbitrary.
-/
import Jsonapi.Proofs.C14Lemmas
namespace Jsonapi
open Schema GoMap

inductive Op where
  | addType (t : Typ)
  | removeType (n : GoString)
  | addAttr (n : GoString) (a : Attr)
  | removeAttr (n a : GoString)
  | addRel (n : GoString) (r : Rel)
  | removeRel (n a : GoString)
  | addTwoWayRel (r : Rel)

/-- One call of the editing API on the model. -/
def step (s : Schema) : Op → Schema × Res Unit
  | .addType t => s.addType t
  | .removeType n => (s.removeType n, .ok ())
  | .addAttr n a => s.addAttr n a
  | .removeAttr n a => (s.removeAttr n a, .ok ())
  | .addRel n r => s.addRel n r
  | .removeRel n a => (s.removeRel n a, .ok ())
  | .addTwoWayRel r => s.addTwoWayRel r

/-- The domain restriction on histories: types handed to `AddType` are well-formed. -/
def Op.ok : Op → Prop
  | .addType t => TypWF t
  | _ => True

def run (ops : List Op) : Schema := ops.foldl (fun s op => (step s op).1) Schema.empty

theorem step_inv (s : Schema) (h : Inv s) (op : Op) (hop : op.ok) : Inv (step s op).1 := by
  cases op with
  | addType t =>
    show Inv (s.addType t).1
    rcases addType_outcome s t with e | ⟨e, hne, hnh⟩ <;> rw [e]
    · exact h
    · refine ⟨?_, fun u hu => (List.mem_append.1 hu).elim (h.2 u) fun e => List.mem_singleton.1 e ▸ ⟨hne, hop⟩⟩
      rw [List.map_append, List.nodup_append]
      refine ⟨h.1, List.pairwise_singleton _ _, fun a ha b hb e => hnh ((hasType_iff s _).2 ?_)⟩
      rw [List.map_singleton, List.mem_singleton] at hb
      exact hb ▸ e ▸ ha
  | removeType n =>
    have hs : (eraseFirst (fun t : Typ => decide (t.name = n)) s.types).Sublist s.types :=
      eraseFirst_eq_eraseP _ _ ▸ List.eraseP_sublist
    exact ⟨(hs.map _).nodup h.1, fun t ht => h.2 t (hs.subset ht)⟩
  | addAttr n a =>
    rcases updFirst_outcome n (fun t => t.addAttr a) s (res := step s (.addAttr n a)) rfl with e | ⟨_, e⟩
    · rw [e]; exact h
    · rw [e h.1]
      exact inv_mapNamed h _ _ (fun t => Typ.addAttr_name t a) (fun _ ht => Typ.addAttr_wf ht a)
  | removeAttr n a =>
    exact inv_mapNamed h _ _ (fun t => Typ.removeAttr_name t a) (fun _ ht => Typ.removeAttr_wf ht a)
  | addRel n r =>
    rcases updFirst_outcome n (fun t => t.addRel r) s (res := step s (.addRel n r)) rfl with e | ⟨_, e⟩
    · rw [e]; exact h
    · rw [e h.1]
      exact inv_mapNamed h _ _ (fun t => Typ.addRel_name t r) (fun _ ht => Typ.addRel_wf ht r)
  | removeRel n a =>
    exact inv_mapNamed h _ _ (fun t => Typ.removeRel_name t a) (fun _ ht => Typ.removeRel_wf ht a)
  | addTwoWayRel r =>
    show Inv (s.addTwoWayRel r).1
    rcases addTwoWayRel_outcome s r with ⟨_, e⟩ | ⟨_, _, e⟩ | ⟨_, _, _, e⟩ | ⟨_, _, _, e⟩ <;> rw [e]
    · exact h
    · exact inv_twUndo (inv_twAdd h _) _
    · exact inv_twAdd (inv_twAdd h _) _
    · exact inv_twUndo (inv_twUndo (inv_twAdd (inv_twAdd h _) _) _) _

theorem step_no_panic (s : Schema) (op : Op) : (step s op).2 ≠ .panic := by
  cases op with
  | addType t =>
    show (s.addType t).2 ≠ .panic
    rcases addType_outcome s t with e | ⟨e, _⟩ <;> rw [e] <;> nofun
  | removeType n => nofun
  | addAttr n a =>
    rcases updFirst_outcome n (fun t => t.addAttr a) s (res := step s (.addAttr n a)) rfl with e | ⟨e, _⟩ <;> rw [e]
    · nofun
    · exact Typ.addAttr_no_panic _ a
  | removeAttr n a => nofun
  | addRel n r =>
    rcases updFirst_outcome n (fun t => t.addRel r) s (res := step s (.addRel n r)) rfl with e | ⟨e, _⟩ <;> rw [e]
    · nofun
    · exact Typ.addRel_no_panic _ r
  | removeRel n a => nofun
  | addTwoWayRel r =>
    show (s.addTwoWayRel r).2 ≠ .panic
    rcases addTwoWayRel_outcome s r with ⟨_, e⟩ | ⟨_, _, e⟩ | ⟨_, _, _, e⟩ | ⟨_, _, _, e⟩ <;> rw [e]
    · exact twRes_no_panic _ _
    · exact twRes_no_panic _ _
    · nofun
    · nofun

/-! ### Property theorems -/

theorem inv_empty : Inv Schema.empty := ⟨List.nodup_nil, fun _ h => nomatch h⟩

/-- After any sequence of edits no call has panicked and the schema is well-formed. -/
theorem C14_inv (ops : List Op) (hops : ∀ op ∈ ops, op.ok) :
    Inv (run ops) ∧
    ∀ (pre : List Op) (op : Op) (post : List Op), ops = pre ++ op :: post →
      (step (run pre) op).2 ≠ .panic := by
  refine ⟨?_, fun pre op _ _ => step_no_panic _ op⟩
  unfold run
  suffices h : ∀ (s : Schema), Inv s → Inv (ops.foldl (fun s op => (step s op).1) s) from h _ inv_empty
  induction ops with
  | nil => intro s hs; exact hs
  | cons op ops ih =>
    intro s hs
    exact ih (fun o ho => hops o (List.mem_cons_of_mem _ ho)) _
      (step_inv s hs op (hops op List.mem_cons_self))

/-- Lookups agree with the list of types. -/
theorem C14_lookup (s : Schema) (h : Inv s) (n : GoString) :
    (s.hasType n = true ↔ n ∈ s.types.map (·.name)) ∧
    (∀ t ∈ s.types, s.getType t.name = t) ∧
    (n ∉ s.types.map (·.name) → s.getType n = Typ.empty) :=
  ⟨hasType_iff s n, fun _ ht => getType_of_mem h.1 ht,
   fun hn => getType_absent (fun hh => hn ((hasType_iff s n).1 hh))⟩

/-- An edit that returns an error leaves the schema exactly as it was. -/
theorem C14_atomic (s : Schema) (h : Inv s) (op : Op) (herr : (step s op).2 ≠ .ok ()) :
    (step s op).1 = s := by
  cases op with
  | addType t =>
    change (s.addType t).2 ≠ _ at herr
    show (s.addType t).1 = s
    rcases addType_outcome s t with e | ⟨e, _⟩ <;> rw [e] at herr ⊢
    exact absurd rfl herr
  | removeType n => exact absurd rfl herr
  | addAttr n a =>
    rcases updFirst_outcome n (fun t => t.addAttr a) s (res := step s (.addAttr n a)) rfl with e | ⟨e, e'⟩
    · rw [e]
    · rw [e' h.1, mapNamed_id_of_getType h.1 n (fun t => (t.addAttr a).1) (Typ.addAttr_err _ a (e ▸ herr))]
  | removeAttr n a => exact absurd rfl herr
  | addRel n r =>
    rcases updFirst_outcome n (fun t => t.addRel r) s (res := step s (.addRel n r)) rfl with e | ⟨e, e'⟩
    · rw [e]
    · rw [e' h.1, mapNamed_id_of_getType h.1 n (fun t => (t.addRel r).1) (Typ.addRel_err _ r (e ▸ herr))]
  | removeRel n a => exact absurd rfl herr
  | addTwoWayRel r =>
    change (s.addTwoWayRel r).2 ≠ _ at herr
    show (s.addTwoWayRel r).1 = s
    rcases addTwoWayRel_outcome s r with ⟨_, e⟩ | ⟨ok1, _, e⟩ | ⟨_, _, _, e⟩ | ⟨ok1, ok2, hh, e⟩ <;>
      rw [e] at herr ⊢
    · exact twUndo_twAdd h _ ok1
    · exact absurd rfl herr
    · -- one of the two types is missing: that half and its undoing do nothing
      generalize r.normalize = x at *
      show twUndo (twUndo (twAdd (twAdd s x) x.invert) x) x.invert = s
      by_cases a1 : s.hasType x.fromType = true
      · have a2 : ¬ s.hasType x.invert.fromType = true := fun a2 => hh (by rw [a1, a2]; rfl)
        rw [twAdd_absent _ _ (by rwa [hasType_twAdd]), twUndo_twAdd h _ ok1, twUndo_absent _ _ a2]
      · rw [twAdd_absent s _ a1] at ok2 ⊢
        rw [twUndo_absent (twAdd s x.invert) x (by rwa [hasType_twAdd]), twUndo_twAdd h _ ok2]

/-- Removing something absent is a no-op. -/
theorem C14_remove_absent (s : Schema) (h : Inv s) :
    (∀ n, n ∉ s.types.map (·.name) → s.removeType n = s) ∧
    (∀ n a, (∀ t ∈ s.types, t.name = n → a ∉ t.attrs.keys) → s.removeAttr n a = s) ∧
    (∀ n a, (∀ t ∈ s.types, t.name = n → a ∉ t.rels.keys) → s.removeRel n a = s) := by
  refine ⟨fun n hn => ?_, fun n a hna => ?_, fun n a hna => ?_⟩
  · rw [Schema.removeType, eraseFirst_eq_eraseP, List.eraseP_of_forall_not]
    exact fun t ht e => hn (List.mem_map.2 ⟨t, ht, of_decide_eq_true e⟩)
  · exact congrArg Schema.mk (mapNamed_id_of_fix n (fun t => t.removeAttr a) s.types
      fun t ht hn => Typ.removeAttr_absent (h.2 t ht).2 a (hna t ht hn))
  · exact congrArg Schema.mk (mapNamed_id_of_fix n (fun t => t.removeRel a) s.types
      fun t ht hn => Typ.removeRel_absent (h.2 t ht).2 a (hna t ht hn))

/-- Adding a two-way relationship whose types exist and whose names are free succeeds,
whichever direction it is given in and also within a single type, and leaves each side
holding the relationship and its inverse. -/
theorem C14_twoway (s : Schema) (h : Inv s) (r : Rel)
    (hft : s.hasType r.fromType = true) (htt : s.hasType r.toType = true)
    (hfn : r.fromName ≠ []) (htn : r.toName ≠ [])
    (hfreeF : r.fromName ∉ (s.getType r.fromType).attrs.keys ∧ r.fromName ∉ (s.getType r.fromType).rels.keys)
    (hfreeT : r.toName ∉ (s.getType r.toType).attrs.keys ∧ r.toName ∉ (s.getType r.toType).rels.keys)
    (hns : ¬ (r.fromType = r.toType ∧ r.fromName = r.toName)) :
    (s.addTwoWayRel r).2 = .ok () ∧
    (((s.addTwoWayRel r).1.getType r.fromType).rels.get? r.fromName = some r) ∧
    (((s.addTwoWayRel r).1.getType r.toType).rels.get? r.toName = some r.invert) := by
  rcases Rel.normalize_eq_self_or_invert r with e | e
  · exact twoway_core s h r r e hft htt hfn htn hfreeF hfreeT hns
  · obtain ⟨m1, m2, m3⟩ := twoway_core s h r r.invert e htt hft htn hfn hfreeT hfreeF
      fun ⟨e1, e2⟩ => hns ⟨e1.symm, e2.symm⟩
    exact ⟨m1, m3, m2⟩

/-! Non-vacuity: a reachable state, and a two-way relationship given in non-normalised
direction within one type. -/
example :
    let ops := [Op.addType { name := gs "b", attrs := [], rels := [] },
                Op.addType { name := gs "a", attrs := [], rels := [] },
                Op.removeType (gs "b"),
                Op.addTwoWayRel { fromType := gs "a", fromName := gs "y", toOne := true,
                                  toType := gs "a", toName := gs "x", fromOne := false }]
    (run ops).types.length = 1 ∧
    ((run ops).getType (gs "a")).rels.keys = [gs "x", gs "y"] := by decide +kernel

#print axioms C14_inv
#print axioms C14_lookup
#print axioms C14_atomic
#print axioms C14_remove_absent
#print axioms C14_twoway
end Jsonapi
