/-
C05N — two small additions to C05.

1. Non-vacuity of `C05_request_ok`: a POST request whose URL `/t` and body are accepted.
2. "Either an error and no result or a result and no error", on Go-shaped outputs of
   `UnmarshalIdentifier(s)`. The model's `Res` has no "value returned alongside the error", so
   the clause is true of the model by the shape of the type. The Go code (identifiers.go) does
   return a value with the error:
     * `UnmarshalIdentifier`: `Identifier{}` (the zero value) with every error;
     * `UnmarshalIdentifiers`: `Identifiers{}` - an EMPTY, NON-NIL slice - with the error of the
       outer `json.Unmarshal`, and `nil` with the error of an element.
   `unmarshalIdentifiersGo` below writes these returns down (read from the source; it is
   defined from the validated model `unmarshalIdentifiers` and is not itself compared with the
   code by a suite), and `C05N_identifiers_xor` says: whenever an error is returned the value
   returned with it has no element - never a non-empty result together with an error.
-/
import Jsonapi.Props.C05R
namespace Jsonapi
open UnmL

/-! ### 1. `C05_request_ok` is not vacuous -/

/-- `{"data": <C05_exSk>}` -/
def C05N_exDoc : DocSke := { data := .res (some C05_exSk), errors := [], included := [], dmeta := [] }

theorem C05N_request_accepted :
    ∃ req, newRequest C05_exσ mPOST true [47, 116] [] { label := none, filter := none }
      (some C05N_exDoc) = .ok req := by
  have h : (newRequest C05_exσ mPOST true [47, 116] [] { label := none, filter := none }
      (some C05N_exDoc)).isOk = true := by decide +kernel
  cases hr : newRequest C05_exσ mPOST true [47, 116] [] { label := none, filter := none }
      (some C05N_exDoc) with
  | ok r => exact ⟨r, rfl⟩
  | err => rw [hr] at h; cases h
  | panic => rw [hr] at h; cases h

/-- The hypotheses of `C05_request_ok` are satisfiable, and its conclusion on the instance: the
request carries POST, the parsed URL and a document whose primary resource conforms. -/
example : ∃ req d r, newRequest C05_exσ mPOST true [47, 116] [] { label := none, filter := none }
      (some C05N_exDoc) = .ok req ∧ req.method = mPOST ∧ req.doc = some d ∧ d.data = .res r ∧
      Conforms C05_exσ r := by
  obtain ⟨req, hreq⟩ := C05N_request_accepted
  obtain ⟨h1, _, h3, _⟩ := C05_request_ok C05_exσ C05_exσ_wf _ _ _ _ _ _ req hreq
  obtain ⟨d, hd, hu, c1, _, _⟩ := h3 (.inl rfl)
  have hdata : ∃ r, d.data = .res r := by
    obtain ⟨_, _, hx⟩ := unmarshalDocument_ok hu
    obtain ⟨r, _, e, _⟩ := hx
    exact ⟨r, e⟩
  obtain ⟨r, hr⟩ := hdata
  exact ⟨req, d, r, hreq, h1, hd, hr, c1 r hr⟩

/-! ### 2. Go-shaped outputs of `UnmarshalIdentifier(s)` -/

/-- A Go `Identifiers` value: the nil slice or a slice with the given elements. -/
inductive GoIdents where
  | nilSlice
  | slice (l : List (GoString × GoString))
deriving Repr

def GoIdents.len : GoIdents → Nat
  | .nilSlice => 0
  | .slice l => l.length

/-- identifiers.go `UnmarshalIdentifier` as the pair Go returns: (value, error?) -/
def unmarshalIdentifierGo (σ : Option SSchema) (dec : Option (GoString × GoString)) :
    (GoString × GoString) × Bool :=
  match unmarshalIdentifier σ dec with
  | .ok i => (i, false)
  | _ => (([], []), true)          -- `return Identifier{}, err`

/-- identifiers.go `UnmarshalIdentifiers` as the pair Go returns -/
def unmarshalIdentifiersGo (σ : Option SSchema) (dec : Option (List (Option (GoString × GoString)))) :
    GoIdents × Bool :=
  match dec with
  | none => (.slice [], true)      -- `return Identifiers{}, err`: empty, non-nil
  | some l =>
    match unmarshalIdentifiers σ (some l) with
    | .ok is => (.slice is, false) -- `return idens, nil`
    | _ => (.nilSlice, true)       -- `return nil, err`

/-- Error XOR result on the Go-shaped outputs: with an error the identifier returned is the zero
value and the list returned has no element (it is `Identifiers{}` - empty and non-nil - exactly
when the outer decode failed, `nil` when an element was rejected); without an error the value
is the model's result. -/
theorem C05N_identifiers_xor (σ : Option SSchema) :
    (∀ d, (unmarshalIdentifierGo σ d).2 = true → (unmarshalIdentifierGo σ d).1 = ([], [])) ∧
    (∀ d, (unmarshalIdentifierGo σ d).2 = false → unmarshalIdentifier σ d = .ok (unmarshalIdentifierGo σ d).1) ∧
    (∀ d, (unmarshalIdentifiersGo σ d).2 = true → (unmarshalIdentifiersGo σ d).1.len = 0) ∧
    (∀ d, (unmarshalIdentifiersGo σ d).2 = true →
      ((unmarshalIdentifiersGo σ d).1 = .slice [] ↔ d = none) ∧
      ((unmarshalIdentifiersGo σ d).1 = .nilSlice ↔ d ≠ none)) ∧
    (∀ d is, unmarshalIdentifiersGo σ d = (.slice is, false) → unmarshalIdentifiers σ d = .ok is) := by
  refine ⟨?_, ?_, ?_, ?_, ?_⟩
  · intro d h
    unfold unmarshalIdentifierGo at h ⊢
    cases hr : unmarshalIdentifier σ d <;> simp [hr] at h ⊢
  · intro d h
    unfold unmarshalIdentifierGo at h ⊢
    cases hr : unmarshalIdentifier σ d <;> simp [hr] at h ⊢
  · intro d h
    unfold unmarshalIdentifiersGo at h ⊢
    cases d with
    | none => rfl
    | some l => cases hr : unmarshalIdentifiers σ (some l) <;> simp [hr, GoIdents.len] at h ⊢
  · intro d h
    unfold unmarshalIdentifiersGo at h ⊢
    cases d with
    | none => simp
    | some l => cases hr : unmarshalIdentifiers σ (some l) <;> simp [hr] at h ⊢
  · intro d is h
    unfold unmarshalIdentifiersGo at h
    cases d with
    | none => simp at h
    | some l =>
      cases hr : unmarshalIdentifiers σ (some l) with
      | ok is' => simp [hr] at h; rw [h]
      | err => simp [hr] at h
      | panic => simp [hr] at h

end Jsonapi

section Axioms
open Jsonapi
#print axioms C05N_request_accepted
#print axioms C05N_identifiers_xor
end Axioms
