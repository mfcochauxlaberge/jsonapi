/-
C05 — Unmarshaling never panics and what it returns conforms to the schema.

"For any byte string and any schema, unmarshaling a document, resource, partial resource,
collection, identifier or identifier list returns without panicking, with either an error
and no result or a result and no error. In a returned result every resource's type exists in
the schema, every attribute holds a value of exactly the Go type the schema declares (or nil
for a nullable one), to-one relationships hold a string and to-many relationships a string
slice."

The model (`Jsonapi/Model/Unmarshal.lean`) starts from the skeletons `encoding/json` decoded;
the theorems quantify over every skeleton, i.e. over every byte string and everything the
standard library may have decoded from it. "Error and no result or result and no error" is
the shape of `Res` (`ok r | err | panic`); the content of the theorems is `≠ .panic` and the
conformance of `r` in `.ok r`.

Definitions used in the statements (in `Jsonapi/Proofs/UnmarshalLemmas*.lean`):
* `SSchema.WF σ`: unique type names; every type has a non-empty name, is `TypWF`
  (key = name, names non-empty, kinds 1..14, targets non-empty, attribute and relationship
  names distinct), has field names other than "id" and "" (`Spec.namesOk`), and a struct-backed
  type is declarable (`Spec.structable`, as in C17);
* `UnmL.Conforms σ r` (unfolded in `C05_conforms`).
-/
import Jsonapi.Proofs.UnmarshalLemmas6
namespace Jsonapi
open GoMap UnmL

/-! ### 1. `Attr.UnmarshalToType` -/

/-- `strconv.ParseInt` / `ParseUint` results lie in the range of the width. -/
theorem C05_parse_range (bits : Nat) (s : GoString) :
    (∀ n, parseInt bits s = some n →
      -((2 ^ (bits - 1) : Nat) : Int) ≤ n ∧ n < ((2 ^ (bits - 1) : Nat) : Int)) ∧
    (∀ n, parseUint bits s = some n → n < 2 ^ bits) :=
  ⟨fun _ h => parseInt_range h, fun _ h => parseUint_lt h⟩

/-- Never a panic; a returned value has exactly the declared Go type, payload in the range
of the kind (for `null` on a nullable attribute: the typed nil pointer). For an attribute
whose kind code is invalid the only accepted input is `null` on a nullable attribute, with
untyped nil as the value. -/
theorem C05_toType_hasType (a : Attr) (raw : RawVal) :
    unmarshalToType a raw ≠ .panic ∧
    (∀ v, unmarshalToType a raw = .ok v →
      (∀ k, Kind.ofCode? a.ty = some k → v.hasAttrType k a.nullable = true) ∧
      (Kind.ofCode? a.ty = none → raw.bytes = sNull ∧ a.nullable = true ∧ v = .nil)) := by
  refine ⟨toType_no_panic a raw, fun v h => ⟨fun k hk => toType_hasAttrType a raw v k h hk, ?_⟩⟩
  intro hk
  by_cases hn : raw.bytes = sNull
  · rw [toType_null a raw hn] at h
    split at h
    · rename_i hnul; cases h; exact ⟨hn, hnul, by simp [Attr.zero, hk]⟩
    · cases h
  · rw [toType_badKind a raw hn hk] at h; cases h

/-! ### 2. No entry point panics -/

theorem C05_total (σ : SSchema) (hσ : σ.WF) :
    (∀ sk, unmarshalResource σ sk ≠ .panic) ∧
    (∀ sk, unmarshalPartialResource σ sk ≠ .panic) ∧
    (∀ l, unmarshalList σ l ≠ .panic) ∧
    (∀ sk, unmarshalDocument σ sk ≠ .panic) ∧
    (∀ d, unmarshalIdentifier (some σ) d ≠ .panic) ∧
    (∀ d, unmarshalIdentifiers (some σ) d ≠ .panic) :=
  ⟨fun sk => (resource_spec hσ sk).1, fun sk => (partial_spec hσ sk).1,
   fun l => unmarshalList_no_panic hσ l, fun sk => unmarshalDocument_no_panic hσ sk,
   fun d => unmarshalIdentifier_no_panic _ d, fun d => unmarshalIdentifiers_no_panic _ d⟩

/-- Identifiers need no schema at all to be total. -/
theorem C05_total_identifiers (σ : Option SSchema) :
    (∀ d, unmarshalIdentifier σ d ≠ .panic) ∧ (∀ d, unmarshalIdentifiers σ d ≠ .panic) :=
  ⟨fun d => unmarshalIdentifier_no_panic _ d, fun d => unmarshalIdentifiers_no_panic _ d⟩

/-- Which payloads are accepted (full and partial unmarshaling alike, see C13): the type
exists, every member of `attributes` names an attribute of the type and carries a value
`unmarshalToType` accepts, every member of `relationships` names a relationship of the type
and its data (if any) decodes into identifiers of the target type. -/
theorem C05_accept_iff (σ : SSchema) (hσ : σ.WF) (sk : ResSke) :
    (∃ r, unmarshalResource σ sk = .ok r) ↔
      ∃ st, σ.getType sk.typ = some st ∧
        (∀ p ∈ sk.attrs, ∃ a v, st.typ.attrs.get? p.1 = some a ∧ unmarshalToType a p.2 = .ok v) ∧
        (∀ p ∈ sk.rels, ∃ rel, st.typ.rels.get? p.1 = some rel ∧ (relValue rel p.2).2 = false) := by
  rw [resource_accept hσ sk]
  simp only [attrsOk_iff, relsOk_iff]

/-! ### 3. Returned results conform to the schema -/

theorem C05_conforms (σ : SSchema) (hσ : σ.WF) (sk : ResSke) (r : AnyRes)
    (h : unmarshalResource σ sk = .ok r) :
    ∃ st ∈ σ, ∃ v, r.view? = some v ∧ v.typeName = st.typ.name ∧
      (∀ key a, st.typ.attrs.get? key = some a → ∃ k, Kind.ofCode? a.ty = some k ∧
        ((v.get key).hasAttrType k a.nullable = true ∨ (a.nullable = true ∧ v.get key = .nil))) ∧
      (∀ key rel, st.typ.rels.get? key = some rel →
        if rel.toOne then ∃ id, v.get key = .val .string (.s id) else ∃ l, v.get key = .strs l) :=
  resource_conforms hσ h

/-- `UnmL.Conforms` is the conclusion of `C05_conforms`. -/
theorem C05_Conforms_def (σ : SSchema) (r : AnyRes) :
    Conforms σ r ↔
    ∃ st ∈ σ, ∃ v, r.view? = some v ∧ v.typeName = st.typ.name ∧
      (∀ key a, st.typ.attrs.get? key = some a → ∃ k, Kind.ofCode? a.ty = some k ∧
        ((v.get key).hasAttrType k a.nullable = true ∨ (a.nullable = true ∧ v.get key = .nil))) ∧
      (∀ key rel, st.typ.rels.get? key = some rel →
        if rel.toOne then ∃ id, v.get key = .val .string (.s id) else ∃ l, v.get key = .strs l) :=
  Iff.rfl

/-- The resource's type is the one the payload names. -/
theorem C05_type (σ : SSchema) (hσ : σ.WF) (sk : ResSke) (r : AnyRes)
    (h : unmarshalResource σ sk = .ok r) :
    σ.toSchema.hasType sk.typ = true ∧ ∃ v, r.view? = some v ∧ v.typeName = sk.typ := by
  obtain ⟨st, hg, _, _, _, inv⟩ := ((resource_spec hσ sk).2 r).1 h
  obtain ⟨hm, hname⟩ := getType_some hg
  obtain ⟨_, h2, h3, _⟩ := hσ.2 st hm
  obtain ⟨v, hv, e1, _⟩ := inv.view h2 h3
  refine ⟨?_, v, hv, e1.trans hname⟩
  rw [← getType_isSome_iff, hg]; rfl

/-- Collections: the results are those of the individual payloads, in order, and conform. -/
theorem C05_collection (σ : SSchema) (hσ : σ.WF) (l : List ResSke?) (rs : List AnyRes)
    (h : unmarshalList σ l = .ok rs) :
    Forall2 (fun x r => ∃ sk, x = some sk ∧ unmarshalResource σ sk = .ok r) l rs ∧
    ∀ r ∈ rs, Conforms σ r := by
  refine ⟨?_, unmarshalList_conforms hσ h⟩
  have := unmarshalList_ok h
  clear h
  induction this with
  | nil => exact .nil
  | @cons a b _ _ hab _ ih =>
    refine .cons ?_ ih
    cases a with
    | none => simp [unmarshalRes?] at hab
    | some sk => exact ⟨sk, rfl, hab⟩

/-- Documents: the primary data (one resource or a collection) and every included resource
conform. -/
theorem C05_document (σ : SSchema) (hσ : σ.WF) (sk : Option DocSke) (d : UDoc)
    (h : unmarshalDocument σ sk = .ok d) :
    (∀ r, d.data = .res r → Conforms σ r) ∧
    (∀ rs, d.data = .col rs → ∀ r ∈ rs, Conforms σ r) ∧
    (∀ r ∈ d.included, Conforms σ r) := by
  cases sk with
  | none => cases h
  | some sk =>
    obtain ⟨hinc, _, hdata⟩ := unmarshalDocument_ok h
    have none : d.data = .none → (∀ r, d.data = .res r → Conforms σ r) ∧
        ∀ rs, d.data = .col rs → ∀ r ∈ rs, Conforms σ r :=
      fun e => e ▸ ⟨nofun, nofun⟩
    refine and_assoc.1 ⟨?_, unmarshalList_conforms hσ hinc⟩
    split at hdata
    · obtain ⟨r, hx, e, _⟩ := hdata
      rw [e]
      exact ⟨fun _ e' => UDocData.res.inj e' ▸ unmarshalRes?_conforms hσ hx, nofun⟩
    · obtain ⟨rs, hx, e, _⟩ := hdata
      rw [e]
      exact ⟨nofun, fun _ e' => UDocData.col.inj e' ▸ unmarshalList_conforms hσ hx⟩
    · cases hdata
    · exact none hdata.1
    · cases hdata
    · exact none hdata.1

/-- Identifiers: what is returned is what was decoded, with non-empty ID and a type of the
schema. -/
theorem C05_identifiers (σ : SSchema) :
    (∀ d i, unmarshalIdentifier (some σ) d = .ok i →
      d = some i ∧ i.1 ≠ [] ∧ i.2 ≠ [] ∧ σ.toSchema.hasType i.2 = true) ∧
    (∀ l is, unmarshalIdentifiers (some σ) (some l) = .ok is →
      l = is.map some ∧ ∀ i ∈ is, i.1 ≠ [] ∧ i.2 ≠ [] ∧ σ.toSchema.hasType i.2 = true) :=
  ⟨fun _ _ h => (unmarshalIdentifier_ok h).imp id (.imp id (.imp id (· σ rfl))),
   fun _ _ h => (unmarshalIdentifiers_ok h).imp id fun q i hi =>
    (q i hi).imp id (.imp id (· σ rfl))⟩

/-! ### Non-vacuity -/

/-- Type "t": attribute "a" (int8, not nullable), to-one relationship "o" and to-many
relationship "m" to type "u". -/
def C05_exT : Typ :=
  { name := [116],
    attrs := [([97], { name := [97], ty := 3, nullable := false })],
    rels := [([111], { fromType := [116], fromName := [111], toOne := true, toType := [117], toName := [], fromOne := false }),
             ([109], { fromType := [116], fromName := [109], toOne := false, toType := [117], toName := [], fromOne := false })] }

/-- The same type under the name "w", struct-backed. -/
def C05_exW : Typ := { C05_exT with name := [119] }

def C05_exσ : SSchema := [{ typ := C05_exT, backed := false }, { typ := C05_exW, backed := true }]

/-- `{"id":"1","type":"t","attributes":{"a":-128},"relationships":{"o":{"data":{"id":"k","type":"u"}}}}` -/
def C05_exSk : ResSke :=
  { id := [49], typ := [116],
    attrs := [([97], { bytes := [45, 49, 50, 56], decStr := none, decTime := none, decBytes := none })],
    rels := [([111], { present := true, isNull := false, decIdent := some ([107], [117]), decIdents := none })],
    smeta := default }

theorem C05_exσ_wf : C05_exσ.WF := by unfold SSchema.WF; decide +kernel

/-- The payload is accepted: a = int8(-128), o = "k", m = [] and id = "1"; with 128 instead
of -128 it is rejected. -/
example :
    (match unmarshalResource C05_exσ C05_exSk with
      | .ok (.soft s) => [s.get [97], s.get [111], s.get [109], s.get idName] ==
          [.val .int8 (.i (-128)), .val .string (.s [107]), .strs [], .val .string (.s [49])]
      | _ => false) = true ∧
    (unmarshalResource C05_exσ { C05_exSk with
      attrs := [([97], { bytes := [49, 50, 56], decStr := none, decTime := none, decBytes := none })] }).isOk
      = false := by decide +kernel

example := C05_total C05_exσ C05_exσ_wf

/-- The same payload for the struct-backed type "w" is accepted as well (through
the lemma behind `C05_accept_iff`; `Wrap`'s sorted struct declaration does not reduce under `decide`), and
the result conforms. -/
example : ∃ r, unmarshalResource C05_exσ { C05_exSk with typ := [119] } = .ok r ∧ Conforms C05_exσ r := by
  obtain ⟨r, hr⟩ := (resource_accept C05_exσ_wf { C05_exSk with typ := [119] }).2
    ⟨{ typ := C05_exW, backed := true }, rfl, by decide, by decide⟩
  exact ⟨r, hr, C05_conforms _ C05_exσ_wf _ r hr⟩

end Jsonapi

section Axioms
open Jsonapi
#print axioms C05_parse_range
#print axioms C05_toType_hasType
#print axioms C05_total
#print axioms C05_total_identifiers
#print axioms C05_accept_iff
#print axioms C05_conforms
#print axioms C05_Conforms_def
#print axioms C05_type
#print axioms C05_collection
#print axioms C05_document
#print axioms C05_identifiers
#print axioms C05_exσ_wf
end Axioms
