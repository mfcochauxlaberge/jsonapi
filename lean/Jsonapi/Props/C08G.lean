/-
C08G — the re-parse theorems of C08 without the hypothesis on the label's first byte.

`C08_reparse`, `C08F_reparse`, `C08F_reparse_real` and `C07B_reparse` carry the hypothesis
  hbrace : u.params.filterLabel ≠ [] → (labelBody u.params.filterLabel).head? ≠ some 123
(the JSON body of the filter label does not start with `{`), which the property text does
not have. The hypothesis is not needed: url.go's `URL.String` rewrites a leading `{` of the
label body to the JSON escape backslash-u-0-0-7-b (so that `NewSimpleURL`, which takes a
`filter` value starting with `{` for a filter object, reads the value as a label again). The
rewrite is part of the model (`rewriteBrace` in Model/Url.lean, applied inside `URL.string`;
the harness hands over `json.Marshal(label)` without its quotes, unrewritten, and the suites
`url` / `urlraw` compare the real `String()` with the model's on labels starting with `{`
too), the label decoder is proved to read the rewritten body like the body itself
(`FjL.labelDec_rewriteBrace`: the string reader decodes the escape to the byte `{`), and the
four theorems are restated here WITHOUT `hbrace`.
The theorems with `hbrace` are instances of these (their `hbrace` makes the rewrite the identity).
What remains excluded is the known finding C08-type-without-fields (`NoEmptySelection`).
-/
import Jsonapi.Props.C07B
namespace Jsonapi
open FjL UrlL

/-! ### the codec laws, for the body as `String()` emits it -/

/-- What is assumed of the delegated JSON codec (compare `CodecLaws`): `labelBody l` is
`json.Marshal(l)` without the quotes, `labelDec v` is `json.Unmarshal("\"" + v + "\"")` into a
string; `label_rt` says that the decoder recovers the label from the body as `String()` writes
it, that is with a leading `{` rewritten to its escape (`rewriteBrace`). -/
structure CodecLawsG (labelDec filterDec : GoString → Option GoString)
    (labelBody : GoString → GoString) (Canon : GoString → Prop) : Prop where
  label_rt : ∀ l, labelDec (rewriteBrace (labelBody l)) = some l
  label_ne : ∀ l, l ≠ [] → labelBody l ≠ []
  filter_rt : ∀ f, Canon f → filterDec f = some f
  canon_head : ∀ f, Canon f → f.head? = some 123

theorem C08G_laws_of (labelDec filterDec : GoString → Option GoString)
    (labelBody : GoString → GoString) (Canon : GoString → Prop)
    (laws : CodecLaws labelDec filterDec labelBody Canon)
    (hb : ∀ v, labelDec (rewriteBrace v) = labelDec v) :
    CodecLawsG labelDec filterDec labelBody Canon :=
  ⟨fun l => by rw [hb]; exact laws.label_rt l, laws.label_ne, laws.filter_rt, laws.canon_head⟩

/-- The label decoder of the model (`json.Unmarshal` of the quoted value into a string) reads
a body whose leading `{` was rewritten exactly like the body itself, for EVERY value; hence
the label is recovered from what `String()` writes, whatever its first byte. -/
theorem C08G_label_rt (v l : GoString) :
    labelDec (rewriteBrace v) = labelDec v ∧ labelDec (rewriteBrace (labelBody l)) = some l ∧
    labelDec (labelBodyEmitted l) = some l ∧ (rewriteBrace v).head? ≠ some 123 :=
  ⟨labelDec_rewriteBrace v, by rw [labelDec_rewriteBrace]; exact C08F_label_rt l,
    labelDec_labelBodyEmitted l, rewriteBrace_head v⟩

/-- The same for Go's writer with its U+FFFD replacement, on well-formed UTF-8 labels (all a
parsed URL can hold). -/
theorem C08G_label_rt_valid (l : GoString) (h : utf8Valid l = true) :
    labelDec (rewriteBrace (goLabelBody l)) = some l := by
  rw [labelDec_rewriteBrace]; exact (C08F_label_rt_valid l h).2

theorem C08G_real_codecs (nc : GoString → GoString) (hnc : NumCanonLaws nc) :
    CodecLawsG labelDec (filterDec nc) labelBody (fun f => ∃ x, filterDec nc x = some f) :=
  C08G_laws_of _ _ _ _ (C08F_real_codecs nc hnc) labelDec_rewriteBrace

/-! ### re-parsing -/

/-- The re-parse statement of C08 (`C08_reparse_statement`) without the hypothesis on the
label's first byte, under `CodecLawsG`. -/
def C08G_reparse_statement (excl : URL → Prop) : Prop :=
  ∀ (σ : Schema) (path : GoString) (values : GoMap (List GoString)) (fd : FilterDec) (u : URL)
    (labelDec filterDec : GoString → Option GoString) (labelBody : GoString → GoString)
    (Canon : GoString → Prop),
    Inv σ → NamesOK σ → CodecLawsG labelDec filterDec labelBody Canon →
    newURLFrom σ (some (path, values, fd)) = .ok u → values.keys.Nodup → excl u →
    (∀ f, u.params.filter = some f → Canon f) →
    ∃ u',
      Spec.parseRaw (u.string (c08_env labelBody u)) =
        some (Spec.emittedPath u, Spec.emittedValues u (c08_env labelBody u)) ∧
      newURLFrom σ (some (Spec.emittedPath u, Spec.emittedValues u (c08_env labelBody u),
        c08_reparseFd labelDec filterDec (Spec.emittedValues u (c08_env labelBody u)))) = .ok u' ∧
      u'.fragments = u.fragments ∧ u'.resType = u.resType ∧ u'.resID = u.resID ∧
      u'.rel = u.rel ∧ u'.isCol = u.isCol ∧
      (∀ t, (u'.params.fields.get? t).map Typ.sortStrings =
            (u.params.fields.get? t).map Typ.sortStrings) ∧
      u'.params.sortingRules = u.params.sortingRules ∧
      (u.isCol = true → ∀ k, u'.params.page.get? k = u.params.page.get? k) ∧
      u'.params.filterLabel = u.params.filterLabel ∧ u'.params.filter = u.params.filter ∧
      u'.string (c08_env labelBody u') = u.string (c08_env labelBody u)

/-- `C08_reparse` without `hbrace`. For a URL returned by `NewURLFromRaw` whose selections are
all non-empty, `String()` — which writes the label body with a leading `{` rewritten to its
JSON escape — parses to exactly the emitted parameters, `NewURLFromRaw` accepts them and
recovers fragments, resource type and ID, relationship, collection flag, the field selection
(as sets), the sorting rules, the page parameters of collection URLs, the filter label —
WHATEVER ITS FIRST BYTE — and the filter; and `String()` of the result is the same text.

Hypotheses beyond the informal statement: `NamesOK σ` (no comma in field names, no attribute
name starting with '-': the quantifier of the property, "names are JSON:API member names"),
unique parameter names in the original values map (a Go map), the codec laws, canonical
filter text, and the exclusion of the known finding (`NoEmptySelection`). -/
theorem C08G_reparse : C08G_reparse_statement NoEmptySelection :=
  fun σ path values fd u labelDec filterDec labelBody Canon hσ hn laws h hvnd hne hcanon =>
    C08_reparse_of σ path values fd u labelDec filterDec labelBody Canon hσ hn laws.canon_head
      laws.filter_rt laws.label_ne (fun _ => laws.label_rt _) h hvnd hne hcanon

/-- `C08F_reparse` without `hbrace`: the codec is the modelled one (nothing assumed of it), the
filter of the URL (if any) is the canonical text of some accepted text. -/
theorem C08G_reparse_codec (nc : GoString → GoString) (hnc : NumCanonLaws nc)
    (σ : Schema) (path : GoString) (values : GoMap (List GoString)) (fd : FilterDec) (u : URL)
    (hσ : Inv σ) (hn : NamesOK σ) (h : newURLFrom σ (some (path, values, fd)) = .ok u)
    (hv : values.keys.Nodup) (hne : NoEmptySelection u)
    (hcanon : ∀ f, u.params.filter = some f → ∃ x, filterDec nc x = some f) :
    ∃ u',
      Spec.parseRaw (u.string (c08_env labelBody u)) =
        some (Spec.emittedPath u, Spec.emittedValues u (c08_env labelBody u)) ∧
      newURLFrom σ (some (Spec.emittedPath u, Spec.emittedValues u (c08_env labelBody u),
        c08_reparseFd labelDec (filterDec nc) (Spec.emittedValues u (c08_env labelBody u)))) = .ok u' ∧
      u'.fragments = u.fragments ∧ u'.resType = u.resType ∧ u'.resID = u.resID ∧
      u'.rel = u.rel ∧ u'.isCol = u.isCol ∧
      (∀ t, (u'.params.fields.get? t).map Typ.sortStrings =
            (u.params.fields.get? t).map Typ.sortStrings) ∧
      u'.params.sortingRules = u.params.sortingRules ∧
      (u.isCol = true → ∀ k, u'.params.page.get? k = u.params.page.get? k) ∧
      u'.params.filterLabel = u.params.filterLabel ∧ u'.params.filter = u.params.filter ∧
      u'.string (c08_env labelBody u') = u.string (c08_env labelBody u) :=
  C08G_reparse σ path values fd u labelDec (filterDec nc) labelBody
    (fun f => ∃ x, filterDec nc x = some f) hσ hn (C08G_real_codecs nc hnc) h hv hne hcanon

/-- `C08F_reparse_real` without `hbrace`: for a URL parsed with the modelled decoders on its
own `filter` parameter (what simple_url.go computes from the values map) nothing is assumed
of the codec, of the filter or of the label. The hypotheses left are those on the schema
(`Inv`, `NamesOK`), the unique keys of the values map (a Go map) and the exclusion of the
known finding C08-type-without-fields. -/
theorem C08G_reparse_real (nc : GoString → GoString) (hnc : NumCanonLaws nc)
    (σ : Schema) (path : GoString) (values : GoMap (List GoString)) (u : URL)
    (hσ : Inv σ) (hn : NamesOK σ)
    (h : newURLFrom σ (some (path, values, c08_reparseFd labelDec (filterDec nc) values)) = .ok u)
    (hv : values.keys.Nodup) (hne : NoEmptySelection u) :
    ∃ u',
      Spec.parseRaw (u.string (c08_env labelBody u)) =
        some (Spec.emittedPath u, Spec.emittedValues u (c08_env labelBody u)) ∧
      newURLFrom σ (some (Spec.emittedPath u, Spec.emittedValues u (c08_env labelBody u),
        c08_reparseFd labelDec (filterDec nc) (Spec.emittedValues u (c08_env labelBody u)))) = .ok u' ∧
      u'.fragments = u.fragments ∧ u'.resType = u.resType ∧ u'.resID = u.resID ∧
      u'.rel = u.rel ∧ u'.isCol = u.isCol ∧
      (∀ t, (u'.params.fields.get? t).map Typ.sortStrings =
            (u.params.fields.get? t).map Typ.sortStrings) ∧
      u'.params.sortingRules = u.params.sortingRules ∧
      (u.isCol = true → ∀ k, u'.params.page.get? k = u.params.page.get? k) ∧
      u'.params.filterLabel = u.params.filterLabel ∧ u'.params.filter = u.params.filter ∧
      u'.string (c08_env labelBody u') = u.string (c08_env labelBody u) :=
  C08G_reparse_codec nc hnc σ path values _ u hσ hn h hv hne
    (fun f hf => ⟨_, C08F_parsed_filter σ path values _ u h f hf⟩)

/-- `C07B_reparse` without `hbrace`: through the full net/url model and the modelled JSON
codec, from raw string to raw string. If `NewURLFromRaw(raw)` returns `u`, then
`NewURLFromRaw(u.String())` returns a URL with the same fragments, resource type and ID,
relationship, field selection (as sets), sorting rules, page parameters (collection URLs),
filter label and filter, and the same `String()`. Hypotheses: schema invariant, member names,
no empty field selection (known finding C08-type-without-fields). -/
theorem C07G_reparse (nc : GoString → GoString) (hnc : NumCanonLaws nc) (σ : Schema)
    (raw : GoString) (u : URL) (hσ : Inv σ) (hn : NamesOK σ)
    (h : newURLFromRawReal nc σ raw = .ok u) (hne : NoEmptySelection u) :
    ∃ u', newURLFromRawReal nc σ (u.string (c08_env labelBody u)) = .ok u' ∧
      u'.fragments = u.fragments ∧ u'.resType = u.resType ∧ u'.resID = u.resID ∧
      u'.rel = u.rel ∧ u'.isCol = u.isCol ∧
      (∀ t, (u'.params.fields.get? t).map Typ.sortStrings =
            (u.params.fields.get? t).map Typ.sortStrings) ∧
      u'.params.sortingRules = u.params.sortingRules ∧
      (u.isCol = true → ∀ k, u'.params.page.get? k = u.params.page.get? k) ∧
      u'.params.filterLabel = u.params.filterLabel ∧ u'.params.filter = u.params.filter ∧
      u'.string (c08_env labelBody u') = u.string (c08_env labelBody u) := by
  obtain ⟨path, values, _, hnd, hu⟩ := C07B_parsed σ _ raw u h
  rw [C07B_rawFd_eq] at hu
  obtain ⟨u', hparse, hu', rest⟩ := C08G_reparse_real nc hnc σ path values u hσ hn hu hnd hne
  refine ⟨u', ?_, rest⟩
  have hfr := C07B_fragments_nonempty σ path values _ u hu
  unfold newURLFromRawReal newURLFromRaw
  rw [C07B_extends_parseRaw _ (C07B_string_plainRef u _ hfr), hparse]
  exact hu'

/-- `C08_reparse` is an instance of `C08G_reparse`: under `hbrace` and `CodecLaws`, the
decoder law for the emitted body holds for the label at hand (the rewrite is the identity
there), which is all `C08G_reparse` uses; so `C08G_reparse` is not weaker than `C08_reparse`
on the labels the latter covers. (Stated for the law itself.) -/
theorem C08G_covers_old (labelDec filterDec : GoString → Option GoString)
    (labelBody : GoString → GoString) (Canon : GoString → Prop)
    (laws : CodecLaws labelDec filterDec labelBody Canon) (l : GoString)
    (hbrace : (labelBody l).head? ≠ some 123) :
    labelDec (rewriteBrace (labelBody l)) = some l := by
  rw [rewriteBrace_of_head _ hbrace]; exact laws.label_rt l

/-! ### non-vacuity: a label that starts with `{` -/

theorem c08g_σ_inv : Inv { types := [c08_tAs] } := by decide +kernel
theorem c08g_σ_names : NamesOK { types := [c08_tAs] } := by decide +kernel
/-- the values map of `/as?filter=%5Cu007ba` (the filter value is backslash-u007ba) -/
def c08g_values : GoMap (List GoString) := [(sFilter, [[92, 117, 48, 48, 55, 98, 97]])]

/-- `NewURLFromRaw` on it: the label is `{a` -/
def c08g_u : URL :=
  { fragments := [[97, 115]], isCol := true, resType := [97, 115], resID := [], rel := default,
    params := { fields := [([97, 115], [[120]])], filterLabel := [123, 97], filter := none,
                sortingRules := [[120], idName], page := [], incl := [] } }

/-- the modelled decoders on the value: the label `{a`, no filter -/
theorem c08g_fd : c08_reparseFd labelDec (filterDec id) c08g_values =
    { label := some [123, 97], filter := none } := by
  unfold c08_reparseFd
  have h1 : labelDec (firstVal ((c08g_values.get? sFilter).getD [])) = some [123, 97] := by decide +kernel
  have h2 : filterDec id (firstVal ((c08g_values.get? sFilter).getD [])) = none := by decide +kernel
  rw [h1, h2]

theorem c08g_eval : newURLFrom { types := [c08_tAs] }
    (some ([47, 97, 115], c08g_values, c08_reparseFd labelDec (filterDec id) c08g_values)) =
    .ok c08g_u := by
  rw [c08g_fd]
  refine (eval_no_incl _ _ _ _ _ _ _ rfl rfl rfl ?_ rfl).trans rfl
  decide +kernel

theorem c08g_noEmpty : NoEmptySelection c08g_u := by
  intro t fs h
  have : (c08g_u.params.fields.get? t) = if [97, 115] = t then some [[120]] else none := by
    simp [c08g_u, GoMap.get?]
  rw [this] at h
  split at h
  · cases h; decide +kernel
  · cases h

/-- ALL hypotheses of `C08G_reparse_real` hold together for the URL of `/as?filter=%5Cu007ba`,
whose label `{a` starts with `{` and whose JSON body `{a` starts with `{` (the case the
theorems with `hbrace` exclude). -/
example :
    NumCanonLaws id ∧ Inv { types := [c08_tAs] } ∧ NamesOK { types := [c08_tAs] } ∧
    newURLFrom { types := [c08_tAs] }
      (some ([47, 97, 115], c08g_values, c08_reparseFd labelDec (filterDec id) c08g_values)) =
      .ok c08g_u ∧
    c08g_values.keys.Nodup ∧ NoEmptySelection c08g_u ∧
    c08g_u.params.filterLabel = [123, 97] ∧
    (labelBody c08g_u.params.filterLabel).head? = some 123 :=
  ⟨C08F_numCanon_id, c08g_σ_inv, c08g_σ_names, c08g_eval, by decide +kernel, c08g_noEmpty, rfl, by decide +kernel⟩

/-- … and the theorem applied to it: `String()` is `/as?fields%5Bas%5D=x&filter=%5Cu007ba&sort=x%2Cid`
and re-parsing it gives the label `{a` back. -/
theorem C08G_brace_label_roundtrip :
    c08g_u.string (c08_env labelBody c08g_u) =
      gs "/as?fields%5Bas%5D=x&filter=%5Cu007ba&sort=x%2Cid" ∧
    ∃ u', newURLFrom { types := [c08_tAs] }
        (some (Spec.emittedPath c08g_u, Spec.emittedValues c08g_u (c08_env labelBody c08g_u),
          c08_reparseFd labelDec (filterDec id)
            (Spec.emittedValues c08g_u (c08_env labelBody c08g_u)))) = .ok u' ∧
      u'.params.filterLabel = [123, 97] ∧
      u'.string (c08_env labelBody u') = gs "/as?fields%5Bas%5D=x&filter=%5Cu007ba&sort=x%2Cid" := by
  have hs : c08g_u.string (c08_env labelBody c08g_u) =
      gs "/as?fields%5Bas%5D=x&filter=%5Cu007ba&sort=x%2Cid" := eq_gs (by decide +kernel)
  refine ⟨hs, ?_⟩
  obtain ⟨u', _, h', _, _, _, _, _, _, _, _, hl, _, hstr⟩ :=
    C08G_reparse_real id C08F_numCanon_id _ _ _ _ c08g_σ_inv c08g_σ_names c08g_eval (by decide +kernel)
      c08g_noEmpty
  exact ⟨u', h', hl, by rw [hstr, hs]⟩

/-- the hypotheses of `C07G_reparse` on the raw string `/as?filter=%5Cu007ba` -/
example : newURLFromRawReal id { types := [c08_tAs] } (gs "/as?filter=%5Cu007ba") = .ok c08g_u := by
  unfold newURLFromRawReal newURLFromRaw
  have hp : Spec.goUrlParse (gs "/as?filter=%5Cu007ba") = some ([47, 97, 115], c08g_values) := by
    rw [gs_ofList]; decide +kernel
  rw [hp]
  exact c08g_eval

/-- the rewrite on the three kinds of body: leading brace, no leading brace, empty -/
example : rewriteBrace [123, 34, 97, 34, 58, 49] = [92, 117, 48, 48, 55, 98, 34, 97, 34, 58, 49] := by
  decide +kernel
example : rewriteBrace [120, 123] = [120, 123] := by decide +kernel
example : rewriteBrace [] = [] := by decide +kernel
/-- the decoder on a rewritten body, evaluated: the label `{` alone -/
example : labelDec (rewriteBrace (labelBody [123])) = some [123] := by decide +kernel

end Jsonapi

section Axioms
open Jsonapi
#print axioms C08G_laws_of
#print axioms C08G_label_rt
#print axioms C08G_label_rt_valid
#print axioms C08G_real_codecs
#print axioms C08G_reparse
#print axioms C08G_reparse_codec
#print axioms C08G_reparse_real
#print axioms C07G_reparse
#print axioms C08G_covers_old
#print axioms C08G_brace_label_roundtrip
end Axioms
