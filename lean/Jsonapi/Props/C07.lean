/-
C07 — NewURLFromRaw is total and its result is valid for the schema.

"For any raw URL string and any schema, parsing returns without panicking, with either an
error or a URL. In a returned URL the resource type exists in the schema, every
field-selection entry names a schema type and lists only that type's fields (or id)
without duplicates, defaulting to all of the type's fields, and every inclusion path is a
chain of relationships that exists in the schema from the resource type, each valid
requested path being kept unless a longer requested path extends it. For collection URLs
the sorting rules keep the caller's valid rules in order, mention only id or attributes
of the type, and always contain id."

`url.Parse` + `Query()` are delegated: `parsed` is anything they can return (`none`: the
raw string does not parse; otherwise the decoded path, the values map — any association
list, whose order stands for Go's map iteration order — and the standard library's decode
results for the filter parameter). "Every schema" is `Inv σ` (what the schema API
maintains); relationships may point to missing types.
-/
import Jsonapi.Proofs.UrlLemmas
import Jsonapi.Proofs.UrlReparseLemmas
import Jsonapi.Proofs.UrlPermLemmas3
namespace Jsonapi
open UrlL

/-- 1. Parsing never panics: the result is an error or a URL. -/
theorem C07_total (σ : Schema) (parsed : Option (GoString × GoMap (List GoString) × FilterDec)) :
    newURLFrom σ parsed ≠ .panic :=
  newURLFrom_no_panic σ parsed

/-- 2. The resource type of a returned URL exists in the schema (no hypothesis on the
schema is needed). -/
theorem C07_restype (σ : Schema) (_hσ : Inv σ)
    (parsed : Option (GoString × GoMap (List GoString) × FilterDec)) (u : URL)
    (h : newURLFrom σ parsed = .ok u) : σ.hasType u.resType = true := by
  obtain ⟨path, values, fd, su, _, _, hu⟩ := newURLFrom_ok σ parsed u h
  exact restype_ok σ su u hu

/-- 3. Every field-selection entry names a schema type and lists distinct names that are
`id` or fields of that type; and every type has at most one entry. -/
theorem C07_fields (σ : Schema) (hσ : Inv σ)
    (parsed : Option (GoString × GoMap (List GoString) × FilterDec)) (u : URL)
    (h : newURLFrom σ parsed = .ok u) :
    (∀ t fs, u.params.fields.get? t = some fs →
      σ.hasType t = true ∧ (∀ f ∈ fs, f = idName ∨ f ∈ (σ.getType t).fields) ∧ fs.Nodup) ∧
    u.params.fields.keys.Nodup := by
  obtain ⟨path, values, fd, su, _, _, hu⟩ := newURLFrom_ok σ parsed u h
  exact params_fields hσ (restype_ok σ su u hu) (newURL_parts hu).1

/-- 3 (default). When the request for `t` — the first value of a `fields[t]` parameter,
split at commas — contains no valid name (in particular when there is no such parameter),
the selection is all of the type's fields. -/
theorem C07_fields_default (σ : Schema) (path : GoString) (values : GoMap (List GoString))
    (fd : FilterDec) (u : URL) (h : newURLFrom σ (some (path, values, fd)) = .ok u)
    (t : GoString) (fs : List GoString) (hget : u.params.fields.get? t = some fs)
    (hreq : ∀ vs, (Spec.fieldsName t, vs) ∈ values →
      ∀ f ∈ parseCommaList (firstVal vs), f ≠ idName ∧ f ∉ (σ.getType t).fields) :
    fs = (σ.getType t).fields := by
  obtain ⟨path', values', fd', su, hpar, hsu, hu⟩ := newURLFrom_ok σ _ u h
  cases hpar
  refine params_fields_default (newURL_parts hu).1 t fs hget ?_
  intro q hq
  obtain ⟨_, vs, hvs, hq2⟩ := newSimpleURL_fields hsu (t, q) hq
  have hq2' : q = parseCommaList (firstVal vs) := hq2
  rw [hq2']
  exact hreq vs hvs

/-- 4. Every inclusion path is a non-empty chain of relationships that exists in the schema
from the resource type. -/
theorem C07_include_valid (σ : Schema) (hσ : Inv σ)
    (parsed : Option (GoString × GoMap (List GoString) × FilterDec)) (u : URL)
    (h : newURLFrom σ parsed = .ok u) :
    ∀ path ∈ u.params.incl, path ≠ [] ∧ Spec.validChain σ u.resType path = true := by
  obtain ⟨path, values, fd, su, _, _, hu⟩ := newURLFrom_ok σ parsed u h
  exact params_incl_valid hσ (newURL_parts hu).1

/-- 5. Each requested path that resolves against the schema is kept unless a longer
requested path extends it (`q'` starts with `q ++ "."`). -/
theorem C07_include_kept (σ : Schema) (path : GoString) (values : GoMap (List GoString))
    (fd : FilterDec) (u : URL) (h : newURLFrom σ (some (path, values, fd)) = .ok u)
    (q : GoString) (hq : q ∈ Spec.requestedIncludes values) (rels : List Rel)
    (hr : resolvePath σ u.resType (splitOn 46 q) = some rels) :
    rels ∈ u.params.incl ∨
      ∃ q' ∈ Spec.requestedIncludes values, hasPrefix q' (q ++ [46]) = true := by
  obtain ⟨path', values', fd', su, hpar, hsu, hu⟩ := newURLFrom_ok σ _ u h
  cases hpar
  rw [← newSimpleURL_incl hsu]
  exact params_incl_kept (newURL_parts hu).1 q (newSimpleURL_incl hsu ▸ hq) rels hr

/-- 6. For a collection URL the sorting rules start with the caller's valid rules in
order, every rule is an attribute name or names (after an optional '-') `id` or an
attribute of the type, and some rule names `id`. -/
theorem C07_sort (σ : Schema) (path : GoString) (values : GoMap (List GoString))
    (fd : FilterDec) (u : URL) (h : newURLFrom σ (some (path, values, fd)) = .ok u)
    (hcol : u.isCol = true) :
    Spec.validRules σ u.resType (Spec.requestedRules values) <+: u.params.sortingRules ∧
    (∀ rule ∈ u.params.sortingRules,
      rule ∈ (σ.getType u.resType).attrs.vals.map (·.name) ∨ Spec.stripDash rule = idName ∨
      Spec.stripDash rule ∈ (σ.getType u.resType).attrs.vals.map (·.name)) ∧
    (∃ rule ∈ u.params.sortingRules, Spec.stripDash rule = idName) := by
  obtain ⟨path', values', fd', su, hpar, hsu, hu⟩ := newURLFrom_ok σ _ u h
  cases hpar
  obtain ⟨fm, _, _, _, _, hs, _, _⟩ := newParams_ok (newURL_parts hu).1
  rw [hs, ← newSimpleURL_sort hsu]
  exact pRules_facts σ su u.resType ((isCol_agree hu).trans hcol)

/-- 6 (as worded). When no attribute name of the type starts with '-', every rule names
(after an optional '-') `id` or an attribute of the type. -/
theorem C07_sort_names (σ : Schema) (path : GoString) (values : GoMap (List GoString))
    (fd : FilterDec) (u : URL) (h : newURLFrom σ (some (path, values, fd)) = .ok u)
    (hcol : u.isCol = true)
    (hdash : ∀ a ∈ (σ.getType u.resType).attrs.vals.map (·.name), a.head? ≠ some 45) :
    ∀ rule ∈ u.params.sortingRules, Spec.stripDash rule = idName ∨
      Spec.stripDash rule ∈ (σ.getType u.resType).attrs.vals.map (·.name) := by
  intro rule hr
  rcases (C07_sort σ path values fd u h hcol).2.1 rule hr with e | e
  · right; rw [stripDash_of_no_dash (hdash rule e)]; exact e
  · exact e

/-- The condition `newParams` itself uses to decide "collection" agrees with `u.isCol`. -/
theorem C07_isCol_agree (σ : Schema) (su : SimpleURL) (u : URL) (h : newURL σ su = .ok u) :
    pIsCol σ su = u.isCol := isCol_agree h


/-! ### 7. Go's map iteration order -/

/-- Whether parsing succeeds does not depend on the order in which the (uniquely named)
query parameters are visited. -/
theorem C07_order_independent_isOk (σ : Schema) (p : GoString)
    (values₁ values₂ : GoMap (List GoString)) (fd : FilterDec)
    (hp : values₁.Perm values₂) (hnd : values₁.keys.Nodup) :
    (newURLFrom σ (some (p, values₁, fd))).isOk = (newURLFrom σ (some (p, values₂, fd))).isOk :=
  Perm.order_independent_isOk σ p values₁ values₂ fd hp hnd

/-- … nor does the URL: only the association-list order of the fields / page maps (and which
error is reported) can differ; in particular `String()` is the same. -/
theorem C07_order_independent (σ : Schema) (p : GoString)
    (values₁ values₂ : GoMap (List GoString)) (fd : FilterDec)
    (hp : values₁.Perm values₂) (hnd : values₁.keys.Nodup) (u₁ u₂ : URL)
    (h₁ : newURLFrom σ (some (p, values₁, fd)) = .ok u₁)
    (h₂ : newURLFrom σ (some (p, values₂, fd)) = .ok u₂) :
    u₁.fragments = u₂.fragments ∧ u₁.isCol = u₂.isCol ∧ u₁.resType = u₂.resType ∧
    u₁.resID = u₂.resID ∧ u₁.rel = u₂.rel ∧
    u₁.params.sortingRules = u₂.params.sortingRules ∧ u₁.params.filterLabel = u₂.params.filterLabel ∧
    u₁.params.filter = u₂.params.filter ∧ u₁.params.incl = u₂.params.incl ∧
    (∀ t, u₁.params.fields.get? t = u₂.params.fields.get? t) ∧
    (∀ k, u₁.params.page.get? k = u₂.params.page.get? k) ∧
    u₁.params.fields.keys.Nodup ∧ u₂.params.fields.keys.Nodup ∧
    u₁.params.page.keys.Nodup ∧ u₂.params.page.keys.Nodup ∧
    ∀ env, u₁.string env = u₂.string env :=
  Perm.order_independent σ p values₁ values₂ fd hp hnd u₁ u₂ h₁ h₂

/-! ### why `C07_sort_names` needs its hypothesis: an attribute named "-x" -/

def c07_tT : Typ :=
  { name := [116], attrs := [([45, 120], { name := [45, 120], ty := 1, nullable := false })],
    rels := [] }
def c07_σ : Schema := { types := [c07_tT] }

theorem c07_σ_inv : Inv c07_σ := by decide +kernel
/-- For the (well-formed) schema with a type "t" whose only attribute is named "-x",
`NewURLFromRaw("/t")` returns the sorting rules `["-x", "id"]`: the rule "-x" reads as
"descending by x", and "x" is not an attribute. -/
theorem C07_sort_dash_counterexample :
    ∃ u, newURLFrom c07_σ (some ([47, 116], [], { label := none, filter := none })) = .ok u ∧
      u.isCol = true ∧ u.params.sortingRules = [[45, 120], idName] ∧
      ¬ (Spec.stripDash [45, 120] = idName ∨
         Spec.stripDash [45, 120] ∈ (c07_σ.getType u.resType).attrs.vals.map (·.name)) := by
  exact ⟨_, eval_no_incl _ _ _ _ _ _ _ rfl rfl rfl (by decide +kernel) rfl, rfl, by decide +kernel,
    by decide +kernel⟩

/-! ### non-vacuity -/

example : (newURLFrom c07_σ (some ([47, 116], [(sSort, [[105, 100]])],
    { label := none, filter := none }))).isOk = true := by decide +kernel

example : Spec.validRules c07_σ [116] [[120], [45, 45, 120], idName] = [[45, 45, 120], idName] := by
  decide +kernel

#print axioms C07_total
#print axioms C07_restype
#print axioms C07_fields
#print axioms C07_fields_default
#print axioms C07_include_valid
#print axioms C07_include_kept
#print axioms C07_sort
#print axioms C07_sort_names
#print axioms C07_isCol_agree
#print axioms C07_order_independent_isOk
#print axioms C07_order_independent
#print axioms C07_sort_dash_counterexample

end Jsonapi
