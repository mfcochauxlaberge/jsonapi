/-
T1b for C10: the type-switch core of filter.go translated from the source on
this run - `checkVal` (29 cases over the Go types of attribute values and their pointer forms: the 28 arms
`case T:` / `case *T:` of Proofs/GenC10bLemmas and `[]string`, with the nil handling and the type assertions on the filter's value), `checkBytes` and
`checkSlice` - is the hand-written model of Model/Filter.lean on every operator string and every
pair of values that are images of Go values. A failed type assertion is `Res.panic` on both
sides. One difference between code and model was found on ill-typed pairs (outside C10's
domain): see `Gen_checkVal_differs_nil_ptr_other_type`.
-/
import Jsonapi.Proofs.GenC10bLemmas
namespace Jsonapi
set_option linter.unusedSimpArgs false
set_option linter.unusedVariables false

/-- filter.go `checkVal`, for every operator, every pair of values that are images of Go values
(`GoVal.WF`: the payload has the shape and the range of its kind) and every answer `same'` to the
comparisons of two non-nil pointers (which the model of values does not determine). The
hypothesis `CheckValDomain` is forced by the code: see the next theorem. -/
theorem Gen_checkVal_eq (same' : Nat → List Nat → Bool) (op : GoString) (rval cval : GoVal)
    (hr : rval.WF) (hc : cval.WF) (hd : CheckValDomain op rval cval) :
    Gen.checkVal op rval cval same' = checkVal op rval cval := by
  cases rval with
  | val k p =>
    rw [checkVal_val_gen]
    exact (Gen_checkVal_valArm same' op k).eq (kindCmp k).readBy
      (fun p p' => match cmpPay op p p' with | some b => .ok b | none => .panic)
      (fun a b => by rw [(kindCmp k).r_eq]) cval hc p hr
  | ptr k p =>
    rw [checkVal_ptr_gen, ← (nilCmp_eq op).1, ← (nilCmp_eq op).2]
    refine (Gen_checkVal_ptrArm same' op k).eq (kindCmp k).readBy
      (fun p p' => match cmpPay op p p' with | some b => .ok b | none => .panic)
      (fun _ a b => by rw [(kindCmp k).r_eq]) cval hc p hr (fun hp hq => ?_)
    rcases hd k (by rw [hp]) with ⟨q, rfl⟩ | rfl | rfl
    · exact absurd rfl (hq q)
    · rfl
    · rfl
  | strs a =>
    rw [checkVal_strs_gen]
    cases cval with
    | strs b => exact Gen_checkSlice_eq op a b
    | _ => rfl
  | nil => exact (checkVal_nil op cval).symm
  | other t => exact (checkVal_other op t cval).symm

/-- Code and model differ on an ill-typed pair: a nil `*string` attribute against a filter
value of another Go type under an ordering operator. The code returns false without asserting the
type of the filter's value (the assertion sits behind `rval == nil ||` and inside `case "=", "!="`),
the hand-written model panics as for every other ill-typed pair. Such filters are outside C10's
domain (`WellTyped`). -/
theorem Gen_checkVal_differs_nil_ptr_other_type (same' : Nat → List Nat → Bool) :
    Gen.checkVal [60] (.ptr .string none) (.val .int (.i 5)) same' = .ok false ∧
    checkVal [60] (.ptr .string none) (.val .int (.i 5)) = .panic := by
  constructor
  · rfl
  · rw [checkVal_ptr_gen]

theorem Kind.mem_all (k : Kind) : k ∈ Kind.all := by cases k <;> decide

/-- `*T` is the Go type of no value but a pointer of the kind `T` (the table of `Kind.goName`, evaluated) -/
theorem goType_ptr_table : ∀ k ∈ Kind.all, ∀ k' ∈ Kind.all,
    ("*" ++ k.goName = "*" ++ k'.goName → k = k') ∧ "*" ++ k.goName ≠ k'.goName ∧
    "*" ++ k.goName ≠ "[]string" ∧ "*" ++ k.goName ≠ "<nil>" ∧ "*" ++ k.goName ≠ "other" := by
  decide +kernel

/-- With a filter value of the attribute's own Go type (the well-typed case) no hypothesis about
the operator is needed. -/
theorem Gen_checkVal_eq_same_type (same' : Nat → List Nat → Bool) (op : GoString) (rval cval : GoVal)
    (hr : rval.WF) (hc : cval.WF) (ht : rval.goType = cval.goType) :
    Gen.checkVal op rval cval same' = checkVal op rval cval := by
  apply Gen_checkVal_eq same' op rval cval hr hc
  intro k hk
  subst hk
  left
  have tbl := fun k' => goType_ptr_table k k.mem_all k' k'.mem_all
  cases cval with
  | ptr k' p' => exact ⟨p', by rw [(tbl k').1 ht]⟩
  | val k' p' => exact absurd ht (tbl k').2.1
  | strs l => exact absurd ht (tbl k).2.2.1
  | nil => exact absurd ht (tbl k).2.2.2.1
  | other t => exact absurd ht (tbl k).2.2.2.2

end Jsonapi

section Axioms
open Jsonapi
#print axioms Gen_checkBytes_eq
#print axioms Gen_checkSlice_eq
#print axioms Gen_checkVal_eq
#print axioms Gen_checkVal_differs_nil_ptr_other_type
#print axioms Gen_checkVal_eq_same_type
end Axioms
