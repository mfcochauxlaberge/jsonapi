/-
C06W — the last clause of C06 as ONE theorem about a whole resource:

"… and re-marshaling the result reproduces the payload's id, type, attributes and
relationship linkage as the same JSON values."

`C06_remarshal`: for every well-formed schema (soft and struct-backed types), every resource
skeleton that `unmarshalResource` accepts with result `res`, every path prefix, every field
selection that lists all fields of the type, every relationship-data map that asks for all
relationships of the type and every meta, `marshalResource` of the view of `res` succeeds,
and in the tree it writes

* `id` and `type` are the payload's;
* for every attribute PRESENT in the payload the member of `attributes` is the canonical JSON
  of what the payload's literal denotes, `Spec.denotedJson` (Props/C06R.lean): the same number
  for an integer literal, the same boolean, the same string, the same instant in RFC 3339, the
  same byte string in canonical base64, null for null;
* for every attribute ABSENT from the payload the member is the encoding of the zero value;
* for every relationship whose payload object carries `data` the `data` member is the
  payload's linkage - to-one: null for `null`, the identifier for an identifier WITH A
  NON-EMPTY ID; to-many: the payload's identifiers SORTED BY ID (ascending, bytewise; repeats
  kept: `Typ.sortStrings`, the insertion sort standing for `sort.Strings`) - each with the
  relationship's target type, which is the type the payload's identifier carries;
* for the other relationships the empty linkage (`null` / `[]`).

EXCEPTION (known finding C06-toone-empty-id, pinned by TestUnmarshalPartialResource): a to-one
identifier whose id is empty (or missing) is accepted and re-marshals as `null`, not as the
payload's identifier. It is part of the statement (clause `id = [] → d = .null`, and the
hypothesis `id ≠ []` on the identifier clause); `C06W_known_toOne_empty_id` is the
whole-resource counterexample next to `C06_known_toOne_empty_id`.

Hypotheses on the skeleton, all true of what `encoding/json` hands over and discharged for the
byte-level entry point in `C06B_remarshal`: distinct keys in `attributes` / `relationships`
(Go maps); no raw value starts with '+' (no JSON value does; `strconv.ParseInt` alone would
take "+5": as in `C06_int`); the identifier decoded from `null` is the zero Identifier.
-/
import Jsonapi.Props.C06R
import Jsonapi.Props.C04M
import Jsonapi.Proofs.RoundTripResLemmas
import Jsonapi.Props.C05B
import Jsonapi.Proofs.DetLemmas
import Jsonapi.Proofs.EqualLemmas
import Jsonapi.Props.C13P
namespace Jsonapi
open GoMap UnmL MarshalL

namespace C06W

/-! ### The field maps of an unmarshaled resource -/

/-- the field maps a wrapped struct carries (a soft resource reads them from its type) -/
def mapsOf : AnyRes → Option (GoMap Attr × GoMap Rel)
  | .soft _ => none
  | .wrapped w => some (w.attrs, w.rels)

theorem mapsOf_set {r r' : AnyRes} {k : GoString} {v : GoVal} :
    r.set k v = .ok r' → mapsOf r' = mapsOf r := by
  fun_cases AnyRes.set r k v
  case case1 => rintro ⟨⟩; rfl
  case case2 w w' hw =>
    rintro ⟨⟩
    obtain ⟨e1, e2⟩ := Wrapped.set_maps hw
    simp only [mapsOf, e1, e2]
  all_goals nofun

theorem mapsOf_attrStep {t : Typ} {acc : Res AnyRes} {p : GoString × RawVal} {r' : AnyRes} :
    attrStep t acc p = .ok r' → ∃ r, acc = .ok r ∧ mapsOf r' = mapsOf r := by
  fun_cases attrStep t acc p
  case case1 => exact fun h => ⟨_, rfl, mapsOf_set h⟩
  case case5 hacc => exact fun h => absurd h (hacc r')
  all_goals nofun

theorem mapsOf_relStep {t : Typ} {acc : Res AnyRes} {p : GoString × RelRaw} {r' : AnyRes} :
    UnmL.relStep t acc p = .ok r' → ∃ r, acc = .ok r ∧ mapsOf r' = mapsOf r := by
  -- 2: the value is set; 6: no `data`, nothing to set; 8: an earlier step failed
  fun_cases UnmL.relStep t acc p
  case case2 hs _ _ => rintro ⟨⟩; exact ⟨_, rfl, mapsOf_set hs⟩
  case case6 => rintro ⟨⟩; exact ⟨_, rfl, rfl⟩
  case case8 hacc => exact fun h => absurd h (hacc r')
  all_goals nofun

theorem mapsOf_foldl {β : Type} (f : Res AnyRes → β → Res AnyRes)
    (hf : ∀ acc p r', f acc p = .ok r' → ∃ r, acc = .ok r ∧ mapsOf r' = mapsOf r) :
    ∀ (l : List β) (acc : Res AnyRes) (r' : AnyRes), l.foldl f acc = .ok r' →
      ∃ r, acc = .ok r ∧ mapsOf r' = mapsOf r
  | [], acc, r', h => ⟨r', h, rfl⟩
  | p :: l, acc, r', h => by
    obtain ⟨r1, h1, e1⟩ := mapsOf_foldl f hf l (f acc p) r' h
    obtain ⟨r, h2, e2⟩ := hf acc p r1 h1
    exact ⟨r, h2, e1.trans e2⟩

theorem mapsOf_resBody {st : SType} {sk : ResSke} {r : AnyRes} :
    resBody st sk = .ok r → ∃ r0, st.new = .ok r0 ∧ mapsOf r = mapsOf r0 := by
  fun_cases resBody st sk
  case case1 r0 h0 r1 h1 =>
    intro h
    obtain ⟨ra, ha, ea⟩ := mapsOf_foldl (UnmL.relStep st.typ) (fun _ _ _ => mapsOf_relStep) _ _ _ h
    obtain ⟨rb, hb, eb⟩ := mapsOf_foldl (attrStep st.typ) (fun _ _ _ => mapsOf_attrStep) _ _ _ ha
    cases hb
    exact ⟨r0, h0, ea.trans (eb.trans (mapsOf_set h1))⟩
  all_goals nofun

/-- What the attribute and relationship maps of the view of an unmarshaled resource have to do
with the schema type `t`: for a soft resource they ARE the type's maps; for a wrapped struct
they are the maps `Wrap` reads off the struct declaration - the type's entries sorted by name,
each relationship with `FromType` = the type's name and `FromOne` = false. -/
structure ViewMaps (t : Typ) (v : ResView) : Prop where
  keyA : ∀ p ∈ v.attrs, p.1 = p.2.name
  keyR : ∀ p ∈ v.rels, p.1 = p.2.fromName
  nodup : (v.attrs.keys ++ v.rels.keys).Nodup
  attrs : ∀ key, v.attrs.get? key = t.attrs.get? key
  rels : ∀ key, v.rels.get? key = (t.rels.get? key).map (normRel t.name) ∨
                v.rels.get? key = t.rels.get? key

theorem normRel_core (n : GoString) (r : Rel) :
    (normRel n r).fromName = r.fromName ∧ (normRel n r).toOne = r.toOne ∧
    (normRel n r).toType = r.toType := ⟨rfl, rfl, rfl⟩

theorem viewMaps_soft {t : Typ} (ht : TypWF t) (s : Soft) (hs : s.typ = t) : ViewMaps t s.view := by
  subst hs
  exact ⟨fun p hp => (ht.attrs p hp).1, fun p hp => (ht.rels p hp).1, fieldKeys_nodup ht,
    fun _ => rfl, fun _ => .inr rfl⟩

theorem viewMaps_wrapped {t : Typ} (ht : TypWF t) (v : ResView)
    (ha : v.attrs = Typ.sortByKey t.attrs)
    (hr : v.rels = (Typ.sortByKey t.rels).map (fun p => (p.1, normRel t.name p.2))) :
    ViewMaps t v := by
  have pa := sortByKey_perm t.attrs
  have pr := sortByKey_perm t.rels
  have ka : (Typ.sortByKey t.attrs).keys.Perm t.attrs.keys := sortByKey_keys_perm _
  have kr0 : (Typ.sortByKey t.rels).keys.Perm t.rels.keys := sortByKey_keys_perm _
  have kr : v.rels.keys = (Typ.sortByKey t.rels).keys := by
    rw [hr]; simp [keys]
  refine ⟨?_, ?_, ?_, ?_, ?_⟩
  · rw [ha]; exact fun p hp => (ht.attrs p (pa.mem_iff.1 hp)).1
  · rw [hr]
    intro p hp
    obtain ⟨q, hq, rfl⟩ := List.mem_map.1 hp
    exact (ht.rels q (pr.mem_iff.1 hq)).1
  · rw [kr, ha]
    exact ((ka.append kr0).nodup_iff).2 (fieldKeys_nodup ht)
  · intro key
    rw [ha]
    exact DetL.get?_eq_of_perm pa (ka.nodup_iff.2 ht.ndA) key
  · intro key
    left
    rw [hr, DetL.get?_map_val, DetL.get?_eq_of_perm pr (kr0.nodup_iff.2 ht.ndR) key]

theorem viewMaps_of_unmarshal {σ : SSchema} (hσ : σ.WF) {sk : ResSke} {r : AnyRes}
    (h : unmarshalResource σ sk = .ok r) {st : SType} (hg : σ.getType sk.typ = some st)
    {v : ResView} (hv : r.view? = some v) : ViewMaps st.typ v := by
  obtain ⟨st', hg', _, _, hbody, inv⟩ := ((resource_spec hσ sk).2 r).1 h
  rw [hg] at hg'; cases hg'
  obtain ⟨hm, _⟩ := getType_some hg
  obtain ⟨_, ht, hn, hst⟩ := hσ.2 st hm
  cases r with
  | soft s =>
    cases hv
    exact viewMaps_soft ht s inv.1.typ
  | wrapped w =>
    obtain ⟨i1, i2, i3⟩ := inv
    obtain ⟨v', hv', _, _, ea, er, _⟩ := i1.view ht hn i2 i3
    simp only [AnyRes.view?] at hv
    rw [hv] at hv'; cases hv'
    obtain ⟨r0, h0, e0⟩ := mapsOf_resBody hbody
    cases hb : st.backed with
    | false =>
      simp only [SType.new, hb, Bool.false_eq_true, if_false, Res.ok.injEq] at h0
      subst h0
      cases e0
    | true =>
      have hs' := hst hb
      obtain ⟨w0, hw, _, _, _, hat, hre⟩ :=
        wrap_declOfTyp ht hn hs' (Wrapped.zeroVals (declOfTyp st.typ))
      simp only [SType.new, hb, if_true, hw, Res.ok.injEq] at h0
      subst h0
      simp only [mapsOf, Option.some.injEq, Prod.mk.injEq] at e0
      rw [structRels_declOfTyp_eq ht hs', Res.ok.injEq] at hre
      refine viewMaps_wrapped ht v ?_ ?_
      · rw [ea, e0.1, hat, structAttrs_declOfTyp ht hs']
      · rw [er, e0.2, ← hre]

/-! ### The view is in the domain of the marshal theorems -/

theorem keyedWf_of {t : Typ} {v : ResView} (m : ViewMaps t v)
    (hA : ∀ key a, t.attrs.get? key = some a → ∃ k, Kind.ofCode? a.ty = some k ∧
      ((v.get key).hasAttrType k a.nullable = true ∨ (a.nullable = true ∧ v.get key = .nil)))
    (hR : ∀ key rel, t.rels.get? key = some rel →
      if rel.toOne then ∃ id, v.get key = .val .string (.s id) else ∃ l, v.get key = .strs l) :
    v.keyedWf := by
  obtain ⟨ndA, ndR, disj⟩ := List.nodup_append.1 m.nodup
  refine ⟨(ResView.wf_iff_of_keyed ⟨m.keyA, m.keyR, ndA, ndR⟩).2 ⟨fun p hp => ?_, fun p hp => ?_⟩,
    m.keyA, m.keyR, m.nodup⟩
  · have hget : v.attrs.get? p.1 = some p.2 := get?_of_mem_nodup ndA hp
    obtain ⟨k, hk, hv⟩ := hA p.1 p.2 (m.attrs p.1 ▸ hget)
    refine ⟨(has_false_iff _ _).2 (get?_eq_none_of_not_mem fun hr =>
      disj p.1 (mem_keys_of_mem hp) p.1 hr rfl), k, hk, ?_⟩
    rcases hv with hv | ⟨h1, h2⟩
    · rw [hv]; rfl
    · rw [h1, h2]; simp
  · have hget : v.rels.get? p.1 = some p.2 := get?_of_mem_nodup ndR hp
    -- the type's relationship of that name has the same cardinality
    rcases m.rels p.1 with e | e
    · obtain ⟨rel, hrel, e'⟩ := Option.map_eq_some_iff.1 (e.symm.trans hget)
      rw [← e']
      exact hR p.1 rel hrel
    · exact hR p.1 p.2 (e ▸ hget)

/-- the JSON written for a value does not depend on the two identifications `Spec.canon`
makes (typed / untyped nil; nil / empty byte slice) -/
theorem encodeAttr_canon (x : GoVal) : encodeAttr (Spec.canon x) = encodeAttr x := by
  fun_cases Spec.canon x <;> rfl

theorem encodeAttr_of_canon_eq {x y : GoVal} (h : Spec.canon x = Spec.canon y) :
    encodeAttr x = encodeAttr y := by
  rw [← encodeAttr_canon x, h, encodeAttr_canon]

theorem relDataJson_core (v : ResView) {rel rel' : Rel} (h1 : rel'.fromName = rel.fromName)
    (h2 : rel'.toOne = rel.toOne) (h3 : rel'.toType = rel.toType) :
    Spec.relDataJson v rel' = Spec.relDataJson v rel := by
  unfold Spec.relDataJson
  rw [h1, h2, h3]

/-- `C06_stored` for the schema type `st` the payload names, together with the conformance
clauses of `C05_conforms` for the same view. -/
theorem stored {σ : SSchema} (hσ : σ.WF) {sk : ResSke} {r : AnyRes}
    (hA : sk.attrs.keys.Nodup) (hR : sk.rels.keys.Nodup)
    (h : unmarshalResource σ sk = .ok r) {st : SType} (hg : σ.getType sk.typ = some st) :
    ∃ v, r.view? = some v ∧ v.typeName = st.typ.name ∧ v.id = sk.id ∧
      (∀ key raw, sk.attrs.get? key = some raw → ∃ a x, st.typ.attrs.get? key = some a ∧
        unmarshalToType a raw = .ok x ∧ Spec.canon (v.get key) = Spec.canon x) ∧
      (∀ key rv, sk.rels.get? key = some rv → ∃ rel, st.typ.rels.get? key = some rel ∧
        (relValue rel rv).2 = false ∧
        (rv.present = true → (relValue rel rv).1 = some (v.get key))) ∧
      (∀ f ∈ st.typ.attrs.keys ++ st.typ.rels.keys, sk.attrs.has f = false →
        (∀ rv, sk.rels.get? f = some rv → rv.present = false) →
        Spec.canon (v.get f) = Spec.zeroOf st.typ f) ∧
      (∀ key a, st.typ.attrs.get? key = some a → ∃ k, Kind.ofCode? a.ty = some k ∧
        ((v.get key).hasAttrType k a.nullable = true ∨ (a.nullable = true ∧ v.get key = .nil))) ∧
      (∀ key rel, st.typ.rels.get? key = some rel →
        if rel.toOne then ∃ id, v.get key = .val .string (.s id) else ∃ l, v.get key = .strs l) := by
  have huniq : ∀ st' ∈ σ, st'.typ.name = sk.typ → st' = st := fun st' hm' hn' =>
    Option.some.inj ((hn' ▸ RtL.getType_of_mem hσ.1 hm').symm.trans hg)
  obtain ⟨st', hm', hn', v, hv, e1, e2, sA, sR, sZ⟩ := C06_stored σ hσ sk r hA hR h
  cases huniq st' hm' hn'
  obtain ⟨st'', hm'', v', hv', e1', cA, cR⟩ := C05_conforms σ hσ sk r h
  cases hv.symm.trans hv'
  cases huniq st'' hm'' ((e1'.symm.trans e1).trans hn')
  exact ⟨v, hv, e1, e2, sA, sR, sZ, cA, cR⟩

end C06W

/-! ### The statement -/

/-- The empty linkage of a relationship: `null` (to-one), `[]` (to-many). -/
def C06W.emptyLinkage (rel : Rel) : Json := if rel.toOne then .null else .arr []

/-- `d` is the linkage the payload gives for the relationship `rel`, whose payload object (if
the payload has one) is `rv`:

* no object, or an object without `data` member: the empty linkage;
* to-one with `data`: `null` for the literal `null`; otherwise the data decoded into an
  identifier `(id, ty)`, `ty` is the relationship's target type and - EXCEPT when `id` is
  empty, the known finding C06-toone-empty-id - `d` is that identifier `{"id": id, "type": ty}`;
  when `id` is empty `d` is `null`;
* to-many with `data`: the data decoded into identifiers `l`, every one carrying the target
  type, and `d` is the array of the identifiers `{"id": id, "type": target}` for `id` ranging
  over `Typ.sortStrings (l.map (·.1))`: the payload's ids in ascending bytewise order, repeats
  kept (what `sort.Strings` leaves in the resource before `MarshalResource` ranges over it). -/
def C06W.linkageOf (rel : Rel) (rv : Option RelRaw) (d : Json) : Prop :=
  match rv with
  | none => d = C06W.emptyLinkage rel
  | some rv =>
    if rv.present = true then
      if rel.toOne = true then
        (rv.isNull = true → d = .null) ∧
        (rv.isNull = false → ∃ id ty, rv.decIdent = some (id, ty) ∧ ty = rel.toType ∧
          (id ≠ [] → d = identifierJson id ty) ∧ (id = [] → d = .null))
      else
        ∃ l, rv.decIdents = some l ∧ (∀ p ∈ l, p.2 = rel.toType) ∧
          d = .arr ((Typ.sortStrings (l.map (·.1))).map (fun id => identifierJson id rel.toType))
    else d = C06W.emptyLinkage rel

/-- What `encoding/json` guarantees of a relationship object whose `data` is the literal
`null`: decoding it into an `Identifier` is a no-op, the identifier read is the zero value. -/
def C06W.NullDecoded (sk : ResSke) : Prop :=
  ∀ key rv, sk.rels.get? key = some rv → rv.isNull = true → rv.decIdent = some ([], [])

open C06W in
/-- The linkage clause for one relationship of the type: the resource holds what `relValue`
made of the payload's relationship object (`hset`), or the zero value when the payload has no
object with `data` for it (`hzero`). -/
theorem C06W.linkage_of_stored {v : ResView} {rel : Rel} {rvo : Option RelRaw}
    (hset : ∀ rv, rvo = some rv → (relValue rel rv).2 = false ∧
      (rv.present = true → (relValue rel rv).1 = some (v.get rel.fromName)))
    (hzero : (∀ rv, rvo = some rv → rv.present = false) →
      Spec.relDataJson v rel = emptyLinkage rel)
    (hnull : ∀ rv, rvo = some rv → rv.isNull = true → rv.decIdent = some ([], [])) :
    linkageOf rel rvo (Spec.relDataJson v rel) := by
  unfold linkageOf
  cases rvo with
  | none => exact hzero (fun _ h => nomatch h)
  | some rv =>
    by_cases hp : rv.present = true
    · obtain ⟨hbad, hval⟩ := hset rv rfl
      have hval := hval hp
      simp only [hp, if_true]
      by_cases ho : rel.toOne = true
      · rw [if_pos ho]
        obtain ⟨h1, h2⟩ := C06_rel_toOne rel rv hp ho
        obtain ⟨id, ty, hd, hty⟩ := h1.1 hbad
        have hget : v.get rel.fromName = .val .string (.s id) :=
          Option.some.inj (hval.symm.trans (h2 id ty hd))
        have hj : Spec.relDataJson v rel =
            if id = [] then .null else identifierJson id rel.toType := by
          rw [Spec.relDataJson, if_pos ho, hget]
        refine ⟨fun hn => ?_, fun hn => ⟨id, ty, hd, ?_, fun hne => ?_, fun he => ?_⟩⟩
        · have := hnull rv rfl hn
          rw [hd] at this
          cases this
          rw [hj, if_pos rfl]
        · exact hty.resolve_left (by rw [hn]; nofun)
        · rw [hj, if_neg hne, hty.resolve_left (by rw [hn]; nofun)]
        · rw [hj, if_pos he]
      · rw [if_neg ho]
        obtain ⟨h1, h2⟩ := C06_rel_toMany rel rv hp (by simpa using ho)
        obtain ⟨l, hd, hall⟩ := h1.1 hbad
        have hget : v.get rel.fromName = .strs (l.map (·.1)) :=
          Option.some.inj (hval.symm.trans (h2 l hd))
        exact ⟨l, hd, hall, by rw [Spec.relDataJson, if_neg ho, hget]⟩
    · simp only [hp, if_false, Bool.false_eq_true]
      exact hzero (fun rv' h => by cases h; simpa using hp)

open C06W in
/-- **C06, last clause, whole resource.** `st` is the schema's type of the payload's type name
(it exists whenever the payload is accepted: `C05_accept_iff`). -/
theorem C06_remarshal (σ : SSchema) (hσ : σ.WF) (sk : ResSke) (res : AnyRes)
    (hA : sk.attrs.keys.Nodup) (hR : sk.rels.keys.Nodup)
    (hplus : ∀ key raw, sk.attrs.get? key = some raw → raw.bytes.head? ≠ some 43)
    (hnull : NullDecoded sk)
    (h : unmarshalResource σ sk = .ok res)
    (st : SType) (hg : σ.getType sk.typ = some st)
    (prepath : GoString) (fields : List GoString) (relData : GoMap (List GoString)) (rmeta : Meta)
    (hfields : ∀ f ∈ st.typ.attrs.keys ++ st.typ.rels.keys, f ∈ fields)
    (hwant : ∀ f ∈ st.typ.rels.keys, f ∈ (relData.get? sk.typ).getD []) :
    st ∈ σ ∧ st.typ.name = sk.typ ∧
    ∃ v j v', res.view? = some v ∧ marshalResource v prepath fields relData rmeta = .ok (j, v') ∧
      -- id and type are the payload's
      j.get? K.id = some (.str sk.id) ∧ j.get? K.type = some (.str sk.typ) ∧
      -- attributes present in the payload: the canonical JSON of what the literal denotes
      (∀ key raw, sk.attrs.get? key = some raw →
        ∃ a o x, st.typ.attrs.get? key = some a ∧ j.get? K.attributes = some o ∧
          o.get? key = some x ∧ Spec.denotedJson a raw = some x) ∧
      -- attributes absent from the payload: the encoding of the zero value
      (∀ key a, st.typ.attrs.get? key = some a → sk.attrs.has key = false →
        ∃ o, j.get? K.attributes = some o ∧ o.get? key = some (encodeAttr a.zero)) ∧
      -- relationships: the payload's linkage, the empty linkage for the others
      (∀ key rel, st.typ.rels.get? key = some rel →
        ∃ rs ro d, j.get? K.relationships = some rs ∧ rs.get? key = some ro ∧
          ro.get? K.data = some d ∧ linkageOf rel (sk.rels.get? key) d) := by
  obtain ⟨hm, hname⟩ := getType_some hg
  obtain ⟨_, ht, hn, _⟩ := hσ.2 st hm
  obtain ⟨v, hv, e1, e2, sA, sR, sZ, cA, cR⟩ := stored hσ hA hR h hg
  have vm := viewMaps_of_unmarshal hσ h hg hv
  have hkw : v.keyedWf := keyedWf_of vm cA cR
  obtain ⟨v', hmar, _⟩ := C04_resource v hkw prepath fields relData rmeta
  have htn : v.typeName = sk.typ := e1.trans hname
  have hattr : ∀ key a, st.typ.attrs.get? key = some a →
      ∃ o, (Spec.resourceObject v prepath fields relData rmeta).get? K.attributes = some o ∧
        o.get? key = some (encodeAttr (v.get key)) := by
    intro key a ha
    obtain rfl : key = a.name := (ht.attrs (key, a) (mem_of_get? ha)).1
    exact C04_attr_value v hkw prepath fields relData rmeta a
      (List.mem_map.2 ⟨(a.name, a), mem_of_get? ((vm.attrs _).trans ha), rfl⟩)
      (hfields _ (List.mem_append_left _ (mem_keys_of_get? ha)))
  refine ⟨hm, hname, v, _, v', hv, hmar, ?_, ?_, ?_, ?_, ?_⟩
  · rw [resObj_get_id, e2]
  · rw [resObj_get_type, htn]
  · -- present attributes
    intro key raw hkr
    obtain ⟨a, x, ha, hx, hc⟩ := sA key raw hkr
    obtain ⟨o, ho1, ho2⟩ := hattr key a ha
    exact ⟨a, o, encodeAttr x, ha, ho1, by rw [ho2, encodeAttr_of_canon_eq hc],
      (C06R_remarshal_attr a raw x (hplus key raw hkr) hx).1⟩
  · -- absent attributes
    intro key a ha hna
    have hka : key ∈ st.typ.attrs.keys := mem_keys_of_get? ha
    obtain ⟨o, ho1, ho2⟩ := hattr key a ha
    have hz : Spec.canon (v.get key) = Spec.canon a.zero := by
      rw [sZ key (List.mem_append_left _ hka) hna]
      · simp only [Spec.zeroOf, ha]
      · intro rv hrv
        obtain ⟨rel, hrel, _⟩ := sR key rv hrv
        exact absurd (mem_keys_of_get? hrel) (ht.disj key hka)
    exact ⟨o, ho1, by rw [ho2, encodeAttr_of_canon_eq hz]⟩
  · -- relationships
    intro key rel hrel
    obtain rfl : key = rel.fromName := (ht.rels (key, rel) (mem_of_get? hrel)).1
    have hkr : rel.fromName ∈ st.typ.rels.keys := mem_keys_of_get? hrel
    have hnotA : st.typ.attrs.get? rel.fromName = none :=
      get?_eq_none_of_not_mem fun hk => ht.disj _ hk hkr
    obtain ⟨rel', hrel', c1, c2, c3⟩ : ∃ rel', v.rels.get? rel.fromName = some rel' ∧
        rel'.fromName = rel.fromName ∧ rel'.toOne = rel.toOne ∧ rel'.toType = rel.toType := by
      rcases vm.rels rel.fromName with e | e <;> (rw [hrel] at e; exact ⟨_, e, rfl, rfl, rfl⟩)
    obtain ⟨⟨rs, ro, hrs, hro, hd⟩, _⟩ := C04_data_exact v hkw prepath fields relData rmeta rel'
      (List.mem_map.2 ⟨(_, rel'), mem_of_get? hrel', rfl⟩)
      (c1 ▸ hfields _ (List.mem_append_right _ hkr)) (by rw [c1, htn]; exact hwant _ hkr)
    rw [c1] at hro
    rw [relDataJson_core v c1 c2 c3] at hd
    refine ⟨rs, ro, _, hrs, hro, hd, linkage_of_stored (fun rv hsk => ?_) (fun hnp => ?_) (hnull _)⟩
    · obtain ⟨rel2, hrel2, hval⟩ := sR _ rv hsk
      cases hrel.symm.trans hrel2
      exact hval
    · have hna : sk.attrs.has rel.fromName = false := (has_false_iff _ _).2 <| by
        cases hh : sk.attrs.get? rel.fromName with
        | none => rfl
        | some raw =>
          obtain ⟨a, _, ha, _⟩ := sA _ raw hh
          rw [hnotA] at ha; cases ha
      have hz := sZ _ (List.mem_append_right _ hkr) hna hnp
      simp only [Spec.zeroOf, hnotA, hrel, Rel.zero] at hz
      unfold Spec.relDataJson emptyLinkage
      by_cases ho : rel.toOne = true
      · rw [if_pos ho] at hz
        simp only [ho, if_true]
        rw [canon_eq_string hz]; rfl
      · rw [if_neg ho] at hz
        simp only [ho, if_false, Bool.false_eq_true]
        rw [canon_eq_strs hz]; rfl

/-- The order of a re-marshaled to-many linkage: `Typ.sortStrings` returns the payload's ids
(a permutation: nothing dropped, repeats kept) in ascending bytewise order. -/
theorem C06W_toMany_order (ids : List GoString) :
    (Typ.sortStrings ids).Perm ids ∧ (Typ.sortStrings ids).Pairwise (· ≤ ·) :=
  ⟨DetL.sortStrings_perm ids, DetL.sortStrings_sorted ids⟩

open C06W in
/-- The form of the property text: ALL fields of the type selected (`st.typ.attrs.keys ++
st.typ.rels.keys`) and the data of ALL its relationships asked for (`[(type, st.typ.rels.keys)]`);
the type `st` is the one the schema has for the payload's type name. -/
theorem C06_remarshal_allFields (σ : SSchema) (hσ : σ.WF) (sk : ResSke) (res : AnyRes)
    (hA : sk.attrs.keys.Nodup) (hR : sk.rels.keys.Nodup)
    (hplus : ∀ key raw, sk.attrs.get? key = some raw → raw.bytes.head? ≠ some 43)
    (hnull : NullDecoded sk)
    (h : unmarshalResource σ sk = .ok res) (prepath : GoString) (rmeta : Meta) :
    ∃ st ∈ σ, σ.getType sk.typ = some st ∧ st.typ.name = sk.typ ∧
    ∃ v j v', res.view? = some v ∧
      marshalResource v prepath (st.typ.attrs.keys ++ st.typ.rels.keys)
        [(sk.typ, st.typ.rels.keys)] rmeta = .ok (j, v') ∧
      j.get? K.id = some (.str sk.id) ∧ j.get? K.type = some (.str sk.typ) ∧
      (∀ key raw, sk.attrs.get? key = some raw →
        ∃ a o x, st.typ.attrs.get? key = some a ∧ j.get? K.attributes = some o ∧
          o.get? key = some x ∧ Spec.denotedJson a raw = some x) ∧
      (∀ key a, st.typ.attrs.get? key = some a → sk.attrs.has key = false →
        ∃ o, j.get? K.attributes = some o ∧ o.get? key = some (encodeAttr a.zero)) ∧
      (∀ key rel, st.typ.rels.get? key = some rel →
        ∃ rs ro d, j.get? K.relationships = some rs ∧ rs.get? key = some ro ∧
          ro.get? K.data = some d ∧ linkageOf rel (sk.rels.get? key) d) := by
  obtain ⟨st, hg, _⟩ := ((resource_spec hσ sk).2 res).1 h
  obtain ⟨hm, hn, rest⟩ := C06_remarshal σ hσ sk res hA hR hplus hnull h st hg prepath
    (st.typ.attrs.keys ++ st.typ.rels.keys) [(sk.typ, st.typ.rels.keys)] rmeta
    (fun f hf => hf) (fun f hf => by simpa [GoMap.get?] using hf)
  exact ⟨st, hm, hg, hn, rest⟩

namespace C06W

/-! ### Non-vacuity and the known finding on a whole resource -/

def exAttr (n : UInt8) (ty : Nat) (nl : Bool) : Attr := { name := [n], ty := ty, nullable := nl }
def exRel (n : UInt8) (one : Bool) : Rel :=
  { fromType := [116], fromName := [n], toOne := one, toType := [117], toName := [], fromOne := false }

/-- Type "t": attributes n (int8), s (string), w (nullable time), c (time), y (bytes),
b (bool), z (uint16); relationships o, p (to-one) and m, q (to-many), all to type "u". -/
def exT : Typ :=
  { name := [116],
    attrs := [([110], exAttr 110 3 false), ([115], exAttr 115 1 false), ([119], exAttr 119 13 true),
              ([99], exAttr 99 13 false), ([121], exAttr 121 14 false), ([98], exAttr 98 12 false),
              ([122], exAttr 122 9 false)],
    rels := [([111], exRel 111 true), ([109], exRel 109 false), ([112], exRel 112 true),
             ([113], exRel 113 false)] }

def exσ : SSchema := [{ typ := exT, backed := false }]

theorem exσ_wf : exσ.WF := by
  refine ⟨by decide +kernel, ?_⟩
  intro st hst
  cases List.mem_singleton.1 hst
  exact ⟨by decide +kernel, ⟨by decide +kernel, by decide +kernel, by decide +kernel,
    by decide +kernel, by decide +kernel⟩, by decide +kernel, by decide +kernel⟩

/-- 2020-01-02T03:04:05Z -/
def exTime : Time := { sec := 1577934245, nsec := 0, off := 0 }

def exRawN : RawVal := { bytes := [45, 49, 50, 56], decStr := none, decTime := none, decBytes := none }
def exRawS : RawVal := { bytes := [34, 120, 34], decStr := some [120], decTime := none, decBytes := none }
def exRawW : RawVal := { bytes := sNull, decStr := some [], decTime := none, decBytes := some none }
def exRawC : RawVal :=
  { bytes := [34, 50, 48, 50, 48, 45, 48, 49, 45, 48, 50, 84, 48, 51, 58, 48, 52, 58, 48, 53, 90, 34],
    decStr := none, decTime := some exTime, decBytes := none }
def exRawY : RawVal :=
  { bytes := [34, 65, 81, 73, 61, 34], decStr := some [65, 81, 73, 61], decTime := none,
    decBytes := some (some [1, 2]) }
def exRawB : RawVal := { bytes := sTrue, decStr := none, decTime := none, decBytes := none }

/-- `{"id":"1","type":"t","attributes":{"n":-128,"s":"x","w":null,"c":"2020-01-02T03:04:05Z",
"y":"AQI=","b":true},"relationships":{"o":{"data":{"id":"k","type":"u"}},
"m":{"data":[{"id":"b","type":"u"},{"id":"a","type":"u"},{"id":"b","type":"u"}]},"q":{}}}`
as `encoding/json` decodes it: z and p are absent, q has no data member. -/
def exSk : ResSke :=
  { id := [49], typ := [116],
    attrs := [([110], exRawN), ([115], exRawS), ([119], exRawW), ([99], exRawC), ([121], exRawY),
              ([98], exRawB)],
    rels := [([111], { present := true, isNull := false, decIdent := some ([107], [117]), decIdents := none }),
             ([109], { present := true, isNull := false, decIdent := none,
                       decIdents := some [([98], [117]), ([97], [117]), ([98], [117])] }),
             ([113], { present := false, isNull := false, decIdent := none, decIdents := none })],
    smeta := default }

theorem exSk_accepted : ∃ res, unmarshalResource exσ exSk = .ok res :=
  Res.exists_ok_of_isOk (by decide +kernel)

/-- reading one attribute member off the conclusion of `C06_remarshal` -/
theorem ex_attr {j o : Json} {T : Typ} {sk : ResSke}
    (hP : ∀ key raw, sk.attrs.get? key = some raw →
      ∃ a o x, T.attrs.get? key = some a ∧ j.get? K.attributes = some o ∧
        o.get? key = some x ∧ Spec.denotedJson a raw = some x)
    (ho : j.get? K.attributes = some o) (key : GoString) (raw : RawVal) (a : Attr) (x : Json)
    (h1 : sk.attrs.get? key = some raw) (h2 : T.attrs.get? key = some a)
    (h3 : Spec.denotedJson a raw = some x) : o.get? key = some x := by
  obtain ⟨a', o', x', ha', ho', hx', hd'⟩ := hP key raw h1
  rw [h2] at ha'; cases ha'
  rw [ho] at ho'; cases ho'
  rw [h3] at hd'; cases hd'
  exact hx'

/-- reading one relationship's data member off the conclusion of `C06_remarshal` -/
theorem ex_rel {j rs : Json} {T : Typ} {sk : ResSke}
    (hP : ∀ key rel, T.rels.get? key = some rel →
      ∃ rs ro d, j.get? K.relationships = some rs ∧ rs.get? key = some ro ∧
        ro.get? K.data = some d ∧ linkageOf rel (sk.rels.get? key) d)
    (hrs : j.get? K.relationships = some rs) (key : GoString) (rel : Rel)
    (h2 : T.rels.get? key = some rel) :
    ∃ ro d, rs.get? key = some ro ∧ ro.get? K.data = some d ∧ linkageOf rel (sk.rels.get? key) d := by
  obtain ⟨rs', ro, d, h1, h3, h4, h5⟩ := hP key rel h2
  rw [hrs] at h1; cases h1
  exact ⟨ro, d, h3, h4, h5⟩

end C06W

open C06W in
/-- **Example.** The payload `C06W.exSk` (an int8, a string, a null and a non-null time, a byte
string, a boolean; a to-one identifier and a to-many list given out of order with a repeat) is
accepted, its view is marshaled with all fields and all relationship data, and the tree has
the payload's id and type, every attribute of the payload as the same JSON value (`-128`,
`"x"`, `null`, the RFC 3339 text of the decoded instant, the canonical base64 `"AQI="`, `true`),
the absent `z` as `0`, `o` as the payload's identifier, `m` as the payload's identifiers sorted
by id (`a`, `b`, `b`), the absent `p` as `null` and `q` (no data member) as `[]`. -/
example : ∃ res v j v' o rs, unmarshalResource exσ exSk = .ok res ∧ res.view? = some v ∧
    marshalResource v [47] (exT.attrs.keys ++ exT.rels.keys) [([116], exT.rels.keys)] [] = .ok (j, v') ∧
    j.get? K.id = some (.str [49]) ∧ j.get? K.type = some (.str [116]) ∧
    j.get? K.attributes = some o ∧ j.get? K.relationships = some rs ∧
    o.get? [110] = some (.num [45, 49, 50, 56]) ∧ o.get? [115] = some (.str [120]) ∧
    o.get? [119] = some .null ∧ o.get? [99] = some (.str (formatTime exTime)) ∧
    o.get? [121] = some (.str [65, 81, 73, 61]) ∧ o.get? [98] = some (.bool true) ∧
    o.get? [122] = some (.num [48]) ∧
    (∃ ro, rs.get? [111] = some ro ∧ ro.get? K.data = some (identifierJson [107] [117])) ∧
    (∃ ro, rs.get? [109] = some ro ∧ ro.get? K.data = some (.arr
      [identifierJson [97] [117], identifierJson [98] [117], identifierJson [98] [117]])) ∧
    (∃ ro, rs.get? [112] = some ro ∧ ro.get? K.data = some .null) ∧
    (∃ ro, rs.get? [113] = some ro ∧ ro.get? K.data = some (.arr [])) := by
  obtain ⟨res, hres⟩ := exSk_accepted
  obtain ⟨_, _, v, j, v', hv, hm, hid, hty, hP, hZ, hL⟩ :=
    C06_remarshal exσ exσ_wf exSk res (by decide +kernel) (by decide +kernel)
      (fun _ _ hk => (by decide +kernel : ∀ p ∈ exSk.attrs, p.2.bytes.head? ≠ some 43) _ (mem_of_get? hk))
      (fun _ _ hk => (by decide +kernel : ∀ p ∈ exSk.rels, p.2.isNull = true → p.2.decIdent = some ([], []))
        _ (mem_of_get? hk))
      hres { typ := exT, backed := false } rfl [47] (exT.attrs.keys ++ exT.rels.keys)
      [([116], exT.rels.keys)] [] (fun f hf => hf) (fun f hf => by simpa [GoMap.get?, exSk] using hf)
  obtain ⟨o, ho, hz⟩ := hZ [122] (exAttr 122 9 false) (by decide +kernel) (by decide +kernel)
  obtain ⟨rs0, ro0, d0, hrs, _⟩ := hL [111] (exRel 111 true) (by decide +kernel)
  have hn : o.get? [110] = some (.num [45, 49, 50, 56]) := by
    have := ex_attr hP ho [110] exRawN (exAttr 110 3 false) _ rfl (by decide +kernel)
      (C06R_remarshal_attr _ _ (.val .int8 (.i (-128))) (by decide +kernel) (by decide +kernel)).1
    rw [this]
    show some (Json.num (printInt (-128))) = _
    rw [C06R_ex_print]
  have hzz : o.get? [122] = some (.num [48]) := by
    rw [hz]
    show some (Json.num (printInt 0)) = _
    have : printInt 0 = [48] := by simp [printInt, printNat, digitChar]
    rw [this]
  have hy : Spec.denotedJson (exAttr 121 14 false) exRawY = some (.str [65, 81, 73, 61]) := by
    have e : b64enc [1, 2] = [65, 81, 73, 61] := by decide +kernel
    rw [← e]; rfl
  refine ⟨res, v, j, v', o, rs0, hres, hv, hm, hid, hty, ho, hrs, hn,
    ex_attr hP ho [115] exRawS (exAttr 115 1 false) _ rfl (by decide +kernel) rfl,
    ex_attr hP ho [119] exRawW (exAttr 119 13 true) _ rfl (by decide +kernel) rfl,
    ex_attr hP ho [99] exRawC (exAttr 99 13 false) _ rfl (by decide +kernel) rfl,
    ex_attr hP ho [121] exRawY (exAttr 121 14 false) _ rfl (by decide +kernel) hy,
    ex_attr hP ho [98] exRawB (exAttr 98 12 false) _ rfl (by decide +kernel) rfl,
    hzz, ?_, ?_, ?_, ?_⟩
  · obtain ⟨ro, d, h1, h2, h3⟩ := ex_rel hL hrs [111] (exRel 111 true) (by decide +kernel)
    refine ⟨ro, h1, ?_⟩
    obtain ⟨id, ty, e, rfl, h4, _⟩ := h3.2 rfl
    cases e
    rw [h2, h4 (by decide +kernel)]
    rfl
  · obtain ⟨ro, d, h1, h2, h3⟩ := ex_rel hL hrs [109] (exRel 109 false) (by decide +kernel)
    refine ⟨ro, h1, ?_⟩
    obtain ⟨l, e, _, h4⟩ := h3
    cases e
    rw [h2, h4]
    rfl
  · obtain ⟨ro, d, h1, h2, h3⟩ := ex_rel hL hrs [112] (exRel 112 true) (by decide +kernel)
    exact ⟨ro, h1, by rw [h2, h3]; rfl⟩
  · obtain ⟨ro, d, h1, h2, h3⟩ := ex_rel hL hrs [113] (exRel 113 false) (by decide +kernel)
    exact ⟨ro, h1, by rw [h2, h3]; rfl⟩

/-- `{"id":"1","type":"t","relationships":{"o":{"data":{"id":"","type":"u"}}}}` -/
def C06W.exSkEmpty : ResSke :=
  { id := [49], typ := [116], attrs := [],
    rels := [([111], { present := true, isNull := false, decIdent := some ([], [117]), decIdents := none })],
    smeta := default }

open C06W in
/-- **Known finding C06-toone-empty-id on a whole resource** (the reason for the hypothesis
`id ≠ []` in `C06W.linkageOf`; the relationship-level form is `C06_known_toOne_empty_id`): the
payload above, whose to-one linkage is the identifier `{"id":"","type":"u"}` - not `null` -, is
accepted, and re-marshaling the result with all fields and all relationship data writes
`"data": null` for `o`, which is not the payload's identifier. The statement of C06's last
clause without the exception is therefore false of the model (and of the code: the behaviour is
pinned by TestUnmarshalPartialResource). -/
theorem C06W_known_toOne_empty_id :
    ∃ res v j v' rs ro, unmarshalResource exσ exSkEmpty = .ok res ∧ res.view? = some v ∧
      marshalResource v [47] (exT.attrs.keys ++ exT.rels.keys) [([116], exT.rels.keys)] [] = .ok (j, v') ∧
      j.get? K.relationships = some rs ∧ rs.get? [111] = some ro ∧
      ro.get? K.data = some .null ∧ Json.null ≠ identifierJson [] [117] := by
  obtain ⟨res, hres⟩ : ∃ res, unmarshalResource exσ exSkEmpty = .ok res :=
    Res.exists_ok_of_isOk (by decide +kernel)
  obtain ⟨_, _, v, j, v', hv, hm, _, _, _, _, hL⟩ :=
    C06_remarshal exσ exσ_wf exSkEmpty res (by decide +kernel) (by decide +kernel)
      (by intro key raw hk; cases hk)
      (fun _ _ hk => (by decide +kernel :
        ∀ p ∈ exSkEmpty.rels, p.2.isNull = true → p.2.decIdent = some ([], [])) _ (mem_of_get? hk))
      hres { typ := exT, backed := false } rfl [47] (exT.attrs.keys ++ exT.rels.keys)
      [([116], exT.rels.keys)] [] (fun f hf => hf) (fun f hf => by simpa [GoMap.get?, exSkEmpty] using hf)
  obtain ⟨rs, ro, d, h1, h2, h3, h4⟩ := hL [111] (exRel 111 true) (by decide +kernel)
  obtain ⟨id, ty, e, _, _, h5⟩ := h4.2 rfl
  cases e
  refine ⟨res, v, j, v', rs, ro, hres, hv, hm, h1, h2, by rw [h3, h5 rfl], ?_⟩
  intro h
  cases h

/-! ### From the payload bytes -/

/-- The skeleton `Model/Decode.lean` builds from bytes satisfies `C06W.NullDecoded`: a `data`
member that is the literal `null` decodes into the zero Identifier. -/
theorem C06W.decodeRes_nullDecoded (D : Delegated) (j : Spec.CJson) (sk : ResSke)
    (h : decodeRes D j = some sk) : C06W.NullDecoded sk := by
  intro key rv hg hn
  obtain ⟨v, _, hd, _⟩ := C13P.decodeRes_rels D j sk h key rv hg
  obtain ⟨o, rfl, _⟩ := C13P.decodeRel_eq hd
  match o, hn with
  | some .null, _ => rfl

open C06W in
/-- `C06_remarshal_allFields` for the byte-level entry point `unmarshalResourceBytes`
(Model/Decode.lean): the hypotheses "distinct keys" and "null decodes to the zero Identifier"
are facts about the modelled decoder (`DecL.decodeRes_nodup`, `C06W.decodeRes_nullDecoded`).
Left as a hypothesis: no raw attribute value of the decoded skeleton starts with '+' (true of
every JSON value; the lemma "the reader `Spec.parseJsonC` only yields number tokens of JSON's
grammar" is not proved here). -/
theorem C06B_remarshal (D : Delegated) (σ : SSchema) (hσ : σ.WF) (bytes : GoString) (res : AnyRes)
    (h : unmarshalResourceBytes D σ bytes = .ok res)
    (hplus : ∀ j sk, Spec.parseJsonC bytes = some j → decodeRes D j = some sk →
      ∀ key raw, sk.attrs.get? key = some raw → raw.bytes.head? ≠ some 43)
    (prepath : GoString) (rmeta : Meta) :
    ∃ j sk, Spec.parseJsonC bytes = some j ∧ decodeRes D j = some sk ∧
    ∃ st ∈ σ, σ.getType sk.typ = some st ∧ st.typ.name = sk.typ ∧
    ∃ v t v', res.view? = some v ∧
      marshalResource v prepath (st.typ.attrs.keys ++ st.typ.rels.keys)
        [(sk.typ, st.typ.rels.keys)] rmeta = .ok (t, v') ∧
      t.get? K.id = some (.str sk.id) ∧ t.get? K.type = some (.str sk.typ) ∧
      (∀ key raw, sk.attrs.get? key = some raw →
        ∃ a o x, st.typ.attrs.get? key = some a ∧ t.get? K.attributes = some o ∧
          o.get? key = some x ∧ Spec.denotedJson a raw = some x) ∧
      (∀ key a, st.typ.attrs.get? key = some a → sk.attrs.has key = false →
        ∃ o, t.get? K.attributes = some o ∧ o.get? key = some (encodeAttr a.zero)) ∧
      (∀ key rel, st.typ.rels.get? key = some rel →
        ∃ rs ro d, t.get? K.relationships = some rs ∧ rs.get? key = some ro ∧
          ro.get? K.data = some d ∧ linkageOf rel (sk.rels.get? key) d) := by
  obtain ⟨j, sk, hj, hsk, h⟩ := unmarshalResourceBytes_ok h
  have hk := DecL.decodeRes_nodup D j sk hsk
  exact ⟨j, sk, hj, hsk, C06_remarshal_allFields σ hσ sk res hk.1 hk.2 (hplus j sk hj hsk)
    (decodeRes_nullDecoded D j sk hsk) h prepath rmeta⟩

end Jsonapi

section Axioms
open Jsonapi
#print axioms C06_remarshal
#print axioms C06_remarshal_allFields
#print axioms C06B_remarshal
#print axioms C06W_toMany_order
#print axioms C06W_known_toOne_empty_id
#print axioms C06W.viewMaps_of_unmarshal
#print axioms C06W.keyedWf_of
#print axioms C06W.stored
#print axioms C06W.decodeRes_nullDecoded
#print axioms C06W.exσ_wf
#print axioms C06W.exSk_accepted
end Axioms
