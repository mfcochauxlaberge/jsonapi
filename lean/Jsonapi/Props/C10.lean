/-
C10 — filter evaluation: `Filter.IsAllowed` on a well-typed resource and a well-typed
filter tree returns exactly the filter's logical value (no panic, no error), at any
depth; and that logical value is the natural order of each kind.
-/
import Jsonapi.Proofs.FilterLemmas
namespace Jsonapi
open Spec

/-! ### The implementation computes the specification -/

mutual
/-- `IsAllowed` returns the logical value of the filter tree. -/
theorem C10_eval (r : ResView) (hr : r.wf = true) :
    (f : Filter) → (hf : wellTyped r f = true) → isAllowed r f = .ok (Spec.eval r f)
  | .node true fs, hf => by
    rw [isAllowed, Spec.eval]; exact C10_evalAll r hr fs hf
  | .node false fs, hf => by
    rw [isAllowed, Spec.eval]; exact C10_evalAny r hr fs hf
  | .leaf field op val, hf => leaf_spec r hr field op val hf
/-- the `and` loop returns the conjunction -/
theorem C10_evalAll (r : ResView) (hr : r.wf = true) :
    (fs : List Filter) → (hf : wellTypedAll r fs = true) →
      allAllowed r fs = .ok (Spec.evalAll r fs)
  | [], _ => rfl
  | f :: fs, hf => by
    rw [wellTypedAll, Bool.and_eq_true] at hf
    rw [allAllowed, evalAll, C10_eval r hr f hf.1]
    cases Spec.eval r f
    · rfl
    · exact C10_evalAll r hr fs hf.2
/-- the `or` loop returns the disjunction -/
theorem C10_evalAny (r : ResView) (hr : r.wf = true) :
    (fs : List Filter) → (hf : wellTypedAll r fs = true) →
      anyAllowed r fs = .ok (Spec.evalAny r fs)
  | [], _ => rfl
  | f :: fs, hf => by
    rw [wellTypedAll, Bool.and_eq_true] at hf
    rw [anyAllowed, evalAny, C10_eval r hr f hf.1]
    cases Spec.eval r f
    · exact C10_evalAny r hr fs hf.2
    · rfl
end

/-! ### The comparisons are the natural order -/

/-- `!=` is the complement of `=`. -/
theorem C10_complement (v c : Spec.SVal) :
    Spec.evalCmp Op.ne v c = !Spec.evalCmp Op.eq v c := rfl

/-- Exactly one of `<`, `=`, `>` holds between two non-nil values of an ordered kind. -/
theorem C10_trichotomy (a b : Pay) (h : (Spec.ord a b).isSome = true) :
    let lt := Spec.evalCmp Op.lt (.pay a) (.pay b)
    let eq := Spec.evalCmp Op.eq (.pay a) (.pay b)
    let gt := Spec.evalCmp Op.gt (.pay a) (.pay b)
    (lt = true ∧ eq = false ∧ gt = false) ∨ (lt = false ∧ eq = true ∧ gt = false) ∨
      (lt = false ∧ eq = false ∧ gt = true) := by
  intro lt eq gt
  subst lt eq gt
  rw [evalCmp_lt, evalCmp_eq, evalCmp_gt]
  cases a <;> cases b <;> simp only [Spec.ord, Option.isSome_none, Bool.false_eq_true] at h
  · rw [valLt_s, valLt_s]; exact lt_tri _ _
  · rw [valLt_i, valLt_i]; exact lt_tri _ _
  · rw [valLt_t, valLt_t]
    exact one_of_three _ _ _ (by omega) (by omega) (by omega) (by omega)
  · rw [valLt_bs, valLt_bs]; exact lt_tri _ _

/-- `<=` is `<` or (ordered and `=`); `>=` is `>` or (ordered and `=`). -/
theorem C10_le_ge (v c : Spec.SVal) :
    Spec.evalCmp Op.le v c =
      (Spec.evalCmp Op.lt v c || (Spec.valOrdered v c && Spec.evalCmp Op.eq v c)) ∧
    Spec.evalCmp Op.ge v c =
      (Spec.evalCmp Op.gt v c || (Spec.valOrdered v c && Spec.evalCmp Op.eq v c)) :=
  ⟨rfl, rfl⟩

/-- nil equals only nil and is never ordered (nil on the left). -/
theorem C10_nil (op : GoString) (c : Spec.SVal) :
    Spec.evalCmp op .nil c =
      (if op = Op.eq then (match c with | .nil => true | _ => false)
       else if op = Op.ne then (match c with | .nil => false | _ => true)
       else false) := by
  rw [evalCmp_unordered op rfl]
  cases c <;> rfl

/-- nil equals only nil and is never ordered (nil on the right). -/
theorem C10_nil_right (op : GoString) (v : Spec.SVal) :
    Spec.evalCmp op v .nil =
      (if op = Op.eq then (match v with | .nil => true | _ => false)
       else if op = Op.ne then (match v with | .nil => false | _ => true)
       else false) := by
  rw [evalCmp_unordered op (by cases v <;> rfl)]
  cases v <;> rfl

/-- Booleans have no order: only `=` and `!=` can hold. -/
theorem C10_unordered_bool (op : GoString) (a b : Bool) (hop : op ≠ Op.eq) (hne : op ≠ Op.ne) :
    Spec.evalCmp op (.pay (.b a)) (.pay (.b b)) = false := by
  rw [evalCmp_unordered op rfl, if_neg hop, if_neg hne]

/-- ID sets have no order: only `=` and `!=` can hold. -/
theorem C10_unordered_ids (op : GoString) (a b : List GoString)
    (hop : op ≠ Op.eq) (hne : op ≠ Op.ne) :
    Spec.evalCmp op (.ids a) (.ids b) = false := by
  rw [evalCmp_unordered op rfl, if_neg hop, if_neg hne]

/-- An unknown operator allows nothing. -/
theorem C10_unknown_op (op : GoString) (v c : Spec.SVal)
    (h : op ∉ [Op.eq, Op.ne, Op.lt, Op.le, Op.gt, Op.ge]) : Spec.evalCmp op v c = false := by
  simp only [List.mem_cons, List.not_mem_nil, or_false, not_or] at h
  obtain ⟨h1, h2, h3, h4, h5, h6⟩ := h
  unfold Spec.evalCmp
  rw [if_neg h1, if_neg h2, if_neg h3, if_neg h4, if_neg h5, if_neg h6]

/-! ### The verdict does not depend on the resource implementation -/

/-- Two well-formed resources with the same definitions whose values agree up to the
typed/untyped reading of nil get the same verdict. -/
theorem C10_impl_independent (r₁ r₂ : ResView) (h1 : r₁.wf = true) (h2 : r₂.wf = true)
    (ha : r₁.attrs = r₂.attrs) (hrel : r₁.rels = r₂.rels)
    (hv : ∀ k, Spec.sval (r₁.get k) = Spec.sval (r₂.get k))
    (f : Filter) (hf : wellTyped r₁ f = true) : isAllowed r₁ f = isAllowed r₂ f := by
  have hf2 : wellTyped r₂ f = true := by rw [← wellTyped_congr r₁ r₂ ha hrel f]; exact hf
  rw [C10_eval r₁ h1 f hf, C10_eval r₂ h2 f hf2, eval_congr r₁ r₂ ha hrel hv f]

/-! ### Non-vacuity -/

/-- A resource with a bytes attribute `a` = [2,1], a nullable int16 attribute `n` read as
untyped nil, a to-one relationship `o` and a to-many relationship `m`. -/
def C10_exampleRes : ResView :=
  { typeName := [116], id := [49],
    attrs := [([97], { name := [97], ty := 14, nullable := false }),
              ([110], { name := [110], ty := 4, nullable := true })],
    rels := [([111], { fromType := [116], fromName := [111], toOne := true,
                       toType := [117], toName := [], fromOne := false }),
             ([109], { fromType := [116], fromName := [109], toOne := false,
                       toType := [117], toName := [], fromOne := false })],
    vals := [([97], .val .bytes (.bs (some [2, 1]))),
             ([111], .val .string (.s [120])),
             ([109], .strs [[121], [122]])] }

/-- `and [ or [a < [1,2], a > [1,2]], n = nil, o in [x], m has z ]` -/
def C10_exampleFilter : Filter :=
  .node true [
    .node false [.leaf [97] Op.lt (.val .bytes (.bs (some [1, 2]))),
                 .leaf [97] Op.gt (.val .bytes (.bs (some [1, 2])))],
    .leaf [110] Op.eq (.ptr .int16 none),
    .leaf [111] Op.in_ (.strs [[119], [120]]),
    .leaf [109] Op.has (.val .string (.s [122]))]

example :
    C10_exampleRes.wf = true ∧ wellTyped C10_exampleRes C10_exampleFilter = true ∧
    isAllowed C10_exampleRes C10_exampleFilter = .ok true ∧
    Spec.eval C10_exampleRes C10_exampleFilter = true ∧
    isAllowed C10_exampleRes (.leaf [97] Op.lt (.val .bytes (.bs (some [1, 2])))) = .ok false ∧
    isAllowed C10_exampleRes (.leaf [97] Op.eq (.val .bytes (.bs (some [1, 2])))) = .ok false ∧
    isAllowed C10_exampleRes (.leaf [97] Op.gt (.val .bytes (.bs (some [1, 2])))) = .ok true := by
  decide +kernel

/-- [2,1] vs [1,2] as byte strings: exactly `>` holds. -/
example :
    Spec.evalCmp Op.lt (.pay (.bs (some [2, 1]))) (.pay (.bs (some [1, 2]))) = false ∧
    Spec.evalCmp Op.eq (.pay (.bs (some [2, 1]))) (.pay (.bs (some [1, 2]))) = false ∧
    Spec.evalCmp Op.gt (.pay (.bs (some [2, 1]))) (.pay (.bs (some [1, 2]))) = true ∧
    (Spec.ord (.bs (some [2, 1])) (.bs (some [1, 2]))).isSome = true := by
  decide +kernel

#print axioms C10_eval
#print axioms C10_evalAll
#print axioms C10_evalAny
#print axioms C10_complement
#print axioms C10_trichotomy
#print axioms C10_le_ge
#print axioms C10_nil
#print axioms C10_nil_right
#print axioms C10_unordered_bool
#print axioms C10_unordered_ids
#print axioms C10_unknown_op
#print axioms C10_impl_independent

end Jsonapi
