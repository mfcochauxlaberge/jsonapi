/-
C07T — two sentences of C07 made declarative.

(a) "every inclusion path is a chain of relationships that exists in the schema from the
resource type, each valid requested path being kept unless a longer requested path extends
it": `C07_include_kept` uses the model's own `resolvePath` as the notion of "valid
requested path". Here `resolvePath` is characterised without mentioning it:
`resolvePath σ resType words = some rels` iff `rels` is a valid chain of the schema from
`resType` (`Spec.validChain`) whose relationship names are the `words`
(`C07T_resolvePath_iff`, for every schema with C14's invariant; `C07T_resolvePath_iff_chain`
is the hypothesis-free form, `C07T_resolvePath_needs_inv` shows why the invariant is needed
for the left-to-right direction), and `C07_include_kept` is restated with it
(`C07T_include_kept`).

(b), (c) "and always contain id, so the order they define is total": the sorting rules of a
collection URL contain a rule naming `id` (`C07T_sort_has_id`), and a rule list with such a
rule never ties two resources with different IDs, neither under the specification's
comparison (`C07T_spec_order_total`) nor under the model of `sortedResources.Less`
(`C07T_less_total`, for ALL attribute values: either a type assertion of `Less` fails or
exactly one of `Less(a, b)`, `Less(b, a)` holds; `C07T_less_total_wf` removes the failure
alternative under C09's typing hypotheses). `C07T_order_total` composes with `newURLFrom`.
The URL's rules and `Range`'s rules have the same format (`-name` byte strings; `Range`
reads them with `splitRule`, whose second component is `Spec.stripDash`).
-/
import Jsonapi.Props.C07
import Jsonapi.Props.C09
namespace Jsonapi
open UrlL

/-! ### (a) `resolvePath`, declaratively -/

/-- `words` name, one after the other, the relationships `rels` starting at type `cur`:
the current type exists, its relationship map holds the relationship under the word, and
the relationship's target type exists. -/
def chainNamedBy (σ : Schema) : GoString → List GoString → List Rel → Bool
  | _, [], [] => true
  | cur, w :: ws, rel :: rest =>
    let typ := σ.getType cur
    typ.name ≠ [] && typ.rels.get? w = some rel && σ.hasType rel.toType &&
      chainNamedBy σ rel.toType ws rest
  | _, _, _ => false

theorem resolve_go_iff (σ : Schema) : ∀ (ws : List GoString) (cur : GoString) (rels : List Rel),
    resolvePath.go σ cur ws = some rels ↔ chainNamedBy σ cur ws rels = true := by
  intro ws
  induction ws with
  | nil => intro cur rels; cases rels <;> simp [resolvePath.go, chainNamedBy]
  | cons w ws ih =>
    intro cur rels
    unfold resolvePath.go
    cases hget : (σ.getType cur).rels.get? w with
    | none => cases rels <;> simp [chainNamedBy, hget]
    | some rel =>
      cases rels with
      | nil => simp only [chainNamedBy]; split <;> simp
      | cons r rest =>
        simp only [chainNamedBy, hget, Bool.and_eq_true, decide_eq_true_eq, Option.some.injEq, ← ih,
          Bool.or_eq_true, Bool.not_eq_true']
        constructor
        · intro h
          split at h
          · cases h
          · next hc =>
            obtain ⟨l, hl, e⟩ := Option.map_eq_some_iff.1 h
            cases e
            exact ⟨⟨⟨fun e => hc (.inl e), rfl⟩, by simpa using fun e => hc (.inr e)⟩, hl⟩
        · rintro ⟨⟨⟨h1, rfl⟩, h3⟩, h4⟩
          rw [if_neg (by simp [h1, h3]), h4]; rfl

/-- `resolvePath` succeeds with `rels` exactly when `words` name the chain `rels` from
`resType` (no hypothesis on the schema). -/
theorem C07T_resolvePath_iff_chain (σ : Schema) (resType : GoString) (words : List GoString)
    (rels : List Rel) :
    resolvePath σ resType words = some rels ↔ chainNamedBy σ resType words rels = true :=
  resolve_go_iff σ words resType rels

theorem chainNamedBy_of_valid (σ : Schema) : ∀ (rels : List Rel) (cur : GoString),
    Spec.validChain σ cur rels = true →
      chainNamedBy σ cur (rels.map (·.fromName)) rels = true := by
  intro rels
  induction rels with
  | nil => intro cur _; rfl
  | cons r rest ih =>
    intro cur h
    unfold Spec.validChain at h
    simp only [Bool.and_eq_true, decide_eq_true_eq] at h
    obtain ⟨⟨⟨h1, h2⟩, h3⟩, h4⟩ := h
    simp only [List.map_cons, chainNamedBy, Bool.and_eq_true, decide_eq_true_eq]
    exact ⟨⟨⟨h1, h2⟩, h3⟩, ih _ h4⟩

/-- (a) For every schema with C14's invariant: `resolvePath` returns `rels` for `words`
exactly when `rels` is a chain of relationships that exists in the schema from `resType`
and the names of its relationships are the `words`. -/
theorem C07T_resolvePath_iff (σ : Schema) (hσ : Inv σ) (resType : GoString)
    (words : List GoString) (rels : List Rel) :
    resolvePath σ resType words = some rels ↔
      (Spec.validChain σ resType rels = true ∧ rels.map (·.fromName) = words) := by
  refine ⟨resolve_go_valid hσ words resType rels, ?_⟩
  rintro ⟨hv, rfl⟩
  exact (C07T_resolvePath_iff_chain σ resType _ rels).2 (chainNamedBy_of_valid σ rels resType hv)

/-- The right-to-left direction needs no hypothesis on the schema. -/
theorem C07T_resolvePath_of_valid (σ : Schema) (resType : GoString) (rels : List Rel)
    (hv : Spec.validChain σ resType rels = true) :
    resolvePath σ resType (rels.map (·.fromName)) = some rels :=
  (C07T_resolvePath_iff_chain σ resType _ rels).2 (chainNamedBy_of_valid σ rels resType hv)

/-- A schema outside C14's invariant: type "t" files the relationship named "b" under the
key "a". -/
def c07t_rel : Rel :=
  { fromType := [116], fromName := [98], toOne := true, toType := [116], toName := [],
    fromOne := false }
def c07t_σbad : Schema := { types := [{ name := [116], attrs := [], rels := [([97], c07t_rel)] }] }

/-- Why `C07T_resolvePath_iff` assumes the invariant: without "map key = relationship name"
`resolvePath` follows the key "a" and returns a relationship whose name is "b" (not a
valid chain, and not named by the words). The schema API never builds such a schema. -/
theorem C07T_resolvePath_needs_inv :
    resolvePath c07t_σbad [116] [[97]] = some [c07t_rel] ∧
    Spec.validChain c07t_σbad [116] [c07t_rel] = false ∧
    [c07t_rel].map (·.fromName) ≠ [[97]] := by decide +kernel

/-- (a, corollary) `C07_include_kept` with the declarative notion of a valid requested
path: a requested path whose words (split at '.') name a valid chain `rels` from the
URL's resource type is kept — `rels` is one of the URL's inclusion paths — unless a
longer requested path extends it. No hypothesis on the schema. -/
theorem C07T_include_kept (σ : Schema) (path : GoString) (values : GoMap (List GoString))
    (fd : FilterDec) (u : URL) (h : newURLFrom σ (some (path, values, fd)) = .ok u)
    (q : GoString) (hq : q ∈ Spec.requestedIncludes values) (rels : List Rel)
    (hv : Spec.validChain σ u.resType rels = true)
    (hn : rels.map (·.fromName) = splitOn 46 q) :
    rels ∈ u.params.incl ∨
      ∃ q' ∈ Spec.requestedIncludes values, hasPrefix q' (q ++ [46]) = true := by
  refine C07_include_kept σ path values fd u h q hq rels ?_
  rw [← hn]
  exact C07T_resolvePath_of_valid σ u.resType rels hv

/-- Conversely (with the invariant), every inclusion path of the URL is the valid chain
named by the words of one of the requested paths. -/
theorem C07T_include_requested (σ : Schema) (hσ : Inv σ) (path : GoString)
    (values : GoMap (List GoString)) (fd : FilterDec) (u : URL)
    (h : newURLFrom σ (some (path, values, fd)) = .ok u) :
    ∀ rels ∈ u.params.incl, ∃ q ∈ Spec.requestedIncludes values,
      Spec.validChain σ u.resType rels = true ∧ rels.map (·.fromName) = splitOn 46 q := by
  obtain ⟨path', values', fd', su, hpar, hsu, hu⟩ := newURLFrom_ok σ _ u h
  cases hpar
  obtain ⟨fm, _, _, _, _, _, _, hi⟩ := newParams_ok (newURL_parts hu).1
  intro rels hr
  rw [hi] at hr
  unfold pIncl pIncs at hr
  obtain ⟨inc, hinc, hres⟩ := List.mem_filterMap.1 hr
  have h1 : inc ∈ su.incl :=
    (DetL.sortStrings_perm _).mem_iff.1 (prune_subset _ inc hinc)
  rw [newSimpleURL_incl hsu] at h1
  exact ⟨inc, h1, (C07T_resolvePath_iff σ hσ _ _ _).1 hres⟩


/-! ### (b) the sorting rules of a collection URL mention `id` -/

/-- (b) For every collection URL returned by `newURLFrom`, some sorting rule names `id`
(after its optional '-'). -/
theorem C07T_sort_has_id (σ : Schema)
    (parsed : Option (GoString × GoMap (List GoString) × FilterDec)) (u : URL)
    (h : newURLFrom σ parsed = .ok u) (hcol : u.isCol = true) :
    ∃ rule ∈ u.params.sortingRules, Spec.stripDash rule = idName := by
  obtain ⟨path, values, fd, su, hpar, _, _⟩ := newURLFrom_ok σ parsed u h
  subst hpar
  exact (C07_sort σ path values fd u h hcol).2.2

/-! ### (c) a rule list that mentions `id` never ties two resources with different IDs -/

/-- `Range` reads a rule with `splitRule`; the name it sorts by is `Spec.stripDash rule`. -/
theorem splitRule_snd (r : GoString) : (splitRule r).2 = Spec.stripDash r := by
  unfold splitRule Spec.stripDash
  split
  · rfl
  · rename_i hno
    split
    · exact absurd rfl (hno _)
    · rfl

/-- (c, specification) Under the specification's comparison (`Spec.cmpRules`: ascending,
'-' descending, nil first, later rules break ties) a rule list that mentions `id` never
ties two resources with different IDs — whatever their attribute values. -/
theorem C07T_spec_order_total (rules : List GoString)
    (hid : ∃ r ∈ rules, Spec.stripDash r = idName) (a b : ResView) (hne : a.id ≠ b.id) :
    Spec.cmpRules rules a b ≠ .eq := by
  obtain ⟨r, hr, e⟩ := hid
  exact fun h => hne (id_eq_of_cmpRules_eq (List.mem_map.2 ⟨r, hr, by rw [splitRule_snd, e]⟩) h)

/-- Two outcomes of one rule of `Less`, for `(a, b)` and for `(b, a)`, are opposite:
both decided with opposite answers, or both a tie — or one of them is a failed type
assertion. -/
def RuleRes.opp : RuleRes → RuleRes → Bool
  | .decided x, .decided y => x != y
  | .tie, .tie => true
  | .panic, _ => true
  | _, .panic => true
  | _, _ => false

theorem ruleRes_opp (o : Ordering) : RuleRes.opp (ruleRes o) (ruleRes o.swap) = true := by
  cases o <;> rfl

theorem lessPay_panic (inv : Bool) {p q : Pay} (h : p.cls ≠ q.cls) :
    lessPay inv p q = .panic := by
  cases p <;> cases q <;> simp [Pay.cls] at h <;> rfl

theorem lessPay_opp (inv : Bool) (p q : Pay) :
    RuleRes.opp (lessPay inv p q) (lessPay inv q p) = true := by
  by_cases h : p.cls = q.cls
  · rw [lessPay_spec inv h, lessPay_spec inv h.symm, cmpPay_swap p q, orient_swap]
    exact ruleRes_opp _
  · rw [lessPay_panic inv h]; rfl

/-- the case name `Less` switches on -/
def lessTn (v : GoVal) : String :=
  if v.goType = "[]uint8" then "[]byte" else if v.goType = "*[]uint8" then "*[]byte" else v.goType

theorem lessVal_eq (inv : Bool) (v w : GoVal) :
    lessVal inv v w =
      if lessTn v ∉ Facts.lessCases then .tie
      else match v, w with
      | .val k p, .val k' p' => if k = k' then lessPay inv p p' else .panic
      | .ptr k p, .ptr k' p' =>
        if k ≠ k' then .panic
        else match p, p' with
          | none, none => .tie
          | none, some _ => .decided (!inv)
          | some _, none => .decided inv
          | some a, some b => lessPay inv a b
      | _, _ => .panic := rfl

theorem opp_tie_panic {r s : RuleRes} (hr : r = .tie ∨ r = .panic) (hs : s = .tie ∨ s = .panic) :
    RuleRes.opp r s = true := by
  rcases hr with rfl | rfl <;> rcases hs with rfl | rfl <;> rfl

theorem lessVal_mixed (inv : Bool) (v w : GoVal)
    (h1 : ∀ k p q, ¬ (v = .val k p ∧ w = .val k q))
    (h2 : ∀ k p q, ¬ (v = .ptr k p ∧ w = .ptr k q)) :
    lessVal inv v w = .tie ∨ lessVal inv v w = .panic := by
  rw [lessVal_eq]
  split
  · exact .inl rfl
  · split
    · split
      · next e => subst e; exact absurd ⟨rfl, rfl⟩ (h1 _ _ _)
      · exact .inr rfl
    · split
      · exact .inr rfl
      · next e => cases Decidable.of_not_not e; exact absurd ⟨rfl, rfl⟩ (h2 _ _ _)
    · exact .inr rfl

theorem lessVal_opp (inv : Bool) (v w : GoVal) :
    RuleRes.opp (lessVal inv v w) (lessVal inv w v) = true := by
  by_cases hv : ∃ k p q, v = .val k p ∧ w = .val k q
  · obtain ⟨k, p, q, rfl, rfl⟩ := hv
    rw [lessVal_eq, lessVal_eq, show lessTn (.val k q) = lessTn (.val k p) from rfl]
    split
    · rfl
    · simp only [if_true]; exact lessPay_opp inv p q
  · by_cases hp : ∃ k p q, v = .ptr k p ∧ w = .ptr k q
    · obtain ⟨k, p, q, rfl, rfl⟩ := hp
      rw [lessVal_eq, lessVal_eq, show lessTn (.ptr k q) = lessTn (.ptr k p) from rfl]
      split
      · rfl
      · simp only [ne_eq, not_true_eq_false, if_false]
        cases p <;> cases q <;> first | exact lessPay_opp inv _ _ | (cases inv <;> rfl)
    · exact opp_tie_panic
        (lessVal_mixed inv v w (fun k p q h => hv ⟨k, p, q, h⟩) (fun k p q h => hp ⟨k, p, q, h⟩))
        (lessVal_mixed inv w v (fun k p q h => hv ⟨k, q, p, h.2, h.1⟩) (fun k p q h => hp ⟨k, q, p, h.2, h.1⟩))

theorem xorInv_id_opp (x y : GoString) (inv : Bool) (h : x ≠ y) :
    xorInv (decide (x < y)) inv = !(xorInv (decide (y < x)) inv) := by
  by_cases h1 : x < y
  · have h2 : ¬ y < x := List.lt_asymm h1
    cases inv <;> simp [xorInv, h1, h2]
  · have h2 : y < x := lt_of_not_lt_of_ne h1 h
    cases inv <;> simp [xorInv, h1, h2]

theorem less_ne_err (rules : List GoString) (a b : ResView) : less rules a b ≠ .err := by
  induction rules with
  | nil => simp [less]
  | cons r rest ih =>
    rw [less_cons]
    split
    · simp
    · split
      · simp
      · exact ih
      · simp

theorem less_opp (rules : List GoString) (hid : ∃ r ∈ rules, Spec.stripDash r = idName)
    (a b : ResView) (hne : a.id ≠ b.id) (x y : Bool)
    (hx : less rules a b = .ok x) (hy : less rules b a = .ok y) : x = !y := by
  induction rules with
  | nil => obtain ⟨r, hr, _⟩ := hid; cases hr
  | cons r rest ih =>
    rw [less_cons] at hx hy
    by_cases hr : (splitRule r).2 = idName
    · rw [if_pos hr] at hx hy
      cases hx; cases hy
      exact xorInv_id_opp _ _ _ hne
    · rw [if_neg hr] at hx hy
      have hid' : ∃ r' ∈ rest, Spec.stripDash r' = idName := by
        obtain ⟨r', hr', e⟩ := hid
        rcases List.mem_cons.1 hr' with rfl | hm
        · rw [splitRule_snd] at hr; exact absurd e hr
        · exact ⟨r', hm, e⟩
      have hopp := lessVal_opp (splitRule r).1 (getAttrVal a (splitRule r).2)
        (getAttrVal b (splitRule r).2)
      revert hx hy hopp
      generalize lessVal (splitRule r).1 (getAttrVal a (splitRule r).2)
        (getAttrVal b (splitRule r).2) = r1
      generalize lessVal (splitRule r).1 (getAttrVal b (splitRule r).2)
        (getAttrVal a (splitRule r).2) = r2
      intro hx hy hopp
      cases r1 with
      | decided x' =>
        cases r2 with
        | decided y' =>
          simp only [Res.ok.injEq] at hx hy
          subst hx; subst hy
          revert hopp; cases x' <;> cases y' <;> simp [RuleRes.opp]
        | tie => simp [RuleRes.opp] at hopp
        | panic => cases hy
      | tie =>
        cases r2 with
        | decided y' => simp [RuleRes.opp] at hopp
        | tie => exact ih hid' hx hy
        | panic => cases hy
      | panic => cases hx

/-- (c, model) `sortedResources.Less` under a rule list that mentions `id`, on two
resources with different IDs and ANY attribute values: either a type assertion inside
`Less` fails (one of the two calls panics), or exactly one of `Less(a, b)`, `Less(b, a)`
is true — the two are never tied. -/
theorem C07T_less_total (rules : List GoString)
    (hid : ∃ r ∈ rules, Spec.stripDash r = idName) (a b : ResView) (hne : a.id ≠ b.id) :
    less rules a b = .panic ∨ less rules b a = .panic ∨
    (less rules a b = .ok true ∧ less rules b a = .ok false) ∨
    (less rules a b = .ok false ∧ less rules b a = .ok true) := by
  cases hx : less rules a b with
  | panic => exact .inl rfl
  | err => exact absurd hx (less_ne_err _ _ _)
  | ok x =>
    cases hy : less rules b a with
    | panic => exact .inr (.inl rfl)
    | err => exact absurd hy (less_ne_err _ _ _)
    | ok y =>
      have := less_opp rules hid a b hne x y hx hy
      subst this
      cases y
      · exact .inr (.inr (.inl ⟨rfl, rfl⟩))
      · exact .inr (.inr (.inr ⟨rfl, rfl⟩))

/-- The failure alternative of `C07T_less_total` is real: under the rules `n,id`, a
resource holding an `int` and one holding a `string` in the attribute `n` make `Less`
fail its type assertion (C09 excludes this by well-formedness of the resources). -/
theorem C07T_less_panic_possible :
    less [[110], idName]
      { typeName := [116], id := [97], attrs := [], rels := [], vals := [([110], .val .int (.i 1))] }
      { typeName := [116], id := [98], attrs := [], rels := [], vals := [([110], .val .string (.s []))] }
      = .panic := by decide +kernel

/-- (c, model, well-typed) On two well-formed resources with different IDs that declare
the rules' attributes alike (C09's `RulesOver`) and whose rules have a case in `Less`
(C09's `RulesHaveCases`), exactly one of `Less(a, b)`, `Less(b, a)` is true. -/
theorem C07T_less_total_wf (rules : List GoString)
    (hid : ∃ r ∈ rules, Spec.stripDash r = idName) (a b : ResView)
    (hwa : a.wf = true) (hwb : b.wf = true)
    (hover : RulesOver [a, b] rules) (hcases : RulesHaveCases [a, b] rules)
    (hne : a.id ≠ b.id) :
    (lessB rules a b = true ∧ lessB rules b a = false) ∨
    (lessB rules a b = false ∧ lessB rules b a = true) := by
  obtain ⟨x, hx⟩ := C09_less_no_panic rules a b hwa hwb hover hcases
  have hswap : ∀ r ∈ [b, a], r ∈ [a, b] := fun r hr => (List.Perm.swap a b []).mem_iff.1 hr
  obtain ⟨y, hy⟩ := C09_less_no_panic rules b a hwb hwa
    (fun rule hr => RuleTyped.mono hswap (hover rule hr))
    (fun rule hr => RuleCased.mono hswap (hcases rule hr))
  have := less_opp rules hid a b hne x y hx hy
  subst this
  unfold lessB
  rw [hx, hy]
  cases y
  · exact .inl ⟨rfl, rfl⟩
  · exact .inr ⟨rfl, rfl⟩

/-- (c, composition) "… and always contain id, so the order they define is total": for
every collection URL returned by `newURLFrom`, its sorting rules never tie two resources
with different IDs — not under the specification's comparison, and not under the model of
`sortedResources.Less` (where, for arbitrary values, a type assertion may fail instead). -/
theorem C07T_order_total (σ : Schema)
    (parsed : Option (GoString × GoMap (List GoString) × FilterDec)) (u : URL)
    (h : newURLFrom σ parsed = .ok u) (hcol : u.isCol = true)
    (a b : ResView) (hne : a.id ≠ b.id) :
    Spec.cmpRules u.params.sortingRules a b ≠ .eq ∧
    (less u.params.sortingRules a b = .panic ∨ less u.params.sortingRules b a = .panic ∨
     (less u.params.sortingRules a b = .ok true ∧ less u.params.sortingRules b a = .ok false) ∨
     (less u.params.sortingRules a b = .ok false ∧ less u.params.sortingRules b a = .ok true)) :=
  have hid := C07T_sort_has_id σ parsed u h hcol
  ⟨C07T_spec_order_total _ hid a b hne, C07T_less_total _ hid a b hne⟩

/-- (c, composition, well-typed) … and on well-formed resources typed for the rules,
exactly one of `Less(a, b)`, `Less(b, a)` holds under the URL's sorting rules. -/
theorem C07T_order_total_wf (σ : Schema)
    (parsed : Option (GoString × GoMap (List GoString) × FilterDec)) (u : URL)
    (h : newURLFrom σ parsed = .ok u) (hcol : u.isCol = true)
    (a b : ResView) (hwa : a.wf = true) (hwb : b.wf = true)
    (hover : RulesOver [a, b] u.params.sortingRules)
    (hcases : RulesHaveCases [a, b] u.params.sortingRules) (hne : a.id ≠ b.id) :
    (lessB u.params.sortingRules a b = true ∧ lessB u.params.sortingRules b a = false) ∨
    (lessB u.params.sortingRules a b = false ∧ lessB u.params.sortingRules b a = true) :=
  C07T_less_total_wf _ (C07T_sort_has_id σ parsed u h hcol) a b hwa hwb hover hcases hne


/-! ### non-vacuity: concrete instances of the hypotheses -/

/-- relationship "r" of type "t", to many "t" -/
def c07t_r : Rel :=
  { fromType := [116], fromName := [114], toOne := false, toType := [116], toName := [],
    fromOne := false }
/-- type "t": attribute `n : *int` (C09's `exAttr`), relationship "r" -/
def c07t_tT : Typ := { name := [116], attrs := [([110], exAttr)], rels := [([114], c07t_r)] }
def c07t_σ : Schema := { types := [c07t_tT] }

theorem c07t_σ_inv : Inv c07t_σ := by decide +kernel
/-- `GET /t?include=r.r&sort=-n` -/
def c07t_parsed : Option (GoString × GoMap (List GoString) × FilterDec) :=
  some ([47, 116], [(sInclude, [[114, 46, 114]]), (sSort, [[45, 110]])],
    { label := none, filter := none })

/-- `C07T_resolvePath_iff` on the (invariant-satisfying) schema: the words "r", "r". -/
example : Spec.validChain c07t_σ [116] [c07t_r, c07t_r] = true ∧
    [c07t_r, c07t_r].map (·.fromName) = [[114], [114]] :=
  (C07T_resolvePath_iff c07t_σ c07t_σ_inv [116] [[114], [114]] [c07t_r, c07t_r]).1 (by decide +kernel)

/-- the request parses to a collection URL that keeps the path "r.r" and whose rules are
C09's `-n,id` -/
theorem c07t_url (u : URL) (h : newURLFrom c07t_σ c07t_parsed = .ok u) :
    u.isCol = true ∧ u.resType = [116] ∧ [c07t_r, c07t_r] ∈ u.params.incl ∧
      u.params.sortingRules = exRules := by
  have : (match newURLFrom c07t_σ c07t_parsed with
      | .ok u => decide (u.isCol = true ∧ u.resType = [116] ∧ [c07t_r, c07t_r] ∈ u.params.incl ∧
          u.params.sortingRules = exRules)
      | _ => false) = true := by decide +kernel
  rw [h] at this
  simpa using this

example : (newURLFrom c07t_σ c07t_parsed).isOk = true := by decide +kernel

/-- hypotheses of `C07T_include_kept` -/
example : [114, 46, 114] ∈ Spec.requestedIncludes [(sInclude, [[114, 46, 114]]), (sSort, [[45, 110]])] ∧
    Spec.validChain c07t_σ [116] [c07t_r, c07t_r] = true ∧
    [c07t_r, c07t_r].map (·.fromName) = splitOn 46 [114, 46, 114] := by decide +kernel

/-- hypotheses of `C07T_less_total` / `C07T_spec_order_total` -/
example : (∃ r ∈ exRules, Spec.stripDash r = idName) ∧ exA.id ≠ exB.id :=
  ⟨⟨idName, by decide +kernel, by decide +kernel⟩, by decide +kernel⟩

/-- hypotheses of `C07T_less_total_wf` / `C07T_order_total_wf`: C09's resources, one value
nil, under `-n,id` — and the conclusion. -/
theorem c07t_typed : RulesOver [exA, exB] exRules ∧ RulesHaveCases [exA, exB] exRules := by
  obtain ⟨_, _, _, h4, h5, _⟩ := C09_nonvacuous
  have he : effRules exRules = exRules := rfl
  rw [he] at h4 h5
  have hsub : ∀ r ∈ [exA, exB], r ∈ [exA, exB, exC] :=
    fun r hr => (List.prefix_append [exA, exB] [exC]).subset hr
  exact ⟨fun rule hr => RuleTyped.mono hsub (h4 rule hr),
    fun rule hr => RuleCased.mono hsub (h5 rule hr)⟩

example : (lessB exRules exA exB = true ∧ lessB exRules exB exA = false) ∨
    (lessB exRules exA exB = false ∧ lessB exRules exB exA = true) :=
  C07T_less_total_wf exRules ⟨idName, by decide +kernel, by decide +kernel⟩ exA exB (by decide +kernel) (by decide +kernel)
    c07t_typed.1 c07t_typed.2 (by decide +kernel)

/-- `C07T_order_total_wf` applies to the URL of the request above. -/
example (u : URL) (h : newURLFrom c07t_σ c07t_parsed = .ok u) :
    (lessB u.params.sortingRules exA exB = true ∧ lessB u.params.sortingRules exB exA = false) ∨
    (lessB u.params.sortingRules exA exB = false ∧ lessB u.params.sortingRules exB exA = true) := by
  obtain ⟨hcol, _, _, hr⟩ := c07t_url u h
  refine C07T_order_total_wf c07t_σ c07t_parsed u h hcol exA exB (by decide +kernel) (by decide +kernel) ?_ ?_
    (by decide +kernel)
  · rw [hr]; exact c07t_typed.1
  · rw [hr]; exact c07t_typed.2

end Jsonapi

section Axioms
open Jsonapi
#print axioms C07T_resolvePath_iff_chain
#print axioms C07T_resolvePath_iff
#print axioms C07T_resolvePath_of_valid
#print axioms C07T_resolvePath_needs_inv
#print axioms C07T_include_kept
#print axioms C07T_include_requested
#print axioms C07T_sort_has_id
#print axioms C07T_spec_order_total
#print axioms C07T_less_total
#print axioms C07T_less_panic_possible
#print axioms C07T_less_total_wf
#print axioms C07T_order_total
#print axioms C07T_order_total_wf
end Axioms
