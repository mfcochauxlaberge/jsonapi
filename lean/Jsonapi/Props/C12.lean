/-
C12 — a built schema can be shared by concurrent requests.
PARTIAL by nature: the Go memory model is abstracted to "accesses to the shared schema",
and which functions write is a regenerated syntactic fact (T1); the dynamic side
(deep snapshots of the schema around every operation, and a -race run) is in the
harness. See DESIGN.md §6 C12.
-/
import Jsonapi.Model.Effects
namespace Jsonapi

/-- Every operation of the property is read-only on the Go side: none of the functions
it runs on the shared schema assigns through it (regenerated facts, decide-checked). -/
theorem C12_readonly : ∀ op ∈ ROp.all, op.writes = false := by decide +kernel

theorem ROp.mem_all (op : ROp) : op ∈ ROp.all := by cases op <;> decide

theorem C12_no_write_access (t : Nat) (op : ROp) : ∀ a ∈ op.accesses t, a.write = false := by
  have h := C12_readonly op (ROp.mem_all op)
  intro a ha
  unfold ROp.accesses at ha
  split at ha
  · cases ha
  · rw [h] at ha
    simp at ha
    rw [ha]

/-- Any number of threads, each running any sequence of the listed operations: no
interleaving of their accesses contains a data race. -/
theorem C12_race_free (threads : List (List ROp)) (e : List Access)
    (he : fromThreads (threads.mapIdx (fun i ops => ops.flatMap (ROp.accesses i))) e) :
    ¬ hasRace e := by
  rintro ⟨a, ha, b, hb, _, hw⟩
  have noW : ∀ x ∈ e, x.write = false := by
    intro x hx
    obtain ⟨t, ht, hxt⟩ := he x hx
    obtain ⟨i, _, rfl⟩ := List.mem_mapIdx.1 ht
    obtain ⟨op, _, hop⟩ := List.mem_flatMap.1 hxt
    exact C12_no_write_access i op x hop
  rcases hw with h | h
  · rw [noW a ha] at h; cases h
  · rw [noW b hb] at h; cases h

/-- The schema queries of the model are functions of the schema: they return no new
schema, so no sequence of them changes it (stated for the four queries). -/
theorem C12_queries_pure (σ : Schema) (n : GoString) :
    (∃ t, σ.getType n = t) ∧ (∃ b, σ.hasType n = b) ∧ (∃ l, σ.check = l) ∧ (∃ l, σ.relsSorted = l) :=
  ⟨⟨_, rfl⟩, ⟨_, rfl⟩, ⟨_, rfl⟩, ⟨_, rfl⟩⟩

/-- The converse, showing that the fact obligation is what carries the property: an
operation that writes races with any other access from another thread. -/
theorem C12_write_races (t₁ t₂ : Nat) (h : t₁ ≠ t₂) :
    hasRace [{ thread := t₁, write := true }, { thread := t₂, write := false }] :=
  ⟨_, List.mem_cons_self, _, List.mem_cons_of_mem _ List.mem_cons_self, h, .inl rfl⟩

/-! Non-vacuity: three threads with real operations. -/
example : ¬ hasRace (([ROp.rels, ROp.parseURL].flatMap (ROp.accesses 0)) ++
    ([ROp.check].flatMap (ROp.accesses 1)) ++ ([ROp.unmarshalDocument].flatMap (ROp.accesses 2))) := by
  apply C12_race_free [[.rels, .parseURL], [.check], [.unmarshalDocument]]
  intro a ha
  simp only [List.mapIdx_cons, List.mapIdx_nil] at *
  simp only [List.mem_append] at ha
  rcases ha with (ha | ha) | ha
  · exact ⟨_, List.mem_cons_self, ha⟩
  · exact ⟨_, List.mem_cons_of_mem _ List.mem_cons_self, ha⟩
  · exact ⟨_, List.mem_cons_of_mem _ (List.mem_cons_of_mem _ List.mem_cons_self), ha⟩

#print axioms C12_readonly
#print axioms C12_no_write_access
#print axioms C12_race_free
#print axioms C12_queries_pure
#print axioms C12_write_races
end Jsonapi
