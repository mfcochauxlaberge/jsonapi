/-
C04 — sparse fieldsets and relationship data in marshaled documents.

"For every resource object in a marshaled document, the attribute names present are
exactly the attributes of its type that the URL's field selection lists for that type,
the relationship names present are exactly the selected relationships, and a
relationship carries a data member iff the document asks for that relationship's data.
A data member lists exactly the resource's related IDs, each with the relationship's
target type (null for an empty to-one); a type without a selection entry exposes no
attributes or relationships."

Domain: `ResView.keyedWf` (Jsonapi/Proofs/MarshalSpecLemmas.lean): well-typed resources whose
attribute / relationship maps are keyed by name, names all distinct. The theorems hold for
EVERY fields list (empty, unknown names, "id", duplicates) and every relData map.
-/
import Jsonapi.Proofs.MarshalLemmas
namespace Jsonapi
open MarshalL

/-- 1. On the domain the model's `MarshalResource` succeeds and returns exactly the object of
the specification; the resource is unchanged except for the order of to-many ID lists. -/
theorem C04_resource (r : ResView) (hr : r.keyedWf) (prepath : GoString) (fields : List GoString)
    (relData : GoMap (List GoString)) (rmeta : Meta) :
    ∃ r', marshalResource r prepath fields relData rmeta =
        .ok (Spec.resourceObject r prepath fields relData rmeta, r') ∧
      r'.typeName = r.typeName ∧ r'.id = r.id ∧ r'.attrs = r.attrs ∧ r'.rels = r.rels ∧
      (∀ k, r'.get k = r.get k ∨
        ∃ l, r.get k = .strs l ∧ r'.get k = .strs (Typ.sortStrings l)) := by
  obtain ⟨r', h, hs⟩ := marshalResource_eq r hr prepath fields relData rmeta
  exact ⟨r', h, hs⟩

/-- 2a. A name is a member of the "attributes" object iff it is the name of an attribute of
the resource and the selection lists it. (When nothing is selected there is no
"attributes" member at all, so the left side is false.) No hypothesis on the resource. -/
theorem C04_attr_present_iff (r : ResView) (prepath : GoString) (fields : List GoString)
    (relData : GoMap (List GoString)) (rmeta : Meta) (n : GoString) :
    (∃ a, (Spec.resourceObject r prepath fields relData rmeta).get? K.attributes = some a ∧
        a.has n = true) ↔
    ((∃ a ∈ r.attrs.vals, a.name = n) ∧ n ∈ fields) :=
  (has_member_iff (resObj_get_attributes ..)).trans mem_keys_attrMembers

/-- on the domain "is the name of an attribute" is "is a key of the attribute map" -/
theorem C04_attr_present_iff_keyed (r : ResView) (hr : r.keyedWf) (prepath : GoString)
    (fields : List GoString) (relData : GoMap (List GoString)) (rmeta : Meta) (n : GoString) :
    (∃ a, (Spec.resourceObject r prepath fields relData rmeta).get? K.attributes = some a ∧
        a.has n = true) ↔
    (n ∈ r.attrs.keys ∧ n ∈ fields) := by
  rw [C04_attr_present_iff]
  have : (∃ a ∈ r.attrs.vals, a.name = n) ↔ n ∈ r.attrs.keys := by
    simp only [GoMap.vals, GoMap.keys, List.mem_map]
    constructor
    · rintro ⟨a, ⟨p, hp, rfl⟩, rfl⟩; exact ⟨p, hp, hr.2.1 p hp⟩
    · rintro ⟨p, hp, rfl⟩; exact ⟨p.2, ⟨p, hp, rfl⟩, (hr.2.1 p hp).symm⟩
  rw [this]

/-- the value of a selected attribute is the encoding of the resource's value -/
theorem C04_attr_value (r : ResView) (hr : r.keyedWf) (prepath : GoString)
    (fields : List GoString) (relData : GoMap (List GoString)) (rmeta : Meta)
    (a : Attr) (ha : a ∈ r.attrs.vals) (hf : a.name ∈ fields) :
    ∃ o, (Spec.resourceObject r prepath fields relData rmeta).get? K.attributes = some o ∧
      o.get? a.name = some (encodeAttr (r.get a.name)) :=
  get_member (resObj_get_attributes ..) (attrMembers_keys_nodup hr fields)
    (List.mem_map.2 ⟨a, List.mem_filter.2 ⟨ha, List.contains_iff_mem.2 hf⟩, rfl⟩)

/-- 2b. A name is a member of the "relationships" object iff it is the name of a
relationship of the resource and the selection lists it. -/
theorem C04_rel_present_iff (r : ResView) (prepath : GoString) (fields : List GoString)
    (relData : GoMap (List GoString)) (rmeta : Meta) (n : GoString) :
    (∃ a, (Spec.resourceObject r prepath fields relData rmeta).get? K.relationships = some a ∧
        a.has n = true) ↔
    ((∃ rel ∈ r.rels.vals, rel.fromName = n) ∧ n ∈ fields) :=
  (has_member_iff (resObj_get_relationships ..)).trans mem_keys_relMembers

theorem C04_rel_present_iff_keyed (r : ResView) (hr : r.keyedWf) (prepath : GoString)
    (fields : List GoString) (relData : GoMap (List GoString)) (rmeta : Meta) (n : GoString) :
    (∃ a, (Spec.resourceObject r prepath fields relData rmeta).get? K.relationships = some a ∧
        a.has n = true) ↔
    (n ∈ r.rels.keys ∧ n ∈ fields) := by
  rw [C04_rel_present_iff]
  have : (∃ a ∈ r.rels.vals, a.fromName = n) ↔ n ∈ r.rels.keys := by
    simp only [GoMap.vals, GoMap.keys, List.mem_map]
    constructor
    · rintro ⟨a, ⟨p, hp, rfl⟩, rfl⟩; exact ⟨p, hp, hr.2.2.1 p hp⟩
    · rintro ⟨p, hp, rfl⟩; exact ⟨p.2, ⟨p, hp, rfl⟩, (hr.2.2.1 p hp).symm⟩
  rw [this]

/-- 2c. The relationship object of a selected relationship has a "data" member iff the
document's relData lists the relationship for the resource's type. -/
theorem C04_data_present_iff (r : ResView) (hr : r.keyedWf) (prepath : GoString)
    (fields : List GoString) (relData : GoMap (List GoString)) (rmeta : Meta)
    (rel : Rel) (hrel : rel ∈ r.rels.vals) (hf : rel.fromName ∈ fields) :
    ∃ rs ro, (Spec.resourceObject r prepath fields relData rmeta).get? K.relationships = some rs ∧
      rs.get? rel.fromName = some ro ∧
      (ro.has K.data = true ↔ rel.fromName ∈ (relData.get? r.typeName).getD []) := by
  obtain ⟨rs, h1, h2⟩ := resObj_rel_value hr prepath fields relData rmeta hrel hf
  refine ⟨rs, _, h1, h2, ?_⟩
  rw [relObject_has_data]
  simp [wantOf]

/-- 3. The data member of a selected and requested relationship is `Spec.relDataJson`:
to-one: null iff the ID is empty, else the identifier with the target type;
to-many: the identifiers, with the target type, of a permutation (the sorted list) of the
resource's IDs. -/
theorem C04_data_exact (r : ResView) (hr : r.keyedWf) (prepath : GoString)
    (fields : List GoString) (relData : GoMap (List GoString)) (rmeta : Meta)
    (rel : Rel) (hrel : rel ∈ r.rels.vals) (hf : rel.fromName ∈ fields)
    (hw : rel.fromName ∈ (relData.get? r.typeName).getD []) :
    (∃ rs ro, (Spec.resourceObject r prepath fields relData rmeta).get? K.relationships = some rs ∧
      rs.get? rel.fromName = some ro ∧ ro.get? K.data = some (Spec.relDataJson r rel)) ∧
    (rel.toOne = true → ∃ id, r.get rel.fromName = .val .string (.s id) ∧
      Spec.relDataJson r rel = if id = [] then .null else identifierJson id rel.toType) ∧
    (rel.toOne = false → ∃ (ids sorted : List GoString), r.get rel.fromName = .strs ids ∧ sorted.Perm ids ∧
      Spec.relDataJson r rel = .arr (sorted.map (fun id => identifierJson id rel.toType))) := by
  refine ⟨?_, ?_, ?_⟩
  · obtain ⟨rs, h1, h2⟩ := resObj_rel_value hr prepath fields relData rmeta hrel hf
    refine ⟨rs, _, h1, h2, ?_⟩
    have : (wantOf r relData).contains rel.fromName = true := by simpa [wantOf] using hw
    rw [this, relObject_get_data]
  · intro hone; exact relDataJson_toOne hr hrel hone
  · intro hmany
    obtain ⟨ids, h1, h2, h3⟩ := relDataJson_toMany hr hrel hmany
    exact ⟨ids, _, h1, h2, h3⟩

/-- 4. On the domain the model's `MarshalDocument` fails exactly when the specification has
no tree (data of an unknown Go type) and otherwise returns exactly the tree of the
specification, in which every resource object (primary, collection member, included) is
`Spec.resourceObject` with the selection `Spec.selection fields typeName`. -/
theorem C04_document (doc : Document) (hdom : ∀ r ∈ docResources doc, r.keyedWf)
    (fields : GoMap (List GoString)) (selfHref : GoString) :
    (Spec.documentTree doc fields selfHref = none → marshalDocument doc fields selfHref = .err) ∧
    (∀ t, Spec.documentTree doc fields selfHref = some t →
      ∃ doc', marshalDocument doc fields selfHref = .ok (t, doc')) := by
  obtain ⟨doc', h⟩ := marshalDocument_eq' doc hdom fields selfHref
  exact ⟨fun hn => by rw [h, hn], fun t ht => ⟨doc', by rw [h, ht]⟩⟩

/-- `MarshalCollection` called directly (no document around it): on the domain it succeeds and
returns the array of the specification's resource objects, in the order of the collection. -/
theorem C04_collection (c : List ResView) (hc : ∀ r ∈ c, r.keyedWf) (prepath : GoString)
    (fields : GoMap (List GoString)) (relData : GoMap (List GoString)) :
    ∃ c', marshalCollection c prepath fields relData =
      .ok (.arr (c.map (fun r =>
        Spec.resourceObject r prepath (Spec.selection fields r.typeName) relData)), c') := by
  refine ⟨_, marshalCollection_ok.2 ⟨fun r hr => (marshals_of_keyedWf (hc r hr) _ _ _).1, ?_, rfl⟩⟩
  rw [List.map_congr_left (fun r hr => (marshals_of_keyedWf (hc r hr) prepath fields relData).2)]

/-- A type without a selection entry exposes no attributes and no relationships. -/
theorem C04_no_entry (r : ResView) (prepath : GoString) (fields : GoMap (List GoString))
    (relData : GoMap (List GoString)) (rmeta : Meta) (h : fields.get? r.typeName = none) :
    (Spec.resourceObject r prepath (Spec.selection fields r.typeName) relData rmeta).has
        K.attributes = false ∧
    (Spec.resourceObject r prepath (Spec.selection fields r.typeName) relData rmeta).has
        K.relationships = false := by
  have hs : Spec.selection fields r.typeName = [] := by simp [Spec.selection, h]
  rw [hs]
  unfold Json.has
  rw [resObj_get_attributes, resObj_get_relationships]
  simp [attrMembers, relMembers]

/-- More generally: nothing outside the selection is ever exposed. -/
theorem C04_not_selected (r : ResView) (prepath : GoString) (fields : List GoString)
    (relData : GoMap (List GoString)) (rmeta : Meta) (n : GoString) (h : n ∉ fields) :
    (¬ ∃ a, (Spec.resourceObject r prepath fields relData rmeta).get? K.attributes = some a ∧
        a.has n = true) ∧
    (¬ ∃ a, (Spec.resourceObject r prepath fields relData rmeta).get? K.relationships = some a ∧
        a.has n = true) := by
  rw [C04_attr_present_iff, C04_rel_present_iff]
  exact ⟨fun h' => h h'.2, fun h' => h h'.2⟩

#print axioms C04_resource
#print axioms C04_attr_present_iff
#print axioms C04_attr_present_iff_keyed
#print axioms C04_attr_value
#print axioms C04_rel_present_iff
#print axioms C04_rel_present_iff_keyed
#print axioms C04_data_present_iff
#print axioms C04_data_exact
#print axioms C04_document
#print axioms C04_collection
#print axioms C04_no_entry
#print axioms C04_not_selected

/-! ### non-vacuity: a resource of the domain with an attribute, an empty to-one and an
unsorted to-many relationship -/

def c04_sample : ResView :=
  { typeName := [97], id := [49],
    attrs := [([116], { name := [116], ty := 1, nullable := false })],
    rels := [([111], { fromType := [97], fromName := [111], toOne := true, toType := [98],
                       toName := [], fromOne := false }),
             ([109], { fromType := [97], fromName := [109], toOne := false, toType := [98],
                       toName := [], fromOne := false })],
    vals := [([116], .val .string (.s [120])), ([111], .val .string (.s [])),
             ([109], .strs [[50], [49]])] }

example : c04_sample.keyedWf := by decide

example : (∃ a ∈ c04_sample.attrs.vals, a.name = [116]) ∧ [116] ∈ [[116], [105, 100], [122], [116]] ∧
    (∃ rel ∈ c04_sample.rels.vals, rel.fromName = [109] ∧ rel.toOne = false) := by decide

/-- the present-iff theorem at work on the sample, with a fields list containing an unknown
name, "id" and a duplicate -/
example : ∃ a, (Spec.resourceObject c04_sample [47] [[116], [105, 100], [122], [116]] []).get?
    K.attributes = some a ∧ a.has [116] = true :=
  (C04_attr_present_iff _ _ _ _ _ _).2 (by decide)

end Jsonapi
