/-
C03D — the resource-object clauses of C03 at the DOCUMENT level, for the
tree the model's `MarshalDocument` returns, and the Include uniqueness on the OUTPUT TREE.

`C03_resource_object` (Props/C03.lean) covers one object of the specification
(`Spec.resourceObject`); the model's `marshalResource` is that object only on the domain
`keyedWf` (C04_resource). Here the clauses are proved for whatever the MODEL returns: ANY
resource, no well-formedness hypothesis (duplicate names, ill-typed values, attribute and
relationship of one name). Resource identifiers given as primary data are not resource objects:
`Include` does not look at them, and JSON:API allows a resource to be identified in `data` and
included in full.
-/
import Jsonapi.Props.C03
namespace Jsonapi
open MarshalL MJsonL

/-- The model's `MarshalResource`, whatever the resource: a successful result satisfies the
resource-object clauses of C03, and the resource afterwards has the same type name and ID. -/
theorem C03_marshalResource_shape {r : ResView} {prepath : GoString} {fields : List GoString}
    {relData : GoMap (List GoString)} {rmeta : Meta} {j : Json} {r' : ResView}
    (h : marshalResource r prepath fields relData rmeta = .ok (j, r')) :
    ResObjShape prepath r j ∧ r'.id = r.id ∧ r'.typeName = r.typeName := by
  obtain ⟨⟨attrs, rels, rfl, -, hr⟩, rfl⟩ := marshalResource_ok h
  have hs := postRes_sameUpTo r prepath fields relData
  refine ⟨resTop_shape r prepath attrs rels rmeta (fun q hq => ?_), hs.2.1, hs.1⟩
  obtain ⟨rel, w, rfl⟩ := hr q hq
  exact relObject_shape r prepath rel w

theorem objOf_shape {prepath : GoString} {fields relData : GoMap (List GoString)}
    {l : List ResView} (h : ∀ r ∈ l, Marshals prepath fields relData r) :
    Forall2 (ResObjShape prepath) l (l.map (objOf prepath fields relData)) :=
  Forall2.map_right _ l (fun r hr => (C03_marshalResource_shape (h r hr)).1)

/-- The model's `MarshalCollection`, whatever the members: an array with one resource object
per member, in order. -/
theorem C03_marshalCollection_shape {c : List ResView} {prepath : GoString}
    {fields relData : GoMap (List GoString)} {j : Json} {c' : List ResView}
    (h : marshalCollection c prepath fields relData = .ok (j, c')) :
    ∃ js, j = .arr js ∧ Forall2 (ResObjShape prepath) c js := by
  obtain ⟨hm, rfl, -⟩ := marshalCollection_ok.1 h
  exact ⟨_, rfl, objOf_shape hm⟩

/-! ### documents -/

/-- What the `data` member of the tree must be, by the kind of primary data of the document. -/
def DataShape (doc : Document) (dj : Json) : Prop :=
  match doc.data with
  | .res r => ResObjShape doc.prePath r dj
  | .col _ ms => ∃ js, dj = .arr js ∧ Forall2 (ResObjShape doc.prePath) ms js
  | .ident id typ => dj = identifierJson id typ
  | .idents _ l => dj = .arr (l.map (fun p => identifierJson p.1 p.2))
  | .none => dj = .null
  | .other => False

/-- The parts of a successful `marshalDocument`: the `data` member is present only if the
document has no errors, and then has the shape of the primary data; `included` is present
only alongside `data`, and then is the non-empty array of the resource objects of the included
resources in `sortById` order. No hypothesis on the document. -/
theorem marshalDocument_members {doc : Document} {fields : GoMap (List GoString)}
    {selfHref : GoString} {t : Json} {doc' : Document}
    (h : marshalDocument doc fields selfHref = .ok (t, doc')) :
    (∀ dj, t.get? K.data = some dj → doc.errors.isEmpty = true ∧ DataShape doc dj) ∧
    (∀ ij, t.get? K.included = some ij → doc.errors.isEmpty = true ∧ t.has K.data = true ∧
      ∃ js, ij = .arr js ∧ js ≠ [] ∧ Forall2 (ResObjShape doc.prePath) (sortById doc.included) js) := by
  obtain ⟨hp, hi, -, rfl, -⟩ := marshalDocument_ok.1 h
  constructor
  · intro dj hdj
    rw [tree_get_data] at hdj
    split at hdj
    · rename_i he
      refine ⟨he, ?_⟩
      unfold DataShape
      unfold dataWith at hdj
      unfold docPrimary at hp
      split at hdj <;> simp only [*] at hp ⊢
      · split at hdj <;> cases hdj <;> rfl
      · cases hdj; exact (C03_marshalResource_shape (hp _ (List.mem_singleton.2 rfl))).1
      · cases hdj; exact ⟨_, rfl, objOf_shape hp⟩
      · cases hdj; rfl
      · cases hdj; rfl
      · cases hdj
    · cases hdj
  · intro ij hij
    rw [tree_get_included] at hij
    split at hij
    · rename_i hc
      obtain ⟨he, hd, hne⟩ := hc
      cases hij
      have hnd : RepL.noData doc = false := by
        rw [← dataWith_isNone (docObj doc fields)]
        cases hd' : dataWith (docObj doc fields) doc <;> simp [hd'] at hd ⊢
      refine ⟨he, by rw [Json.has, tree_get_data, if_pos he]; exact hd, _, rfl,
        by simpa [sortById_eq_nil] using hne,
        objOf_shape (fun r hr => hi hnd r ((sortById_perm _).mem_iff.1 hr))⟩
    · cases hij

/-- For any document and any URL, the `data` member of the
tree of a successful `MarshalDocument` is the resource object of the primary resource / the
array of the resource objects of the primary collection's members, in order / the
identifier(s) / null, and the `included` member is the array of the resource objects of the
included resources (in `sortById` order); "resource object of `r`" = the clauses of C03
(`ResObjShape`, spelled out by `ResObjShape.spelled`). No well-formedness hypothesis on the
resources: a resource on which the model panics or fails has no successful marshal. -/
theorem C03_document_resource_objects (doc : Document) (fields : GoMap (List GoString))
    (selfHref : GoString) (t : Json) (doc' : Document)
    (h : marshalDocument doc fields selfHref = .ok (t, doc')) :
    (∀ dj, t.get? K.data = some dj → DataShape doc dj) ∧
    (∀ ij, t.get? K.included = some ij →
      ∃ js, ij = .arr js ∧ Forall2 (ResObjShape doc.prePath) (sortById doc.included) js) := by
  obtain ⟨h1, h2⟩ := marshalDocument_members h
  refine ⟨fun dj hdj => (h1 dj hdj).2, fun ij hij => ?_⟩
  obtain ⟨_, _, js, e, _, hf⟩ := h2 ij hij
  exact ⟨js, e, hf⟩

/-! ### the resource objects of a tree, member by member -/

/-- the members of a `data` / `included` member: the elements of an array, or the one object -/
def treeMembers : Option Json → List Json
  | some (.arr l) => l
  | some (.obj ms) => [.obj ms]
  | _ => []

/-- The resource objects of a document tree: the members of `data` that carry a `links` member
(resource identifiers - the primary data of a relationship document - carry none) and the
members of `included`. -/
def treeResObjs (t : Json) : List Json :=
  (treeMembers (t.get? K.data)).filter (fun j => j.has K.links) ++ treeMembers (t.get? K.included)

/-- the (type, id) members of an object of the tree -/
def pairOf (j : Json) : Option Json × Option Json := (j.get? K.type, j.get? K.id)

/-- the (type, id) pair of a resource as the tree shows it -/
def pairR (r : ResView) : Option Json × Option Json :=
  (some (.str r.typeName), some (.str r.id))

theorem ResObjShape.has_links {prepath : GoString} {r : ResView} {j : Json}
    (h : ResObjShape prepath r j) : j.has K.links = true := by
  unfold Json.has; rw [h.2.2.2.1]; rfl

theorem identifier_no_links (id typ : GoString) : (identifierJson id typ).has K.links = false := by
  have e1 : decide (K.id = K.links) = false := by decide
  have e2 : decide (K.type = K.links) = false := by decide
  simp [identifierJson, Json.has, Json.get?, List.find?, e1, e2]

/-- The resource objects of the tree of a successful `MarshalDocument` are: the resource objects
of the primary resources (or none: errors, identifiers, null) followed by the resource objects
of the included resources in `sortById` order (or none). -/
theorem treeResObjs_marshalDocument {doc : Document} {fields : GoMap (List GoString)}
    {selfHref : GoString} {t : Json} {doc' : Document}
    (h : marshalDocument doc fields selfHref = .ok (t, doc')) :
    ∃ ps is, treeResObjs t = ps ++ is ∧
      (ps = [] ∨ Forall2 (ResObjShape doc.prePath) (docPrimary doc) ps) ∧
      (is = [] ∨ Forall2 (ResObjShape doc.prePath) (sortById doc.included) is) := by
  obtain ⟨hD, hI⟩ := marshalDocument_members h
  unfold treeResObjs
  refine ⟨_, _, rfl, ?_, ?_⟩
  · cases hd : t.get? K.data with
    | none => exact .inl rfl
    | some dj =>
      have hs := (hD dj hd).2
      unfold DataShape at hs
      unfold docPrimary
      cases hdd : doc.data <;> simp only [hdd] at hs ⊢
      · subst hs; exact .inl rfl
      · cases dj with
        | obj ms => exact .inr (by simpa [treeMembers, hs.has_links] using Forall2.cons hs .nil)
        | _ => exact absurd hs.1 (by simp [Json.isObj])
      · obtain ⟨js, rfl, hf⟩ := hs
        refine .inr ?_
        have : js.filter (fun j => j.has K.links) = js :=
          List.filter_eq_self.2 (fun j hj =>
            let ⟨_, _, ha⟩ := forall2_mem_right hf j hj; ha.has_links)
        simpa [treeMembers, this] using hf
      · subst hs
        refine .inl ?_
        show [identifierJson _ _].filter _ = []
        simp [identifier_no_links]
      · refine .inl ?_
        subst hs
        simp only [treeMembers, List.filter_eq_nil_iff]
        intro j hj
        obtain ⟨p, _, rfl⟩ := List.mem_map.1 hj
        simp [identifier_no_links]
  · cases hi : t.get? K.included with
    | none => exact .inl rfl
    | some ij =>
      obtain ⟨_, _, js, rfl, _, hf⟩ := hI ij hi
      exact .inr hf

/-- Every member of `data` (object or array elements) that is a resource object, and every
member of `included`, is the resource object of a resource of the document and satisfies the
clauses of C03. -/
theorem C03_document_members_clauses (doc : Document) (fields : GoMap (List GoString))
    (selfHref : GoString) (t : Json) (doc' : Document)
    (h : marshalDocument doc fields selfHref = .ok (t, doc')) :
    ∀ j ∈ treeResObjs t, ∃ r ∈ docPrimary doc ++ doc.included, ResObjShape doc.prePath r j := by
  obtain ⟨ps, is, e, hp, hi⟩ := treeResObjs_marshalDocument h
  rw [e]
  intro j hj
  rcases List.mem_append.1 hj with hj | hj
  · rcases hp with hp | hp
    · rw [hp] at hj; cases hj
    · obtain ⟨r, hr, hs⟩ := forall2_mem_right hp j hj
      exact ⟨r, List.mem_append_left _ hr, hs⟩
  · rcases hi with hi | hi
    · rw [hi] at hj; cases hj
    · obtain ⟨r, hr, hs⟩ := forall2_mem_right hi j hj
      exact ⟨r, List.mem_append_right _ ((sortById_perm _).mem_iff.1 hr), hs⟩

/-! ### Include: no (type, id) pair twice in the OUTPUT TREE -/

theorem pairOf_shape {prepath : GoString} (r : ResView) (j : Json) (h : ResObjShape prepath r j) :
    pairR r = pairOf j := by
  unfold pairOf pairR; rw [h.2.1, h.2.2.1]

theorem nodup_pairR_of_resPair {l : List ResView} (h : (l.map resPair).Nodup) :
    (l.map pairR).Nodup := by
  unfold List.Nodup at *
  rw [List.pairwise_map] at *
  refine h.imp ?_
  intro a b hne e
  apply hne
  simp only [pairR, Prod.mk.injEq, Option.some.injEq, Json.str.injEq] at e
  simp only [resPair, Prod.mk.injEq]
  exact e

/-- `C03_include_unique_pairs` on the output tree: start from any
document whose primary and included resources have pairwise distinct (type, id) pairs (and whose
typed collection holds resources of its type), run any history of `Include` calls, marshal with
any field selection and URL: if that succeeds, no (type, id) pair occurs twice among the
resource objects of the `data` and `included` members of the tree. -/
theorem C03_include_unique_tree (ops : List ResView) (d0 : Document) (ht : TypedCol d0)
    (hnd : ((docPrimary d0 ++ d0.included).map resPair).Nodup)
    (fields : GoMap (List GoString)) (selfHref : GoString) (t : Json) (d' : Document)
    (h : marshalDocument (ops.foldl Document.include d0) fields selfHref = .ok (t, d')) :
    ((treeResObjs t).map pairOf).Nodup := by
  obtain ⟨hn, _⟩ := C03_include_unique_pairs ops d0 ht hnd
  generalize ops.foldl Document.include d0 = d at h hn
  have hperm : (docPrimary d ++ sortById d.included).Perm (docPrimary d ++ d.included) :=
    List.Perm.append_left _ (sortById_perm _)
  have hn' : ((docPrimary d ++ sortById d.included).map pairR).Nodup :=
    nodup_pairR_of_resPair ((hperm.map _).nodup_iff.2 hn)
  obtain ⟨ps, is, e, hp, hi⟩ := treeResObjs_marshalDocument h
  rw [e, List.map_append]
  rw [List.map_append] at hn'
  refine List.Nodup.sublist (List.Sublist.append ?_ ?_) hn'
  · rcases hp with hp | hp
    · rw [hp]; exact List.nil_sublist _
    · rw [Forall2.map_eq hp pairOf_shape]
      exact List.Sublist.refl _
  · rcases hi with hi | hi
    · rw [hi]; exact List.nil_sublist _
    · rw [Forall2.map_eq hi pairOf_shape]
      exact List.Sublist.refl _

/-! ### Non-vacuity -/

/-- A resource OUTSIDE the domain of C04 (`keyedWf`): the attribute "n" is declared twice, its
value is a string although declared int, and the to-many relationship "m" is unsorted. The model
marshals it, and the clauses hold of what it writes. -/
def c03d_res : ResView :=
  { typeName := [97], id := [49],
    attrs := [([110], { name := [110], ty := 2, nullable := false }),
              ([110], { name := [110], ty := 1, nullable := false })],
    rels := [([109], { fromType := [97], fromName := [109], toOne := false, toType := [98],
                       toName := [], fromOne := false })],
    vals := [([110], .val .string (.s [120])), ([109], .strs [[50], [49]])] }

example : ¬ c03d_res.keyedWf := by decide

example : ∃ j r', marshalResource c03d_res [47] [[110], [109]] [([97], [[109]])] = .ok (j, r') ∧
    ResObjShape [47] c03d_res j := by
  have hok : (match marshalResource c03d_res [47] [[110], [109]] [([97], [[109]])] with
      | .ok _ => true | _ => false) = true := by decide
  cases hm : marshalResource c03d_res [47] [[110], [109]] [([97], [[109]])] with
  | ok q => exact ⟨q.1, q.2, rfl, (C03_marshalResource_shape hm).1⟩
  | err => rw [hm] at hok; cases hok
  | panic => rw [hm] at hok; cases hok

/-- The Include example of Props/C03.lean (typed collection "c" with two members; Include of a
member, of a new resource twice, of a resource of another type): the hypotheses of
`C03_include_unique_tree` hold, the document marshals, and no (type, id) pair occurs twice among
the resource objects of the tree. -/
example :
    let ops := [c04_res [49] [99], c04_res [51] [100], c04_res [51] [100], c04_res [49] [100]]
    TypedCol c04_doc ∧ ((docPrimary c04_doc ++ c04_doc.included).map resPair).Nodup ∧
    ∃ t d', marshalDocument (ops.foldl Document.include c04_doc) [] [] = .ok (t, d') ∧
      ((treeResObjs t).map pairOf).Nodup := by
  intro ops
  have h1 : TypedCol c04_doc := by decide
  have h2 : ((docPrimary c04_doc ++ c04_doc.included).map resPair).Nodup := by decide
  refine ⟨h1, h2, ?_⟩
  have hs : ∃ t', Spec.documentTree (ops.foldl Document.include c04_doc) [] [] = some t' := by
    unfold Spec.documentTree
    rw [if_neg (by decide)]
    exact ⟨_, rfl⟩
  obtain ⟨t', ht'⟩ := hs
  obtain ⟨d'', hd''⟩ :=
    (C04_document (ops.foldl Document.include c04_doc) (by decide) [] []).2 t' ht'
  exact ⟨t', d'', hd'', C03_include_unique_tree ops c04_doc h1 h2 [] [] t' d'' hd''⟩

end Jsonapi

section Axioms
open Jsonapi
#print axioms C03_marshalResource_shape
#print axioms C03_marshalCollection_shape
#print axioms marshalDocument_members
#print axioms C03_document_resource_objects
#print axioms treeResObjs_marshalDocument
#print axioms C03_document_members_clauses
#print axioms C03_include_unique_tree
#print axioms ResObjShape.spelled
#print axioms RelObjShape.spelled
end Axioms
