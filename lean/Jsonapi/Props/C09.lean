/-
C09 — Range: select by ID, filter, sort by the rules, cut a page.

The model of `sortedResources.Less` consults the regenerated case list of its type
switch (`Facts.lessCases`). On the current tree that list lacks `uint64`, `*uint64` and
`*[]byte`: a rule naming an attribute of one of those Go types is silently skipped (a
known, unrepaired defect). The theorems therefore carry the explicit exclusion
`RulesHaveCases`; `C09_known_uint64_counterexample` and `C09_statement_false` show that
the exclusion is necessary.
-/
import Jsonapi.Proofs.RangeLemmas
import Jsonapi.Props.C10
namespace Jsonapi
open Spec

/-- Every rule's field is `id` or an attribute that every resource of the collection
has, with the same definition (same type, same nullability). -/
def RulesOver (c : List ResView) (rules : List GoString) : Prop :=
  ∀ rule ∈ rules, (splitRule rule).2 = idName ∨
    ∃ a : Attr, ∀ r ∈ c, r.attrs.get? (splitRule rule).2 = some a

/-- EXCLUSION (known finding): no rule sorts by an attribute whose Go type has no case in
`Less` (today: `uint64`, `*uint64`, `*[]byte`). -/
def RulesHaveCases (c : List ResView) (rules : List GoString) : Prop :=
  ∀ rule ∈ rules, (splitRule rule).2 = idName ∨
    ∀ r ∈ c, ∀ a, r.attrs.get? (splitRule rule).2 = some a →
      ∀ k, Kind.ofCode? a.ty = some k →
        (if a.nullable then (if k = .bytes then "*[]byte" else "*" ++ k.goName)
         else (if k = .bytes then "[]byte" else k.goName)) ∈ Facts.lessCases

/-- A decidable way to `RulesOver`: the first resource names the definition. -/
theorem rulesOver_of_head {c : List ResView} {rules : List GoString}
    (h : ∀ rule ∈ rules, (splitRule rule).2 = idName ∨
      ∃ a ∈ c.head?.bind (·.attrs.get? (splitRule rule).2),
        ∀ r ∈ c, r.attrs.get? (splitRule rule).2 = some a) : RulesOver c rules :=
  fun rule hr => (h rule hr).imp_right fun ⟨a, _, ha⟩ => ⟨a, ha⟩

def UniqueIds (c : List ResView) : Prop := (c.map (·.id)).Nodup

theorem UniqueIds.matching {c : List ResView} (hu : UniqueIds c) (ids : List GoString)
    (f : Option Filter) : UniqueIds (Spec.matching c ids f) :=
  List.Nodup.sublist (List.Sublist.map _ List.filter_sublist) hu

def AllWf (c : List ResView) : Prop := ∀ r ∈ c, r.wf = true

instance (c : List ResView) : Decidable (UniqueIds c) := by unfold UniqueIds; infer_instance
instance (c : List ResView) : Decidable (AllWf c) := by unfold AllWf; infer_instance

/-- What is assumed of `sort.Sort` beyond the `Sorter` structure: the result depends only
on the outcomes of `Less` on two *different* elements of the slice being sorted (Go's
`sort.Sort` calls `Less(i, j)` with `i ≠ j` inside the slice, and nothing else).
Needed because `Less` is a strict weak order only on the well-typed resources of the
collection, and (rule `-id`) is not irreflexive on the diagonal. -/
def Sorter.Local (S : Sorter) : Prop :=
  ∀ (lt lt' : ResView → ResView → Bool) (l : List ResView), l.Nodup →
    (∀ a ∈ l, ∀ b ∈ l, a ≠ b → lt a b = lt' a b) → S.sort lt l = S.sort lt' l

theorem Sorter.Local.sorted {S : Sorter} (hS : S.Local)
    (lt lts : ResView → ResView → Bool) (l : List ResView) (hnd : l.Nodup)
    (hirr : ∀ a ∈ l, lts a a = false)
    (htr : ∀ a ∈ l, ∀ b ∈ l, ∀ c ∈ l, lts a b = true → lts b c = true → lts a c = true)
    (hntr : ∀ a ∈ l, ∀ b ∈ l, ∀ c ∈ l, lts a b = false → lts b c = false → lts a c = false)
    (hag : ∀ a ∈ l, ∀ b ∈ l, a ≠ b → lt a b = lts a b) :
    (S.sort lt l).Pairwise (fun a b => lts b a = false) := by
  cases l with
  | nil => rw [(S.perm lt []).eq_nil]; exact .nil
  | cons x₀ t =>
    -- extend `lts` to all resources by reading a non-member as `x₀`: the properties carry over
    let π : ResView → ResView := fun a => if a ∈ x₀ :: t then a else x₀
    have hπ : ∀ a, π a ∈ x₀ :: t := fun a => by
      show (if a ∈ x₀ :: t then a else x₀) ∈ x₀ :: t
      split
      · assumption
      · exact List.mem_cons_self
    have hin : ∀ a ∈ x₀ :: t, π a = a := fun a ha => if_pos ha
    rw [hS lt (fun a b => lts (π a) (π b)) _ hnd
      (fun a ha b hb hne => by rw [hin a ha, hin b hb]; exact hag a ha b hb hne)]
    refine (S.sorted (fun a b => lts (π a) (π b)) _ (fun a => hirr _ (hπ a))
      (fun a b c => htr _ (hπ a) _ (hπ b) _ (hπ c))
      (fun a b c => hntr _ (hπ a) _ (hπ b) _ (hπ c))).imp_of_mem ?_
    intro a b ha hb h
    rwa [hin a ((S.perm _ _).mem_iff.1 ha), hin b ((S.perm _ _).mem_iff.1 hb)] at h

/-- The rules `Range` sorts by: `id` when none is given. -/
def effRules (rules : List GoString) : List GoString :=
  if rules.isEmpty then [idName] else rules

/-- The driver's sorter (merge sort) is local. -/
theorem C09_mergeSorter_local : mergeSorter.Local := by
  intro lt lt' l hnd h
  show l.mergeSort (fun a b => !lt b a) = l.mergeSort (fun a b => !lt' b a)
  apply mergeSort_congr_nodup l hnd
  intro a ha b hb hne
  rw [h b hb a ha (Ne.symm hne)]

/-! ### 1. `Less` computes "strictly before" -/

theorem less_pair (rules : List GoString) (a b : ResView)
    (hwa : a.wf = true) (hwb : b.wf = true)
    (hover : RulesOver [a, b] rules) (hcases : RulesHaveCases [a, b] rules) :
    (∃ x, less rules a b = .ok x) ∧
      (a.id ≠ b.id → less rules a b = .ok (Spec.cmpRules rules a b == .lt)) := by
  have := less_spec_aux (col := [a, b])
    (List.forall_mem_cons.2 ⟨hwa, List.forall_mem_cons.2 ⟨hwb, nofun⟩⟩)
    List.mem_cons_self (List.mem_cons_of_mem _ List.mem_cons_self) hover hcases
  exact ⟨this.1, fun h => this.2 (.inl h)⟩

/-- `Less` agrees with the specification's comparison on two well-formed resources with
different IDs.

Remark (`-id` on the diagonal): Go's `id` case returns `a.id < b.id != inverse`, so under
a rule `-id` the model has `less rules a a = .ok true` whereas `cmpRules rules a a = .eq`;
hence the hypothesis `a.id ≠ b.id`. `sort.Sort` never calls `Less(i, i)` and two
positions of a collection with unique IDs hold different IDs, so nothing is lost;
`C09_less_no_panic` covers the diagonal. -/
theorem C09_less_spec (rules : List GoString) (a b : ResView)
    (hwa : a.wf = true) (hwb : b.wf = true)
    (hover : RulesOver [a, b] rules) (hcases : RulesHaveCases [a, b] rules)
    (hid : a.id ≠ b.id) :
    less rules a b = .ok (Spec.cmpRules rules a b == .lt) :=
  (less_pair rules a b hwa hwb hover hcases).2 hid

/-- `Less` never fails a type assertion on well-formed resources (equal IDs included). -/
theorem C09_less_no_panic (rules : List GoString) (a b : ResView)
    (hwa : a.wf = true) (hwb : b.wf = true)
    (hover : RulesOver [a, b] rules) (hcases : RulesHaveCases [a, b] rules) :
    ∃ x, less rules a b = .ok x :=
  (less_pair rules a b hwa hwb hover hcases).1

/-! ### 2. `Less` is a strict weak order on the collection -/

/-- On a collection of well-formed resources, `Less` (read as a Boolean, `lessB`) is
asymmetric, transitive and negatively transitive ("incomparability is transitive") on
resources with different IDs; it is irreflexive too unless a rule is `-id` (see the
remark at `C09_less_spec`; `C09_less_neg_id_diagonal` is the exception). -/
theorem C09_less_strict_weak (c : List ResView) (rules : List GoString)
    (hwf : AllWf c) (hover : RulesOver c rules) (hcases : RulesHaveCases c rules) :
    (∀ a ∈ c, ∀ b ∈ c, a.id ≠ b.id → lessB rules a b = true → lessB rules b a = false) ∧
    (∀ a ∈ c, ∀ b ∈ c, ∀ d ∈ c, a.id ≠ b.id → b.id ≠ d.id → a.id ≠ d.id →
      lessB rules a b = true → lessB rules b d = true → lessB rules a d = true) ∧
    (∀ a ∈ c, ∀ b ∈ c, ∀ d ∈ c, a.id ≠ b.id → b.id ≠ d.id → a.id ≠ d.id →
      lessB rules a b = false → lessB rules b d = false → lessB rules a d = false) ∧
    ((∀ rule ∈ rules, rule ≠ 45 :: idName) → ∀ a ∈ c, lessB rules a a = false) := by
  refine ⟨?_, ?_, ?_, ?_⟩
  · intro a ha b hb hab h
    rw [lessB_spec hwf hover hcases ha hb hab, beq_iff_eq] at h
    rw [lessB_spec hwf hover hcases hb ha (Ne.symm hab), cmpRules_swap rules a b, h]
    rfl
  · intro a ha b hb d hd hab hbd had h1 h2
    rw [lessB_spec hwf hover hcases ha hb hab, beq_iff_eq] at h1
    rw [lessB_spec hwf hover hcases hb hd hbd, beq_iff_eq] at h2
    rw [lessB_spec hwf hover hcases ha hd had, beq_iff_eq]
    exact cmpRules_lt_trans hwf hover ha hb hd h1 h2
  · intro a ha b hb d hd hab hbd had h1 h2
    rw [lessB_spec hwf hover hcases ha hb hab, beq_eq_false_iff_ne] at h1
    rw [lessB_spec hwf hover hcases hb hd hbd, beq_eq_false_iff_ne] at h2
    rw [lessB_spec hwf hover hcases ha hd had, beq_eq_false_iff_ne]
    exact cmpRules_nlt_trans hwf hover ha hb hd h1 h2
  · intro hn a ha
    unfold lessB
    rw [(less_spec_aux hwf ha ha hover hcases).2 (.inr ⟨rfl, hn⟩), cmpRules_refl]
    rfl

/-- The exception: under `-id`, `Less(a, a)` is true. -/
theorem C09_less_neg_id_diagonal (a : ResView) : less [45 :: idName] a a = .ok true := by
  simp [less, splitRule, xorInv, List.lt_irrefl]

/-! ### 3. `Range` -/

/-- `Range` returns pages cut from ONE ordering `π` of the matching resources that
respects the rules; `π` does not depend on the page size and number. -/
theorem C09_range (S : Sorter) (hS : S.Local) (c : List ResView) (ids : List GoString)
    (f : Option Filter) (rules : List GoString)
    (hwf : AllWf c) (hu : UniqueIds c) (hids : ids.Nodup)
    (hover : RulesOver c (effRules rules)) (hcases : RulesHaveCases c (effRules rules))
    (hf : ∀ flt, f = some flt → ∀ r ∈ c, isAllowed r flt = .ok (Spec.eval r flt)) :
    ∃ π : List ResView, π.Perm (Spec.matching c ids f) ∧
      π.Pairwise (fun a b => Spec.le (effRules rules) a b = true) ∧
      ∀ size num, size < 2 ^ 64 → num * size < 2 ^ 63 →
        range S c ids f rules size num = .ok (Spec.page π size num) := by
  refine ⟨S.sort (lessB (effRules rules)) (Spec.matching c ids f), ?_⟩
  have hsub : ∀ r ∈ Spec.matching c ids f, r ∈ c := fun r hr => (List.mem_filter.1 hr).1
  have hcol : applyFilter f (selectIds c ids) = .ok (Spec.matching c ids f) := by
    rw [selectIds_eq c ids hids, applyFilter_eq, matching_eq]
    intro flt hflt r hr
    exact hf flt hflt r (List.mem_filter.1 hr).1
  have hwf' : ∀ r ∈ Spec.matching c ids f, r.wf = true := fun r hr => hwf r (hsub r hr)
  have ht' : ∀ rule ∈ effRules rules, RuleTyped (Spec.matching c ids f) rule :=
    fun rule h => RuleTyped.mono hsub (hover rule h)
  have hc' : ∀ rule ∈ effRules rules, RuleCased (Spec.matching c ids f) rule :=
    fun rule h => RuleCased.mono hsub (hcases rule h)
  have hu' := hu.matching ids f
  refine ⟨S.perm _ _, ?_, ?_⟩
  · have := hS.sorted (lessB (effRules rules))
      (fun a b => cmpRules (effRules rules) a b == .lt) (Spec.matching c ids f) (nodup_of_nodup_map_id hu')
      (fun a _ => by simp only [cmpRules_refl]; rfl)
      (fun x hx y hy z hz h1 h2 => by
        rw [beq_iff_eq] at *
        exact cmpRules_lt_trans hwf' ht' hx hy hz h1 h2)
      (fun x hx y hy z hz h1 h2 => by
        rw [beq_eq_false_iff_ne] at *
        exact cmpRules_nlt_trans hwf' ht' hx hy hz h1 h2)
      (fun x hx y hy hne =>
        lessB_spec hwf' ht' hc' hx hy (fun e => hne (eq_of_id_eq hu' hx hy e)))
    refine this.imp ?_
    intro a b h
    unfold Spec.le
    rw [cmpRules_swap (effRules rules) a b] at h
    revert h
    cases cmpRules (effRules rules) a b <;> simp
  · intro size num hs hp
    unfold range
    rw [hcol]
    simp only [← show effRules rules = if rules.isEmpty then [idName] else rules from rfl]
    rw [no_panic hwf' ht' hc']
    exact paginate_eq _ _ _ hs hp

/-! ### 4. With `id` among the rules the ordering is unique -/

/-- Two orderings of the same resources (unique IDs) that respect rules mentioning `id`
are equal. -/
theorem C09_unique_with_id (rules' : List GoString)
    (hid : idName ∈ rules'.map (fun r => (splitRule r).2))
    (l π₁ π₂ : List ResView) (hu : UniqueIds l) (p₁ : π₁.Perm l) (p₂ : π₂.Perm l)
    (s₁ : π₁.Pairwise (fun a b => Spec.le rules' a b = true))
    (s₂ : π₂.Pairwise (fun a b => Spec.le rules' a b = true)) : π₁ = π₂ := by
  refine List.Perm.eq_of_pairwise (le := fun a b => Spec.le rules' a b = true) ?_ s₁ s₂
    (p₁.trans p₂.symm)
  intro a b ha hb h1 h2
  apply eq_of_id_eq hu (p₁.mem_iff.1 ha) (p₂.mem_iff.1 hb)
  apply id_eq_of_cmpRules_eq hid
  unfold Spec.le at h1 h2
  rw [cmpRules_swap rules' a b] at h2
  revert h1 h2
  cases cmpRules rules' a b <;> simp

/-- Hence the result of `Range` depends neither on the sorting algorithm nor on the order
in which the collection holds its resources. -/
theorem C09_unique_with_id_range (S₁ S₂ : Sorter) (hS₁ : S₁.Local) (hS₂ : S₂.Local)
    (c₁ c₂ : List ResView) (hperm : c₁.Perm c₂) (ids : List GoString)
    (f : Option Filter) (rules : List GoString)
    (hwf : AllWf c₁) (hu : UniqueIds c₁) (hids : ids.Nodup)
    (hover : RulesOver c₁ (effRules rules)) (hcases : RulesHaveCases c₁ (effRules rules))
    (hf : ∀ flt, f = some flt → ∀ r ∈ c₁, isAllowed r flt = .ok (Spec.eval r flt))
    (hid : idName ∈ (effRules rules).map (fun r => (splitRule r).2))
    (size num : Nat) (hs : size < 2 ^ 64) (hp : num * size < 2 ^ 63) :
    range S₁ c₁ ids f rules size num = range S₂ c₂ ids f rules size num := by
  have hm : ∀ r, r ∈ c₂ ↔ r ∈ c₁ := fun r => hperm.symm.mem_iff
  obtain ⟨π₁, p₁, s₁, h₁⟩ := C09_range S₁ hS₁ c₁ ids f rules hwf hu hids hover hcases hf
  obtain ⟨π₂, p₂, s₂, h₂⟩ := C09_range S₂ hS₂ c₂ ids f rules
    (fun r hr => hwf r ((hm r).1 hr))
    ((hperm.map _).nodup hu) hids
    (fun rule h => RuleTyped.mono (fun r hr => (hm r).1 hr) (hover rule h))
    (fun rule h => RuleCased.mono (fun r hr => (hm r).1 hr) (hcases rule h))
    (fun flt e r hr => hf flt e r ((hm r).1 hr))
  have hu' := hu.matching ids f
  have p₂' : π₂.Perm (Spec.matching c₁ ids f) := p₂.trans (hperm.symm.filter _)
  have : π₁ = π₂ := C09_unique_with_id _ hid _ _ _ hu' p₁ p₂' s₁ s₂
  rw [h₁ size num hs hp, h₂ size num hs hp, this]

/-- With `id` among the rules, `Range` returns exactly the page that the specification
`Spec.range` describes, whatever the (local) sorting algorithm. -/
theorem C09_range_eq_spec (S : Sorter) (hS : S.Local) (c : List ResView) (ids : List GoString)
    (f : Option Filter) (rules : List GoString)
    (hwf : AllWf c) (hu : UniqueIds c) (hids : ids.Nodup)
    (hover : RulesOver c (effRules rules)) (hcases : RulesHaveCases c (effRules rules))
    (hf : ∀ flt, f = some flt → ∀ r ∈ c, isAllowed r flt = .ok (Spec.eval r flt))
    (hid : idName ∈ (effRules rules).map (fun r => (splitRule r).2))
    (size num : Nat) (hs : size < 2 ^ 64) (hp : num * size < 2 ^ 63) :
    range S c ids f rules size num = .ok (Spec.range c ids f rules size num) := by
  obtain ⟨π, p, s, h⟩ := C09_range S hS c ids f rules hwf hu hids hover hcases hf
  have hsub : ∀ r ∈ Spec.matching c ids f, r ∈ c := fun r hr => (List.mem_filter.1 hr).1
  have hu' := hu.matching ids f
  have hsorted := pairwise_sortBy_le (col := Spec.matching c ids f)
    (fun r hr => hwf r (hsub r hr)) (rules := effRules rules)
    (fun rule hr => RuleTyped.mono hsub (hover rule hr))
  have : π = Spec.sortBy (Spec.le (effRules rules)) (Spec.matching c ids f) :=
    C09_unique_with_id _ hid _ _ _ hu' p (perm_sortBy _ _) s hsorted
  rw [h size num hs hp, this]
  rfl

/-! ### 5. Consecutive pages partition the ordering -/

theorem C09_partition (π : List ResView) (size k : Nat) :
    (List.range k).flatMap (fun n => Spec.page π size n) = π.take (k * size) := by
  induction k with
  | zero => simp
  | succ k ih =>
    rw [List.range_succ, List.flatMap_append, ih]
    simp only [List.flatMap_cons, List.flatMap_nil, List.append_nil, Spec.page]
    rw [Nat.succ_mul, List.take_add]

theorem C09_partition_all (π : List ResView) (size k : Nat) (h : π.length ≤ k * size) :
    (List.range k).flatMap (fun n => Spec.page π size n) = π := by
  rw [C09_partition, List.take_of_length_le h]

/-! ### 6. The exclusion is necessary (known finding) -/

/-- attribute `n : uint64` (not nullable) -/
def cexAttr : Attr := { name := [110], ty := 11, nullable := false }
def cexA : ResView :=
  { typeName := [116], id := [97], attrs := [([110], cexAttr)], rels := [],
    vals := [([110], .val .uint64 (.i 2))] }
def cexB : ResView :=
  { typeName := [116], id := [98], attrs := [([110], cexAttr)], rels := [],
    vals := [([110], .val .uint64 (.i 1))] }
def cexRules : List GoString := [[110], idName]

theorem cex_model : range mergeSorter [cexA, cexB] [] none cexRules 10 0 = .ok [cexA, cexB] := by
  unfold range
  have h1 : applyFilter none (selectIds [cexA, cexB] []) = .ok [cexA, cexB] := by decide +kernel
  rw [h1]
  have h2 : ([cexA, cexB].any (fun a => [cexA, cexB].any (fun b =>
      (less (if cexRules.isEmpty then [idName] else cexRules) a b).isPanic))) = false := by decide +kernel
  simp only [h2]
  have h3 : mergeSorter.sort (lessB (if cexRules.isEmpty then [idName] else cexRules))
      [cexA, cexB] = [cexA, cexB] := by
    show [cexA, cexB].mergeSort _ = _
    apply List.mergeSort_of_pairwise
    simp only [List.pairwise_cons, List.mem_cons, List.not_mem_nil, or_false, forall_eq,
      List.Pairwise.nil, and_true, false_implies, implies_true]
    decide +kernel
  rw [h3]
  decide +kernel

theorem cex_spec : Spec.range [cexA, cexB] [] none cexRules 10 0 = [cexB, cexA] := by decide +kernel

/-- The exclusion is necessary: sorting two well-formed resources by a `uint64`
attribute leaves them in `id` order, against the specification. (Proved by evaluation
against the regenerated `Facts.lessCases`: once the defect is repaired this theorem and
`C09_statement_false` stop compiling, and the exclusion can be dropped.) -/
theorem C09_known_uint64_counterexample :
    cexA.wf = true ∧ cexB.wf = true ∧
    range mergeSorter [cexA, cexB] [] none cexRules 10 0 ≠
      .ok (Spec.range [cexA, cexB] [] none cexRules 10 0) := by
  refine ⟨by decide, by decide, ?_⟩
  rw [cex_model, cex_spec]
  decide +kernel

/-- (3) at full strength, i.e. WITHOUT the exclusion `RulesHaveCases`. -/
def C09_statement : Prop :=
  ∀ (S : Sorter), S.Local → ∀ (c : List ResView) (ids : List GoString) (f : Option Filter)
    (rules : List GoString), AllWf c → UniqueIds c → ids.Nodup →
    RulesOver c (effRules rules) →
    (∀ flt, f = some flt → ∀ r ∈ c, isAllowed r flt = .ok (Spec.eval r flt)) →
    ∃ π : List ResView, π.Perm (Spec.matching c ids f) ∧
      π.Pairwise (fun a b => Spec.le (effRules rules) a b = true) ∧
      ∀ size num, size < 2 ^ 64 → num * size < 2 ^ 63 →
        range S c ids f rules size num = .ok (Spec.page π size num)

theorem cex_rulesOver : RulesOver [cexA, cexB] (effRules cexRules) :=
  rulesOver_of_head (by decide +kernel)

/-- The full-strength statement is false of the current tree (known finding). -/
theorem C09_statement_false : ¬ C09_statement := by
  intro h
  obtain ⟨π, hp, hs, hr⟩ := h mergeSorter C09_mergeSorter_local [cexA, cexB] [] none cexRules
    (by decide) (by decide) (by decide) cex_rulesOver (fun flt e => by cases e)
  have hm : Spec.matching [cexA, cexB] [] none = [cexA, cexB] := by decide +kernel
  rw [hm] at hp
  have hlen : π.length = 2 := hp.length_eq
  have h10 := hr 10 0 (by decide) (by decide)
  rw [cex_model] at h10
  have hpage : Spec.page π 10 0 = π := by
    unfold Spec.page
    rw [Nat.zero_mul, List.drop_zero, List.take_of_length_le (by omega)]
  rw [hpage] at h10
  have hπ : π = [cexA, cexB] := by injection h10 with h10; exact h10.symm
  rw [hπ] at hs
  have hle : Spec.le (effRules cexRules) cexA cexB = true := by
    simpa using hs
  revert hle
  decide +kernel

/-! ### 7. Non-vacuity -/

/-- attribute `n : *int` (nullable) -/
def exAttr : Attr := { name := [110], ty := 2, nullable := true }
def exA : ResView :=
  { typeName := [116], id := [97], attrs := [([110], exAttr)], rels := [],
    vals := [([110], .ptr .int (some (.i 2)))] }
def exB : ResView :=
  { typeName := [116], id := [98], attrs := [([110], exAttr)], rels := [],
    vals := [([110], .nil)] }
def exC : ResView :=
  { typeName := [116], id := [99], attrs := [([110], exAttr)], rels := [],
    vals := [([110], .ptr .int (some (.i 7)))] }
/-- `-n,id` -/
def exRules : List GoString := [[45, 110], idName]

/-- The hypotheses of `C09_range` / `C09_range_eq_spec` are satisfiable on a non-trivial
collection: three resources, a descending rule on a nullable attribute (one value nil),
then `id`. -/
theorem C09_nonvacuous :
    AllWf [exA, exB, exC] ∧ UniqueIds [exA, exB, exC] ∧ ([] : List GoString).Nodup ∧
    RulesOver [exA, exB, exC] (effRules exRules) ∧
    RulesHaveCases [exA, exB, exC] (effRules exRules) ∧
    idName ∈ (effRules exRules).map (fun r => (splitRule r).2) := by
  refine ⟨by decide +kernel, by decide +kernel, by decide +kernel,
    rulesOver_of_head (by decide +kernel), ?_, by decide +kernel⟩
  -- `r.attrs.get? n = some a` is `a ∈ r.attrs.get? n`: bounded quantifiers, decidable
  show ∀ rule ∈ effRules exRules, (splitRule rule).2 = idName ∨ ∀ r ∈ [exA, exB, exC],
    ∀ a ∈ r.attrs.get? (splitRule rule).2, ∀ k ∈ Kind.ofCode? a.ty,
      (if a.nullable then (if k = .bytes then "*[]byte" else "*" ++ k.goName)
         else (if k = .bytes then "[]byte" else k.goName)) ∈ Facts.lessCases
  decide +kernel

/-- ... and the theorem then gives the model's pages: `-n,id` puts 7, 2, nil. -/
example :
    range mergeSorter [exA, exB, exC] [] none exRules 2 0 = .ok [exC, exA] ∧
    range mergeSorter [exA, exB, exC] [] none exRules 2 1 = .ok [exB] := by
  obtain ⟨h1, h2, h3, h4, h5, h6⟩ := C09_nonvacuous
  constructor
  · rw [C09_range_eq_spec mergeSorter C09_mergeSorter_local _ _ none _ h1 h2 h3 h4 h5
      (fun flt e => by cases e) h6 2 0 (by decide) (by decide)]
    decide +kernel
  · rw [C09_range_eq_spec mergeSorter C09_mergeSorter_local _ _ none _ h1 h2 h3 h4 h5
      (fun flt e => by cases e) h6 2 1 (by decide) (by decide)]
    decide +kernel

/-- `C09_range` with the filter hypothesis discharged by C10: for a well-typed filter
tree `IsAllowed` is the tree read as logic. -/
theorem C09_range_filtered (S : Sorter) (hS : S.Local) (c : List ResView) (ids : List GoString)
    (f : Option Filter) (rules : List GoString)
    (hwf : AllWf c) (hu : UniqueIds c) (hids : ids.Nodup)
    (hover : RulesOver c (effRules rules)) (hcases : RulesHaveCases c (effRules rules))
    (hft : ∀ flt, f = some flt → ∀ r ∈ c, wellTyped r flt = true) :
    ∃ π : List ResView, π.Perm (Spec.matching c ids f) ∧
      π.Pairwise (fun a b => Spec.le (effRules rules) a b = true) ∧
      ∀ size num, size < 2 ^ 64 → num * size < 2 ^ 63 →
        range S c ids f rules size num = .ok (Spec.page π size num) :=
  C09_range S hS c ids f rules hwf hu hids hover hcases
    (fun flt hflt r hr => C10_eval r (hwf r hr) flt (hft flt hflt r hr))

#print axioms C09_range_filtered
#print axioms C09_mergeSorter_local
#print axioms C09_less_spec
#print axioms C09_less_no_panic
#print axioms C09_less_strict_weak
#print axioms C09_less_neg_id_diagonal
#print axioms C09_range
#print axioms C09_unique_with_id
#print axioms C09_unique_with_id_range
#print axioms C09_range_eq_spec
#print axioms C09_partition
#print axioms C09_partition_all
#print axioms C09_known_uint64_counterexample
#print axioms C09_statement_false
#print axioms C09_nonvacuous

end Jsonapi
