/-
C17, the equality helpers: `EqualStrict` is reflexive and symmetric like
`Equal`, and soundness of `Equal` BY FIELD NAME.

`C17_equal_sound` pairs the attributes of the two resources by sorted POSITION only (that is what
the Go code does: attribute names are never compared - the known finding
`C17_equal_names_counterexample`). Under the one extra hypothesis that the two resources have the
same sorted list of attribute names, position and name coincide, and `Equal` holding means: the
same field names on both sides and, for EVERY field name n, agreeing values of n
(`C17_equal_sound_by_name`). The converse holds too on well-formed views
(`C17_equal_complete_by_name`), hence an exact characterisation (`C17_equal_iff_by_name`,
`C17_equalStrict_iff_by_name`). The sorted relationship-name lists need not be assumed equal for
soundness: `Equal` compares them (clause 3 of `C17_equal_sound`).

"Agreeing" is phrased as `C17_equal_sound` phrases it: for an attribute `reflect.DeepEqual`, or
both nil values, or both empty byte strings (`C17E.attrAgree`); for a relationship `=`.
-/
import Jsonapi.Props.C17
namespace Jsonapi
open GoMap

namespace C17E

/-- the sorted attribute names of a resource -/
def attrNames (r : ResView) : List GoString :=
  (sortOn (fun a : Attr => a.name) r.attrs.vals).map (·.name)

/-- the sorted relationship names of a resource -/
def relNames (r : ResView) : List GoString :=
  (sortOn (fun r : Rel => r.fromName) r.rels.vals).map (·.fromName)

/-- two attribute values `Equal` does not tell apart -/
def attrAgree (x y : GoVal) : Prop :=
  deepEqual x y = true ∨ (x.isNilValue = true ∧ y.isNilValue = true) ∨
    (x.isEmptyBytes = true ∧ y.isEmptyBytes = true)

instance (x y : GoVal) : Decidable (attrAgree x y) := by unfold attrAgree; exact inferInstance

theorem mem_attrNames {r : ResView} (hr : r.keyed) (n : GoString) : n ∈ attrNames r ↔ n ∈ r.attrs.keys := by
  rw [← vals_map_eq_keys _ _ hr.1]
  exact ((sortOn_perm _ _).map _).mem_iff

theorem mem_relNames {r : ResView} (hr : r.keyed) (n : GoString) : n ∈ relNames r ↔ n ∈ r.rels.keys := by
  rw [← vals_map_eq_keys _ _ hr.2.1]
  exact ((sortOn_perm _ _).map _).mem_iff

end C17E
open C17E

/-- `EqualStrict` is reflexive on well-formed views. -/
theorem C17_equalStrict_refl (a : ResView) (ha : a.ok) : equalStrict a a = .ok true := by
  unfold equalStrict
  simp only [ne_eq, not_true_eq_false, if_false]
  exact C17_equal_refl a ha

/-- `EqualStrict` is symmetric, with no hypothesis at all (also for ill-typed views and panics). -/
theorem C17_equalStrict_symm (a b : ResView) : equalStrict a b = equalStrict b a := by
  unfold equalStrict
  rw [C17_equal_symm a b]
  by_cases h : a.id = b.id
  · simp [h]
  · have h' : ¬ b.id = a.id := fun e => h e.symm
    simp [h, h']

/-- Soundness BY NAME. If `Equal` holds and the two resources have the same sorted attribute-name
list, then they have the same type name, the same attribute names, the same relationship names
and, for every field name `n`, agreeing values: for an attribute DeepEqual / both nil / both empty
bytes (`attrAgree`, as `C17_equal_sound` phrases it), for a relationship the same cardinality and
`a.get n = b.get n`. -/
theorem C17_equal_sound_by_name (a b : ResView) (ha : a.keyed) (hb : b.keyed)
    (h : equal a b = .ok true) (hnames : attrNames a = attrNames b) :
    a.typeName = b.typeName ∧
    (∀ n, n ∈ a.attrs.keys ↔ n ∈ b.attrs.keys) ∧
    relNames a = relNames b ∧ (∀ n, n ∈ a.rels.keys ↔ n ∈ b.rels.keys) ∧
    (∀ n ∈ a.attrs.keys, attrAgree (a.get n) (b.get n)) ∧
    (∀ n ∈ a.rels.keys, a.get n = b.get n) ∧
    (∀ n ra rb, a.rels.get? n = some ra → b.rels.get? n = some rb → ra.toOne = rb.toOne) := by
  obtain ⟨h1, _, h3, h4, h5⟩ := C17_equal_sound a b ha hb h
  have hrn : relNames a = relNames b := h3
  refine ⟨h1, ?_, hrn, ?_, ?_, fun n hn => (h5 n hn).elim fun _ h => h.elim fun _ h => h.2.2.2.1, ?_⟩
  · intro n; rw [← mem_attrNames ha, ← mem_attrNames hb, hnames]
  · intro n; rw [← mem_relNames ha, ← mem_relNames hb, hrn]
  · intro n hn
    obtain ⟨x, hx⟩ := mem_keys_get? hn
    have hxn : x.name = n := (ha.1 _ (mem_of_get? hx)).symm
    obtain ⟨i, hi⟩ : ∃ i, (sortOn (fun a : Attr => a.name) a.attrs.vals)[i]? = some x :=
      List.getElem?_of_mem ((mem_sortOn _ _ _).2 (List.mem_map.2 ⟨_, mem_of_get? hx, rfl⟩))
    obtain ⟨hl, hz⟩ := (map_eq_iff_zip (fun a : Attr => a.name) (fun a : Attr => a.name)).1 hnames
    have hy := List.getElem?_eq_getElem (hl ▸ (List.getElem?_eq_some_iff.1 hi).1)
    have hxy : x.name = _ := hz (x, _) (mem_zip_iff.2 ⟨i, hi, hy⟩)
    have := h4 i x _ hi hy
    rwa [← hxy, hxn] at this
  · intro n ra rb hra hrb
    obtain ⟨ra', rb', h1', h2', h3', _⟩ := h5 n (mem_keys_of_get? hra)
    rw [hra] at h1'; rw [hrb] at h2'
    cases h1'; cases h2'
    exact h3'

/-- The converse, on well-formed views: same type name, same sorted attribute names, same sorted
relationship names with the same cardinalities, and agreeing values of every field name make
`Equal` hold (in particular it does not panic). -/
theorem C17_equal_complete_by_name (a b : ResView) (ha : a.ok) (hb : b.ok)
    (ht : a.typeName = b.typeName) (hnames : attrNames a = attrNames b) (hrn : relNames a = relNames b)
    (hav : ∀ n ∈ a.attrs.keys, attrAgree (a.get n) (b.get n))
    (hrv : ∀ n ∈ a.rels.keys, a.get n = b.get n)
    (hone : ∀ n ra rb, a.rels.get? n = some ra → b.rels.get? n = some rb → ra.toOne = rb.toOne) :
    equal a b = .ok true := by
  obtain ⟨hla, hza⟩ := (map_eq_iff_zip (fun a : Attr => a.name) (fun a : Attr => a.name)).1 hnames
  obtain ⟨hlr, hzr⟩ := (map_eq_iff_zip (fun r : Rel => r.fromName) (fun r : Rel => r.fromName)).1 hrn
  refine (equal_ok_iff a b).2 ⟨ht, hla, fun p hp => ?_, hlr, fun p hp => ?_⟩
  · have hk : p.1.name ∈ a.attrs.keys := by
      rw [← vals_map_eq_keys _ _ ha.2.1]
      exact List.mem_map.2 ⟨p.1, (mem_sortOn _ _ _).1 (List.of_mem_zip hp).1, rfl⟩
    exact (attrTest_false_iff a b p).2 (hza p hp ▸ hav _ hk)
  · have hn : p.1.fromName = p.2.fromName := hzr p hp
    have hm1 : p.1 ∈ a.rels.vals := (mem_sortOn _ _ _).1 (List.of_mem_zip hp).1
    have hg1 := (mem_vals_iff_get? a.rels Rel.fromName ha.2.2.1 ha.2.2.2.2 p.1).1 hm1
    have hg2 := (mem_vals_iff_get? b.rels Rel.fromName hb.2.2.1 hb.2.2.2.2 p.2).1
      ((mem_sortOn _ _ _).1 (List.of_mem_zip hp).2)
    rw [← hn] at hg2
    exact relStep_ok_iff.2 ⟨hn, hone _ _ _ hg1 hg2, hn ▸ hrv _ (mem_keys_of_get? hg1),
      ResView.rel_shape ha hm1⟩

/-- `Equal` characterised by field name, for two well-formed views with the same sorted
attribute names. -/
theorem C17_equal_iff_by_name (a b : ResView) (ha : a.ok) (hb : b.ok)
    (hnames : attrNames a = attrNames b) :
    equal a b = .ok true ↔
      (a.typeName = b.typeName ∧ relNames a = relNames b ∧
       (∀ n ∈ a.attrs.keys, attrAgree (a.get n) (b.get n)) ∧
       (∀ n ∈ a.rels.keys, a.get n = b.get n) ∧
       (∀ n ra rb, a.rels.get? n = some ra → b.rels.get? n = some rb → ra.toOne = rb.toOne)) := by
  constructor
  · intro h
    obtain ⟨h1, _, h3, _, h5, h6, h7⟩ := C17_equal_sound_by_name a b ha.2 hb.2 h hnames
    exact ⟨h1, h3, h5, h6, h7⟩
  · rintro ⟨h1, h3, h5, h6, h7⟩
    exact C17_equal_complete_by_name a b ha hb h1 hnames h3 h5 h6 h7

/-- the strict form: additionally the same ID -/
theorem C17_equalStrict_iff_by_name (a b : ResView) (ha : a.ok) (hb : b.ok)
    (hnames : attrNames a = attrNames b) :
    equalStrict a b = .ok true ↔
      (a.id = b.id ∧ a.typeName = b.typeName ∧ relNames a = relNames b ∧
       (∀ n ∈ a.attrs.keys, attrAgree (a.get n) (b.get n)) ∧
       (∀ n ∈ a.rels.keys, a.get n = b.get n) ∧
       (∀ n ra rb, a.rels.get? n = some ra → b.rels.get? n = some rb → ra.toOne = rb.toOne)) := by
  constructor
  · intro h
    obtain ⟨hid, he⟩ := C17_equalStrict_id a b h
    exact ⟨hid, (C17_equal_iff_by_name a b ha hb hnames).1 he⟩
  · rintro ⟨hid, hrest⟩
    unfold equalStrict
    rw [if_neg (by simpa using hid)]
    exact (C17_equal_iff_by_name a b ha hb hnames).2 hrest

/-- Without the hypothesis on the names the by-name reading FAILS (the known finding, by name):
`Equal` holds between `C17_cexA` (attribute "x") and `C17_cexB` (attribute "xq"), and "x" is a
field of the first only. -/
theorem C17_equal_by_name_needs_names_counterexample :
    C17_cexA.ok ∧ C17_cexB.ok ∧ equal C17_cexA C17_cexB = .ok true ∧
    attrNames C17_cexA ≠ attrNames C17_cexB ∧
    ([120] ∈ C17_cexA.attrs.keys ∧ [120] ∉ C17_cexB.attrs.keys) ∧
    ¬ attrAgree (C17_cexA.get [120]) (C17_cexB.get [120]) := by decide +kernel

/-! ### non-vacuity: two distinct well-formed views with the same names, values that agree
without being identical (a nil pointer against an untyped nil), unsorted maps -/

def c17e_A : ResView :=
  { typeName := [116], id := [49],
    attrs := [([121], { name := [121], ty := 2, nullable := true }), ([120], { name := [120], ty := 2, nullable := false })],
    rels := [([109], { fromType := [116], fromName := [109], toOne := false, toType := [117], toName := [], fromOne := false }),
             ([111], { fromType := [116], fromName := [111], toOne := true, toType := [117], toName := [], fromOne := false })],
    vals := [([120], .val .int (.i 1)), ([121], .ptr .int none), ([111], .val .string (.s [50])), ([109], .strs [[51], [52]])] }

def c17e_B : ResView :=
  { typeName := [116], id := [49],
    attrs := [([120], { name := [120], ty := 2, nullable := false }), ([121], { name := [121], ty := 2, nullable := true })],
    rels := [([111], { fromType := [116], fromName := [111], toOne := true, toType := [117], toName := [], fromOne := false }),
             ([109], { fromType := [116], fromName := [109], toOne := false, toType := [117], toName := [], fromOne := false })],
    vals := [([120], .val .int (.i 1)), ([121], .nil), ([111], .val .string (.s [50])), ([109], .strs [[51], [52]])] }

example : c17e_A.ok ∧ c17e_B.ok ∧ c17e_A.attrs ≠ c17e_B.attrs ∧ c17e_A.vals ≠ c17e_B.vals ∧ attrNames c17e_A = attrNames c17e_B ∧
    relNames c17e_A = relNames c17e_B ∧ equal c17e_A c17e_B = .ok true ∧
    equalStrict c17e_A c17e_B = .ok true := by decide +kernel

example : c17e_A.typeName = c17e_B.typeName ∧
    (∀ n ∈ c17e_A.attrs.keys, attrAgree (c17e_A.get n) (c17e_B.get n)) ∧
    (∀ n ∈ c17e_A.rels.keys, c17e_A.get n = c17e_B.get n) ∧
    c17e_A.get [121] ≠ c17e_B.get [121] := by decide +kernel

end Jsonapi

section Axioms
open Jsonapi
#print axioms C17_equalStrict_refl
#print axioms C17_equalStrict_symm
#print axioms C17_equal_sound_by_name
#print axioms C17_equal_complete_by_name
#print axioms C17_equal_iff_by_name
#print axioms C17_equalStrict_iff_by_name
#print axioms C17_equal_by_name_needs_names_counterexample
end Axioms
