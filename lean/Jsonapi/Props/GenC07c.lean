/-
"Never panics" on the TRANSLATED code (C07, C08).

`C07_total` is about the hand-written model, whose functions cannot panic by construction. The
translated functions can: `Gen.NewParams` reads `urule[0]` (`Gen_NewParams_differs_on_empty_rule`).
This file composes the three equivalence theorems of Props/GenC07b.lean along the chain
`url.Parse -> NewSimpleURL -> NewURL` exactly as `NewURLFromRaw` (url.go:91-103) chains them:

    url, err := url.Parse(rawurl);   if err != nil { return nil, err }
    su, err := NewSimpleURL(url);    if err != nil { return nil, err }
    return NewURL(schema, su)

`GenC07c.NewURLFromRaw` is that text over the translated `Gen.NewSimpleURL` / `Gen.NewURL`; the
result of `url.Parse` is its parameter `pu : Option Gen.url_URL × Res Unit` (any pair: pointer and
error), `(*url.URL).Query` and the two `json.Unmarshal` calls are the parameters `q`, `unm0`,
`unm1` of `Gen.NewSimpleURL`.

Hypotheses (those of `Gen_NewSimpleURL_eq`): the keys of the values map are distinct (it is a Go
map) and `fd` is what the two decoders give on the filter value (`FilterDecIs`).
`GenC07c.filterDecOf_is` shows that such an `fd` exists for EVERY pair of decoders that leaves a
non-nil `*Filter` non-nil when it succeeds (what `json.Unmarshal` does with a non-nil pointer), so
`Gen_NewURLFromRaw_no_panic_any_decoder` needs no `fd` at all.
-/
import Jsonapi.Props.GenC07b
import Jsonapi.Props.C07
namespace Jsonapi
open Schema GoMap UrlL

namespace GenC07c

/-- url.go:91 `NewURLFromRaw`, from the result `pu` of `url.Parse(rawurl)` on, over the translated
`NewSimpleURL` and `NewURL`. -/
def NewURLFromRaw (σ : Schema) (pu : Option Gen.url_URL × Res Unit)
    (q : Gen.url_URL → GoMap (List GoString))
    (unm0 : GoString → GoString → GoString × Res Unit)
    (unm1 : GoString → Option GoString → Option GoString × Res Unit) : Option Gen.URL × Res Unit :=
  if pu.2 ≠ Res.ok () then (none, pu.2)
  else
    let r := Gen.NewSimpleURL pu.1 q unm0 unm1
    if r.2 ≠ Res.ok () then (none, r.2)
    else Gen.NewURL σ r.1

/-- what the model takes for the same `url.Parse` result: the decoded path, the values and the
decoded filter of a non-nil URL returned without error -/
def parsedOf (pu : Option Gen.url_URL × Res Unit) (q : Gen.url_URL → GoMap (List GoString))
    (fd : FilterDec) : Option (GoString × GoMap (List GoString) × FilterDec) :=
  if pu.2 = Res.ok () then pu.1.map (fun u => (u.path, q u, fd)) else none

theorem ptrPair_no_panic {α β : Type} {f : α → β} {r : Option α × Res Unit} {m : Res β}
    (h : PtrPairIs f r m) (hm : m ≠ .panic) : r.2 ≠ .panic := by
  cases m with
  | ok b => obtain ⟨a, ha, _⟩ := h; rw [ha]; intro h'; cases h'
  | err => rw [show r = (none, Res.err) from h]; intro h'; cases h'
  | panic => exact absurd rfl hm

/-- the decoded filter the two delegated decoders define on the value `v` -/
def filterDecOf (unm0 : GoString → GoString → GoString × Res Unit)
    (unm1 : GoString → Option GoString → Option GoString × Res Unit) (v : GoString) : FilterDec :=
  { label := if (unm0 ([34] ++ v ++ [34]) []).2 = Res.ok () then some (unm0 ([34] ++ v ++ [34]) []).1 else none,
    filter := if (unm1 v (some [])).2 = Res.ok () then (unm1 v (some [])).1 else none }

/-- `FilterDecIs` is satisfiable for every pair of decoders under the one condition that a
successful `json.Unmarshal(v, &Filter{})` leaves the pointer non-nil. -/
theorem filterDecOf_is (unm0 : GoString → GoString → GoString × Res Unit)
    (unm1 : GoString → Option GoString → Option GoString × Res Unit) (v : GoString)
    (hptr : (unm1 v (some [])).2 = Res.ok () → (unm1 v (some [])).1.isSome = true) :
    FilterDecIs unm0 unm1 v (filterDecOf unm0 unm1 v) := by
  unfold FilterDecIs filterDecOf
  constructor
  · by_cases h : (unm0 ([34] ++ v ++ [34]) []).2 = Res.ok ()
    · simp only [h, if_true]
      exact Prod.ext rfl h
    · simp only [h, if_false]
      exact h
  · by_cases h : (unm1 v (some [])).2 = Res.ok ()
    · simp only [h, if_true]
      have hs := hptr h
      cases hx : (unm1 v (some [])).1 with
      | none => rw [hx] at hs; cases hs
      | some f => exact Prod.ext hx h
    · simp only [h, if_false]
      exact h

end GenC07c

/-- The two stages composed: what `NewSimpleURL` returns without error goes through the
TRANSLATED `NewURL` without panic (the `urule[0]` read included), and the result is the model's. -/
theorem Gen_NewURL_of_NewSimpleURL (σ : Schema) (q : Gen.url_URL → GoMap (List GoString))
    (unm0 : GoString → GoString → GoString × Res Unit)
    (unm1 : GoString → Option GoString → Option GoString × Res Unit)
    (u : Gen.url_URL) (fd : FilterDec)
    (hkeys : (GoMap.keys (q u)).Nodup)
    (hfd : FilterDecIs unm0 unm1 (firstVal ((GoMap.get? (q u) sFilter).getD [])) fd)
    (su : Gen.SimpleURL) (h : Gen.NewSimpleURL (some u) q unm0 unm1 = (su, Res.ok ())) :
    (Gen.NewURL σ su).2 ≠ Res.panic ∧
    PtrPairIs URL.ofGen (Gen.NewURL σ su) (newURLFrom σ (some (u.path, q u, fd))) := by
  have hsr := Gen_NewSimpleURL_rules_nonempty q unm0 unm1 u fd hkeys hfd (by rw [h])
  rw [h] at hsr
  have heq := Gen_NewSimpleURL_eq q unm0 unm1 u fd hkeys hfd
  rw [h] at heq
  have hU := Gen_NewURL_eq σ su hsr
  have hmodel : newURLFrom σ (some (u.path, q u, fd)) = newURL σ (SimpleURL.ofGen su) := by
    simp only [newURLFrom, heq.of_ok rfl]
  rw [hmodel]
  exact ⟨GenC07c.ptrPair_no_panic hU (newURL_no_panic σ _), hU⟩

/-- The whole chain is the model: for every result `pu` of `url.Parse` (nil or not, with or
without error), `NewURLFromRaw` over the translated functions returns what the model's
`newURLFrom` returns on the decoded path, values and filter. -/
theorem Gen_NewURLFromRaw_eq_model (σ : Schema) (q : Gen.url_URL → GoMap (List GoString))
    (unm0 : GoString → GoString → GoString × Res Unit)
    (unm1 : GoString → Option GoString → Option GoString × Res Unit)
    (pu : Option Gen.url_URL × Res Unit) (fd : FilterDec)
    (hparse : pu.2 ≠ Res.panic)
    (hkeys : ∀ u, pu.1 = some u → (GoMap.keys (q u)).Nodup)
    (hfd : ∀ u, pu.1 = some u →
      FilterDecIs unm0 unm1 (firstVal ((GoMap.get? (q u) sFilter).getD [])) fd) :
    PtrPairIs URL.ofGen (GenC07c.NewURLFromRaw σ pu q unm0 unm1)
      (newURLFrom σ (GenC07c.parsedOf pu q fd)) := by
  obtain ⟨p, e⟩ := pu
  unfold GenC07c.NewURLFromRaw GenC07c.parsedOf
  simp only []
  by_cases he : e = Res.ok ()
  · subst he
    simp only [ne_eq, not_true_eq_false, if_false, if_true]
    cases p with
    | none =>
      have hn : (Gen.NewSimpleURL none q unm0 unm1).2 = Res.err := Gen_NewSimpleURL_nil q unm0 unm1
      have hne : (Gen.NewSimpleURL none q unm0 unm1).2 ≠ Res.ok () := by rw [hn]; intro h; cases h
      simp only [Option.map_none, hn]
      rfl
    | some u =>
      simp only [Option.map_some]
      have heq := Gen_NewSimpleURL_eq q unm0 unm1 u fd (hkeys u rfl) (hfd u rfl)
      by_cases hok : (Gen.NewSimpleURL (some u) q unm0 unm1).2 = Res.ok ()
      · simp only [hok, not_true_eq_false, if_false]
        exact (Gen_NewURL_of_NewSimpleURL σ q unm0 unm1 u fd (hkeys u rfl) (hfd u rfl) _
          (Prod.ext rfl hok)).2
      · simp only [hok, not_false_eq_true, if_true]
        rcases heq.of_not_ok hok with ⟨hm, he⟩ | ⟨hm, he⟩ <;> simp only [newURLFrom, hm, he] <;> rfl
  · simp only [ne_eq, he, not_false_eq_true, if_true, if_false]
    cases e with
    | ok x => exact absurd rfl he
    | err => rfl
    | panic => exact absurd rfl hparse

/-- `NewURLFromRaw` over the TRANSLATED `NewSimpleURL`, `NewParams` and `NewURL` never panics,
whatever `url.Parse` returned (short of panicking itself). -/
theorem Gen_NewURLFromRaw_no_panic (σ : Schema) (q : Gen.url_URL → GoMap (List GoString))
    (unm0 : GoString → GoString → GoString × Res Unit)
    (unm1 : GoString → Option GoString → Option GoString × Res Unit)
    (pu : Option Gen.url_URL × Res Unit) (fd : FilterDec)
    (hparse : pu.2 ≠ Res.panic)
    (hkeys : ∀ u, pu.1 = some u → (GoMap.keys (q u)).Nodup)
    (hfd : ∀ u, pu.1 = some u →
      FilterDecIs unm0 unm1 (firstVal ((GoMap.get? (q u) sFilter).getD [])) fd) :
    (GenC07c.NewURLFromRaw σ pu q unm0 unm1).2 ≠ Res.panic :=
  GenC07c.ptrPair_no_panic (Gen_NewURLFromRaw_eq_model σ q unm0 unm1 pu fd hparse hkeys hfd)
    (C07_total σ _)

/-- The same without `fd`: the only condition on the two `json.Unmarshal` parameters is that a
successful decode into the non-nil `&Filter{}` leaves it non-nil. -/
theorem Gen_NewURLFromRaw_no_panic_any_decoder (σ : Schema) (q : Gen.url_URL → GoMap (List GoString))
    (unm0 : GoString → GoString → GoString × Res Unit)
    (unm1 : GoString → Option GoString → Option GoString × Res Unit)
    (pu : Option Gen.url_URL × Res Unit)
    (hparse : pu.2 ≠ Res.panic)
    (hkeys : ∀ u, pu.1 = some u → (GoMap.keys (q u)).Nodup)
    (hptr : ∀ v, (unm1 v (some [])).2 = Res.ok () → (unm1 v (some [])).1.isSome = true) :
    (GenC07c.NewURLFromRaw σ pu q unm0 unm1).2 ≠ Res.panic := by
  cases hp : pu.1 with
  | none =>
    exact Gen_NewURLFromRaw_no_panic σ q unm0 unm1 pu default hparse
      (fun u hu => by rw [hp] at hu; cases hu) (fun u hu => by rw [hp] at hu; cases hu)
  | some u =>
    refine Gen_NewURLFromRaw_no_panic σ q unm0 unm1 pu
      (GenC07c.filterDecOf unm0 unm1 (firstVal ((GoMap.get? (q u) sFilter).getD []))) hparse hkeys ?_
    intro u' hu'
    rw [hp] at hu'
    cases hu'
    exact GenC07c.filterDecOf_is unm0 unm1 _ (hptr _)

/-- Either a URL and no error, or no URL and an error - on the translated chain. -/
theorem Gen_NewURLFromRaw_result (σ : Schema) (q : Gen.url_URL → GoMap (List GoString))
    (unm0 : GoString → GoString → GoString × Res Unit)
    (unm1 : GoString → Option GoString → Option GoString × Res Unit)
    (pu : Option Gen.url_URL × Res Unit) (fd : FilterDec)
    (hparse : pu.2 ≠ Res.panic)
    (hkeys : ∀ u, pu.1 = some u → (GoMap.keys (q u)).Nodup)
    (hfd : ∀ u, pu.1 = some u →
      FilterDecIs unm0 unm1 (firstVal ((GoMap.get? (q u) sFilter).getD [])) fd) :
    (∃ g, GenC07c.NewURLFromRaw σ pu q unm0 unm1 = (some g, Res.ok ()) ∧
        newURLFrom σ (GenC07c.parsedOf pu q fd) = Res.ok (URL.ofGen g)) ∨
    (GenC07c.NewURLFromRaw σ pu q unm0 unm1 = (none, Res.err) ∧
        newURLFrom σ (GenC07c.parsedOf pu q fd) = Res.err) := by
  have h := Gen_NewURLFromRaw_eq_model σ q unm0 unm1 pu fd hparse hkeys hfd
  cases hm : newURLFrom σ (GenC07c.parsedOf pu q fd) with
  | ok b =>
    rw [hm] at h
    obtain ⟨a, ha, hb⟩ := h
    exact Or.inl ⟨a, ha, by rw [hb]⟩
  | err => rw [hm] at h; exact Or.inr ⟨h, rfl⟩
  | panic => exact absurd hm (C07_total σ _)

/-! Non-vacuity: the hypotheses are met by concrete, non-trivial instances. -/

/-- the parsed URL `/a?sort=x,,-id` : path `/a`, values `{sort: ["x,,-id"]}` -/
def GenC07c.exU : Gen.url_URL :=
  { scheme := [], opaque_ := [], user := none, host := [], path := [47, 97], rawPath := [],
    omitHost := false, forceQuery := false, rawQuery := [], fragment := [], rawFragment := [] }
def GenC07c.exQ : Gen.url_URL → GoMap (List GoString) := fun _ => [(sSort, [[120, 44, 44, 45, 105, 100]])]
def GenC07c.exUnm0 : GoString → GoString → GoString × Res Unit := fun _ s => (s, Res.err)
def GenC07c.exUnm1 : GoString → Option GoString → Option GoString × Res Unit := fun _ p => (p, Res.err)

example : (GoMap.keys (GenC07c.exQ GenC07c.exU)).Nodup := by decide +kernel
example : FilterDecIs GenC07c.exUnm0 GenC07c.exUnm1
    (firstVal ((GoMap.get? (GenC07c.exQ GenC07c.exU) sFilter).getD [])) ⟨none, none⟩ := by
  refine ⟨?_, ?_⟩ <;> (intro h; cases h)
example : ∀ v, (GenC07c.exUnm1 v (some [])).2 = Res.ok () → (GenC07c.exUnm1 v (some [])).1.isSome = true :=
  fun _ h => by cases h
/-- the instance runs through all three translated functions and returns a URL -/
example : (GenC07c.NewURLFromRaw GenC07b.exSchema (some GenC07c.exU, Res.ok ()) GenC07c.exQ
    GenC07c.exUnm0 GenC07c.exUnm1).2 = Res.ok () := by decide +kernel
example : ∃ su, Gen.NewSimpleURL (some GenC07c.exU) GenC07c.exQ GenC07c.exUnm0 GenC07c.exUnm1 = (su, Res.ok ()) :=
  ⟨(Gen.NewSimpleURL (some GenC07c.exU) GenC07c.exQ GenC07c.exUnm0 GenC07c.exUnm1).1, Prod.ext rfl (by decide +kernel)⟩

end Jsonapi

section Axioms
open Jsonapi
#print axioms Gen_NewURL_of_NewSimpleURL
#print axioms Gen_NewURLFromRaw_eq_model
#print axioms Gen_NewURLFromRaw_no_panic
#print axioms Gen_NewURLFromRaw_no_panic_any_decoder
#print axioms Gen_NewURLFromRaw_result
end Axioms
