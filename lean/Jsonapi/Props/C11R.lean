/-
C11R — C11 on the MODEL's own post-state.

`C11_repeat_*` (Props/C11.lean) compare the specification trees of hand-built post-states
(`sortedToMany`, `sortById`). Here the statements are about `marshalDocument` itself and the
document IT returns. Off the domain of C02-C04 - say a to-many relationship that shares its
name with an attribute, which `Type.AddRel` refuses - the second marshal reads the sorted list
as the attribute's value: the tree part of the repeat theorems needs the domain, the document
part does not.

`f` is `url.Params.Fields` and `s` is `doc.PrePath + url.String()`, as in `marshalDocument`.
-/
import Jsonapi.Proofs.MarshalRepeatLemmas
import Jsonapi.Model.JsonText
namespace Jsonapi
open MarshalL DetL RepL

/-! ### the document a marshal leaves behind -/

/-- For EVERY document: the document `marshalDocument` returns is `postDoc d f`: nothing
changes but the order of the included list (sorted by ID) and, inside the resources that were
marshaled, the `vals` of `postRes` (to-many ID lists sorted). -/
theorem C11_model_post (d : Document) (f : GoMap (List GoString)) (s : GoString) (t : Json)
    (d' : Document) (h : marshalDocument d f s = .ok (t, d')) :
    d' = postDoc d f ∧ d'.links = d.links ∧ d'.relData = d.relData ∧ d'.dmeta = d.dmeta ∧
    d'.errors = d.errors ∧ d'.prePath = d.prePath ∧ d'.included.Perm
      (if noData d then d.included else d.included.map (postR d f)) := by
  have e := marshalDocument_post h
  subst e
  refine ⟨rfl, rfl, rfl, rfl, rfl, rfl, ?_⟩
  unfold postDoc
  simp only
  split
  · exact DetL.sortById_perm _
  · exact (DetL.sortById_perm _).map _

/-- For EVERY document (no domain): whatever a second marshal of the returned document
returns, it returns that document unchanged. -/
theorem C11_model_post_fixed (d : Document) (f : GoMap (List GoString)) (s : GoString) (t : Json)
    (d' : Document) (h : marshalDocument d f s = .ok (t, d'))
    (t'' : Json) (d'' : Document) (h' : marshalDocument d' f s = .ok (t'', d'')) : d'' = d' := by
  rw [marshalDocument_post h', marshalDocument_post h, postDoc_idem]

/-! ### marshaling again -/

/-- Marshaling is idempotent on its own post-state: on the domain of C02-C04, if
`marshalDocument d f s` returns the tree `t` and the document `d'`, then marshaling `d'` returns
`t` again and leaves `d'` as it is. -/
theorem C11_model_repeat (d : Document) (hdom : ∀ r ∈ docResources d, r.keyedWf)
    (f : GoMap (List GoString)) (s : GoString) (t : Json) (d' : Document)
    (h : marshalDocument d f s = .ok (t, d')) :
    marshalDocument d' f s = .ok (t, d') := by
  have e := marshalDocument_post h
  have ht' : Spec.documentTree d' f s = some t := by
    rw [e, postDoc_tree hdom f f s]; exact documentTree_of_ok hdom h
  have hdom' : ∀ r ∈ docResources d', r.keyedWf := by rw [e]; exact postDoc_dom hdom f
  obtain ⟨d'', h''⟩ := (C04_document d' hdom' f s).2 t ht'
  rw [h'', C11_model_post_fixed d f s t d' h t d'' h'']

/-- the domain is kept by marshaling -/
theorem C11_model_repeat_dom (d : Document) (hdom : ∀ r ∈ docResources d, r.keyedWf)
    (f : GoMap (List GoString)) (s : GoString) (t : Json) (d' : Document)
    (h : marshalDocument d f s = .ok (t, d')) : ∀ r ∈ docResources d', r.keyedWf := by
  rw [marshalDocument_post h]; exact postDoc_dom hdom f

/-- The result of the last of `n + 1` successive `MarshalDocument` calls on one document
value, each call seeing what the previous one left behind. -/
def marshalNth (f : GoMap (List GoString)) (s : GoString) : Nat → Document → Res (Json × Document)
  | 0, d => marshalDocument d f s
  | n + 1, d =>
    match marshalDocument d f s with
    | .ok (_, d') => marshalNth f s n d'
    | .err => .err
    | .panic => .panic

/-- By induction: every repetition returns the tree and the document of the first call. -/
theorem C11_model_repeat_n (d : Document) (hdom : ∀ r ∈ docResources d, r.keyedWf)
    (f : GoMap (List GoString)) (s : GoString) (t : Json) (d' : Document)
    (h : marshalDocument d f s = .ok (t, d')) (n : Nat) :
    marshalNth f s n d = .ok (t, d') := by
  induction n generalizing d with
  | zero => exact h
  | succ n ih =>
    unfold marshalNth
    rw [h]
    exact ih d' (C11_model_repeat_dom d hdom f s t d' h) (C11_model_repeat d hdom f s t d' h)

/-- the bytes a call returns: the rendering of the tree (`Json.render`, the model of what
`encoding/json` writes), `none` when the call fails -/
def marshalBytes (r : Res (Json × Document)) : Option GoString :=
  match r with
  | .ok (t, _) => some t.render
  | _ => none

/-- Byte-identical output: every repetition returns the bytes of the first call. (Equal
trees render to equal bytes; stated so that "byte-identical" is a theorem about the model.) -/
theorem C11_model_repeat_bytes (d : Document) (hdom : ∀ r ∈ docResources d, r.keyedWf)
    (f : GoMap (List GoString)) (s : GoString) (t : Json) (d' : Document)
    (h : marshalDocument d f s = .ok (t, d')) (n : Nat) :
    marshalBytes (marshalNth f s n d) = marshalBytes (marshalDocument d f s) ∧
    marshalBytes (marshalDocument d' f s) = marshalBytes (marshalDocument d f s) ∧
    marshalBytes (marshalDocument d f s) = some t.render := by
  rw [C11_model_repeat_n d hdom f s t d' h n, C11_model_repeat d hdom f s t d' h, h]
  exact ⟨rfl, rfl, rfl⟩

/-- the failing case repeats too: a document that does not marshal is left alone by the
model (it returns no document), so there is nothing to repeat on; on the domain the only
failure is data of an unknown Go type -/
theorem C11_model_repeat_err (d : Document) (hdom : ∀ r ∈ docResources d, r.keyedWf)
    (f : GoMap (List GoString)) (s : GoString) :
    (∃ t d', marshalDocument d f s = .ok (t, d')) ∨
    (marshalDocument d f s = .err ∧ isOther d.data = true ∧ d.errors.isEmpty = true) := by
  cases hs : Spec.documentTree d f s with
  | none =>
    refine .inr ⟨(C04_document d hdom f s).1 hs, ?_⟩
    rw [documentTree_eq] at hs
    split at hs
    · rename_i hc; simpa using hc
    · cases hs
  | some t0 =>
    obtain ⟨d0, h0⟩ := (C04_document d hdom f s).2 t0 hs
    exact .inl ⟨t0, d0, h0⟩

/-! ### permuted inputs -/

/-- the tree a call returns (`none` when it fails) -/
def marshalTreeOf (r : Res (Json × Document)) : Option Json :=
  match r with
  | .ok (t, _) => some t
  | _ => none

/-- The primary data of the second document is that of the first with the IDs of to-many
relationships listed in another order (`sameUpToToMany`: same type, ID, attribute and
relationship definitions, every value read alike except ID lists, which are permutations). -/
def dataPerm : DocData → DocData → Prop
  | .res r₁, .res r₂ => sameUpToToMany r₁ r₂
  | .col tn₁ ms₁, .col tn₂ ms₂ => tn₁ = tn₂ ∧ Forall2 sameUpToToMany ms₁ ms₂
  | .none, .none => True
  | .ident i₁ t₁, .ident i₂ t₂ => i₁ = i₂ ∧ t₁ = t₂
  | .idents b₁ l₁, .idents b₂ l₂ => b₁ = b₂ ∧ l₁ = l₂
  | .other, .other => True
  | _, _ => False

theorem forall2_ins {R : ResView → ResView → Prop} (hid : ∀ a b, R a b → a.id = b.id)
    {x x' : ResView} (hx : R x x') {l l' : List ResView} (h : Forall2 R l l') :
    Forall2 R (sortById.ins x l) (sortById.ins x' l') := by
  induction h with
  | nil => exact .cons hx .nil
  | cons hab hrest ih =>
    unfold sortById.ins
    rw [hid _ _ hab, hid _ _ hx]
    split
    · exact .cons hab ih
    · exact .cons hx (.cons hab hrest)

theorem forall2_sortById {R : ResView → ResView → Prop} (hid : ∀ a b, R a b → a.id = b.id)
    {l l' : List ResView} (h : Forall2 R l l') : Forall2 R (sortById l) (sortById l') := by
  induction h with
  | nil => exact .nil
  | cons hab _ ih =>
    rw [sortById_cons, sortById_cons]
    exact forall2_ins hid hab ih

theorem isOther_perm {a b : DocData} (h : dataPerm a b) : isOther a = isOther b := by
  cases a <;> cases b <;> simp only [dataPerm] at h <;> rfl

theorem specObj_sameUpToToMany (d : Document) (f : GoMap (List GoString)) {a b : ResView}
    (hab : sameUpToToMany a b) : specObj d f a = specObj d f b := by
  unfold specObj
  rw [hab.1]
  exact C11_perm_tomany_general _ _ hab _ _ _ []

theorem dataMember_perm (d : Document) (data₂ : DocData) (inc inc₂ : List ResView)
    (f : GoMap (List GoString)) (hdata : dataPerm d.data data₂) :
    Spec.dataMember { d with included := inc } f =
      Spec.dataMember { d with data := data₂, included := inc₂ } f := by
  unfold Spec.dataMember
  simp only []
  generalize d.data = x at hdata
  cases x <;> cases data₂ <;> simp only [dataPerm] at hdata
  · rfl
  · exact congrArg some (specObj_sameUpToToMany d f hdata)
  · exact congrArg (some ∘ Json.arr) (Forall2.map_eq hdata.2 (fun _ _ => specObj_sameUpToToMany d f))
  · rw [hdata.1, hdata.2]
  · rw [hdata.2]
  · rfl

/-- The marshaled tree depends only on content: `marshalDocument` returns the same tree (or
fails alike) for a document and for the document in which the IDs of to-many relationships are
listed in another order - in the primary resource or the members of the primary collection
(`dataPerm`) and in the included resources - and the included resources, of distinct IDs, are
listed in another order. Both documents in the domain of C02-C04. (Composition of
`C04_document` with `C11_perm_included` and the to-many invariance of the specification.) -/
theorem C11_model_perm (d : Document) (data₂ : DocData) (inc inc₂ : List ResView)
    (hdom : ∀ r ∈ docResources d, r.keyedWf)
    (hdom₂ : ∀ r ∈ docResources { d with data := data₂, included := inc₂ }, r.keyedWf)
    (hdata : dataPerm d.data data₂)
    (hp : d.included.Perm inc) (hnd : (d.included.map (·.id)).Nodup)
    (hinc : Forall2 sameUpToToMany inc inc₂)
    (f : GoMap (List GoString)) (s : GoString) :
    marshalTreeOf (marshalDocument d f s) =
      marshalTreeOf (marshalDocument { d with data := data₂, included := inc₂ } f s) := by
  have htree : ∀ (x : Document), (∀ r ∈ docResources x, r.keyedWf) →
      marshalTreeOf (marshalDocument x f s) = Spec.documentTree x f s := by
    intro x hx
    obtain ⟨d0, h0⟩ := marshalDocument_eq' x hx f s
    rw [h0]
    cases Spec.documentTree x f s <;> rfl
  rw [htree d hdom, htree _ hdom₂, C11_perm_included d inc f s hp hnd]
  exact documentTree_congr s (isOther_perm hdata) rfl rfl (dataMember_perm d data₂ inc inc₂ f hdata)
    (Forall2.map_eq (forall2_sortById (fun a b hab => hab.2.1) hinc)
      (fun _ _ => specObj_sameUpToToMany d f)) rfl

/-! ### non-vacuity -/

/-- a document of the domain: the primary resource is C04's sample (an attribute, an empty
to-one and an UNSORTED to-many relationship `m = ["2", "1"]`), included twice under other IDs,
listed in descending ID order -/
def c11r_inc (id : GoString) : ResView := { c04_sample with id := id }
def c11r_doc : Document :=
  { data := .res c04_sample, included := [c11r_inc [57], c11r_inc [53]],
    relData := [([97], [[109]])] }

theorem c11r_doc_dom : ∀ r ∈ docResources c11r_doc, r.keyedWf := by decide

example : ∀ r ∈ docResources c11r_doc, r.keyedWf := c11r_doc_dom

/-- the second document: to-many IDs reversed in the primary resource, included list reversed -/
def c11r_sample₂ : ResView :=
  { c04_sample with vals := [([116], .val .string (.s [120])), ([111], .val .string (.s [])),
                             ([109], .strs [[49], [50]])] }

def c11r_doc₂ : Document :=
  { c11r_doc with data := .res c11r_sample₂, included := [c11r_inc [53], c11r_inc [57]] }

example : ∀ r ∈ docResources c11r_doc₂, r.keyedWf := by decide

example : (c11r_doc.included.map (·.id)).Nodup := by decide

example : c11r_doc.included.Perm [c11r_inc [53], c11r_inc [57]] := List.Perm.swap _ _ _

/-- `dataPerm` and the relation between the included lists hold: the only value that differs
is the ID list of the to-many relationship "m", which is no attribute -/
theorem c11r_same : sameUpToToMany c04_sample c11r_sample₂ := by
  refine ⟨rfl, rfl, rfl, rfl, fun k => ?_⟩
  by_cases hk : k = [109]
  · subst hk
    exact .inr ⟨by decide, [[50], [49]], [[49], [50]], rfl, rfl, by decide⟩
  · refine .inl ?_
    simp only [ResView.get, c04_sample, c11r_sample₂, GoMap.get?]
    have : ¬ ([109] : GoString) = k := fun e => hk e.symm
    simp [this]

example : dataPerm c11r_doc.data c11r_doc₂.data := c11r_same

/-- `C11_model_perm` applied: all its hypotheses hold for the two sample documents -/
example : marshalTreeOf (marshalDocument c11r_doc [] [47]) =
    marshalTreeOf (marshalDocument c11r_doc₂ [] [47]) :=
  C11_model_perm c11r_doc (.res c11r_sample₂) [c11r_inc [53], c11r_inc [57]]
    [c11r_inc [53], c11r_inc [57]] c11r_doc_dom (by decide) c11r_same (List.Perm.swap _ _ _)
    (by decide)
    (.cons ⟨rfl, rfl, rfl, rfl, fun _ => .inl rfl⟩ (.cons ⟨rfl, rfl, rfl, rfl, fun _ => .inl rfl⟩ .nil))
    [] [47]

/-- the repeat theorem applied: the sample document marshals, and marshals again to the same
bytes -/
example : ∃ t d', marshalDocument c11r_doc [] [47] = .ok (t, d') ∧
    marshalDocument d' [] [47] = .ok (t, d') := by
  rcases C11_model_repeat_err c11r_doc c11r_doc_dom [] [47] with ⟨t, d', h⟩ | ⟨_, ho, _⟩
  · exact ⟨t, d', h, C11_model_repeat c11r_doc c11r_doc_dom [] [47] t d' h⟩
  · exact absurd ho (by decide)

end Jsonapi

section Axioms
open Jsonapi
#print axioms C11_model_post
#print axioms C11_model_post_fixed
#print axioms C11_model_repeat
#print axioms C11_model_repeat_dom
#print axioms C11_model_repeat_n
#print axioms C11_model_repeat_bytes
#print axioms C11_model_repeat_err
#print axioms C11_model_perm
end Axioms
