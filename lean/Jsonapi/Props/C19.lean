/-
C19 — a SoftCollection behaves as a plain ordered list of snapshots.

Definitions (operations, the model's step `colStep`, the list's step `Spec.Store.step`,
the domain `HistOk`, the abstraction relation `Abs`) are in Spec/Collection.lean;
helper lemmas in Proofs/CollectionLemmas.lean.

Domain: the collection's type is keyed (`TypKeyed`, implied by `TypWF`); resources
handed to `Add` have no field called "id" and hold, for each of their relationships, a
value of that relationship's own cardinality (`ViewWF`); `SetType`'s new type is keyed
and keeps the definition of the names it shares with the current type (`Compat`).
Reads (`Len`, `At`, `Resource`) do not change the model's state, so they are not part of
the histories: the corollaries hold in every reachable state.
-/
import Jsonapi.Proofs.CollectionLemmas
namespace Jsonapi
open Spec GoMap

/-! ### 1. Simulation -/

/-- One operation in the domain, from related states: the model returns normally (no
panic, no error) and the states are related again. -/
theorem C19_step (c : SColl) (σ : Spec.Store) (h : Abs c σ) (op : ColOp) (hop : op.ok σ.typ) :
    ∃ c', colStep c op = .ok c' ∧ Abs c' (σ.step op) :=
  h.step hop

/-- Any history in the domain, from related states. -/
theorem C19_refines_from (c : SColl) (σ : Spec.Store) (h : Abs c σ) (ops : List ColOp)
    (hok : HistOk σ ops) :
    ∃ c', colRun c ops = .ok c' ∧ Abs c' (σ.run ops) :=
  h.run hok

/-- The empty collection of a well-formed type is the empty list. -/
theorem C19_init (t0 : Typ) (h0 : TypWF t0) :
    Abs { typ := t0, col := [] } { typ := t0, rows := [] } :=
  ⟨rfl, h0.keyed, .nil⟩

/-- Every history in the domain, from the empty collection of a well-formed type: no
step panics (the run returns normally) and the collection is the plain list at the end. -/
theorem C19_refines (t0 : Typ) (h0 : TypWF t0) (ops : List ColOp)
    (hok : HistOk { typ := t0, rows := [] } ops) :
    ∃ c, colRun { typ := t0, col := [] } ops = .ok c ∧
      Abs c (Spec.Store.run { typ := t0, rows := [] } ops) :=
  C19_refines_from _ _ (C19_init t0 h0) ops hok

/-- The only way a step of the model does not return normally is `Add` panicking. -/
theorem C19_only_add_panics (c : SColl) (op : ColOp) (h : ∀ c', colStep c op ≠ .ok c') :
    ∃ r, op = .add r := by
  cases op with
  | add r => exact ⟨r, rfl⟩
  | remove id => exact absurd rfl (h _)
  | addAttr a => exact absurd rfl (h _)
  | addRel r => exact absurd rfl (h _)
  | setType t => exact absurd rfl (h _)

/-! ### 2. Reads -/

theorem C19_len (c : SColl) (σ : Spec.Store) (h : Abs c σ) : c.len = σ.rows.length :=
  h.rows.length_eq

/-- `At` is nil exactly outside the range; inside, it is the resource standing for the
row of that index: same ID, same value through `Get` for every name. -/
theorem C19_at (c : SColl) (σ : Spec.Store) (h : Abs c σ) (i : Int) :
    (c.at? i = none ↔ (i < 0 ∨ (σ.rows.length : Int) ≤ i)) ∧
    (0 ≤ i → i < (σ.rows.length : Int) →
      ∃ s row, c.at? i = some s ∧ σ.rows[i.toNat]? = some row ∧ s.id = row.id ∧
        ∀ f, s.get f = Spec.Row.get σ.typ row f) := by
  have hlen : c.col.length = σ.rows.length := h.rows.length_eq
  unfold SColl.at?
  rw [hlen]
  have toNat_lt : 0 ≤ i → i < (σ.rows.length : Int) → i.toNat < σ.rows.length :=
    fun h0 h1 => (Int.toNat_lt h0).2 h1
  constructor
  · by_cases hr : 0 ≤ i ∧ i < (σ.rows.length : Int)
    · rw [if_pos hr, List.getElem?_eq_getElem (hlen ▸ toNat_lt hr.1 hr.2)]
      exact ⟨nofun, fun ho => (ho.elim (Int.not_lt.2 hr.1) (Int.not_le.2 hr.2)).elim⟩
    · rw [if_neg hr]
      rw [Decidable.not_and_iff_not_or_not, Int.not_le, Int.not_lt] at hr
      exact ⟨fun _ => hr, fun _ => rfl⟩
  · intro h0 h1
    have hlt2 := toNat_lt h0 h1
    have hlt1 : i.toNat < c.col.length := hlen ▸ hlt2
    have hget := h.rows.getElem (List.getElem?_eq_getElem hlt1) (List.getElem?_eq_getElem hlt2)
    rw [if_pos ⟨h0, h1⟩, List.getElem?_eq_getElem hlt1]
    exact ⟨_, _, rfl, List.getElem?_eq_getElem hlt2, hget.id, fun f => h.typ ▸ hget.get f⟩

/-- `Resource(id)` is the resource standing for the first row with that ID, nil when
there is none. -/
theorem C19_resource (c : SColl) (σ : Spec.Store) (h : Abs c σ) (id : GoString) :
    (match c.resource? id, σ.rows.find? (fun row => row.id = id) with
      | some s, some row => s.id = row.id ∧ ∀ f, s.get f = Spec.Row.get σ.typ row f
      | none, none => True
      | _, _ => False) ∧
    (c.resource? id = none ↔ ∀ row ∈ σ.rows, row.id ≠ id) := by
  unfold SColl.resource?
  rcases h.rows.find? (p := fun m : GoString × GoMap GoVal => decide (m.1 = id))
    (q := fun row : Spec.Row => decide (row.id = id))
    (fun _ _ hr => by simp only [hr.id]) with ⟨h1, h2⟩ | ⟨m, row, h1, h2, hr⟩
  · rw [h1, h2]
    refine ⟨trivial, iff_of_true rfl fun row hrow => ?_⟩
    simpa using List.find?_eq_none.1 h2 row hrow
  · rw [h1, h2]
    refine ⟨⟨hr.id, fun f => h.typ ▸ hr.get f⟩, iff_of_false (fun e => by cases e) fun hall => ?_⟩
    exact hall row (List.mem_of_find?_eq_some h2) (by simpa using List.find?_some h2)

/-- Every stored resource exposes exactly the collection's current fields: its
attribute and relationship definitions are the collection's, it lists a value for each
of them and for nothing else, and `Get` on any other name (but "id") is nil. -/
theorem C19_fields (c : SColl) (σ : Spec.Store) (h : Abs c σ) (m : GoString × GoMap GoVal)
    (_hm : m ∈ c.col) :
    (c.soft m).view.attrs = c.typ.attrs ∧ (c.soft m).view.rels = c.typ.rels ∧
    (c.soft m).view.vals.keys = c.typ.attrs.keys ++ c.typ.rels.keys ∧
    (∀ f, isField c.typ f = true → (c.soft m).view.vals.get? f = some ((c.soft m).get f)) ∧
    (∀ f, f ≠ idName → isField c.typ f = false → (c.soft m).get f = .nil) := by
  refine ⟨rfl, rfl, keys_map_mk _ _, fun f hf => ?_, fun f hid hf => ?_⟩
  · refine (Soft.get?_fieldMap c.typ _ f).trans ((if_pos hf).trans (congrArg some ?_))
    show ({ typ := c.typ, id := m.1, data := Soft.checkData c.typ m.2 } : Soft).get f =
      ({ typ := c.typ, id := m.1, data := m.2 } : Soft).get f
    rw [Soft.get_eq h.keyed, Soft.get_eq h.keyed, Soft.checkData_get?_field h.keyed _ hf]
    simp only [hf, if_true, Option.getD_some]
  · unfold SColl.soft
    rw [Soft.get_eq h.keyed, if_neg hid, hf]
    rfl

/-! ### 3. Remove -/

/-- `Remove` deletes the first element with that ID and nothing else: the related
states stay related, and on the list (and likewise on the model's rows) the element
after the longest prefix without the ID is spliced out; nothing changes when no
element has the ID. -/
theorem C19_remove_first (c : SColl) (σ : Spec.Store) (h : Abs c σ) (id : GoString) :
    Abs (c.remove id) (σ.remove id) ∧ (σ.remove id).typ = σ.typ ∧
    (∀ pre x post, σ.rows = pre ++ x :: post → x.id = id → (∀ y ∈ pre, y.id ≠ id) →
      (σ.remove id).rows = pre ++ post) ∧
    ((∀ y ∈ σ.rows, y.id ≠ id) → (σ.remove id).rows = σ.rows) ∧
    (∀ pre x post, c.col = pre ++ x :: post → x.1 = id → (∀ y ∈ pre, y.1 ≠ id) →
      (c.remove id).col = pre ++ post) ∧
    ((∀ y ∈ c.col, y.1 ≠ id) → (c.remove id).col = c.col) := by
  refine ⟨h.remove id, rfl, ?_, ?_, ?_, ?_⟩
  · intro pre x post e hx hpre
    show Schema.eraseFirst _ σ.rows = _
    rw [e, Schema.eraseFirst_eq_eraseP, List.eraseP_append_right _ (fun y hy h => hpre y hy (of_decide_eq_true h)),
      List.eraseP_cons_of_pos (p := fun y => decide (_ = id)) (decide_eq_true hx)]
  · intro hno
    exact (Schema.eraseFirst_eq_eraseP _ _).trans (List.eraseP_of_forall_not fun y hy h => hno y hy (of_decide_eq_true h))
  · intro pre x post e hx hpre
    show Schema.eraseFirst _ c.col = _
    rw [e, Schema.eraseFirst_eq_eraseP, List.eraseP_append_right _ (fun y hy h => hpre y hy (of_decide_eq_true h)),
      List.eraseP_cons_of_pos (p := fun y => decide (_ = id)) (decide_eq_true hx)]
  · intro hno
    exact (Schema.eraseFirst_eq_eraseP _ _).trans (List.eraseP_of_forall_not fun y hy h => hno y hy (of_decide_eq_true h))

/-! ### 4. Fields added after a resource was stored -/

/-- After a successful `AddAttr` (of a name other than "id"), every stored resource
reads the attribute's zero value for it. -/
theorem C19_zero_for_later_attr (c : SColl) (σ : Spec.Store) (h : Abs c σ) (a : Attr)
    (hok : (c.addAttr a).2 = .ok ()) (hid : a.name ≠ idName) :
    ∀ m ∈ (c.addAttr a).1.col, ((c.addAttr a).1.soft m).get a.name = a.zero := by
  intro m hm
  obtain ⟨row, _, hrow⟩ := h.rows.of_mem_left (show m ∈ c.col from hm)
  show ({ typ := (c.typ.addAttr a).1, id := m.1, data := m.2 } : Soft).get a.name = a.zero
  rcases Typ.addAttr_cases h.keyed a with e | ⟨hn, e⟩
  · rw [show (c.addAttr a).2 = (c.typ.addAttr a).2 from rfl, e] at hok; cases hok
  · rw [e, hrow.get_new_field (h.keyed.setAttr hn) hn (isField_setAttr a) hid, fieldZero_setAttr]

/-- After a successful `AddRel` (of a name other than "id"), every stored resource reads
the relationship's zero value (empty string / empty list) for it. -/
theorem C19_zero_for_later_rel (c : SColl) (σ : Spec.Store) (h : Abs c σ) (r : Rel)
    (hok : (c.addRel r).2 = .ok ()) (hid : r.fromName ≠ idName) :
    ∀ m ∈ (c.addRel r).1.col, ((c.addRel r).1.soft m).get r.fromName = r.zero := by
  intro m hm
  obtain ⟨row, _, hrow⟩ := h.rows.of_mem_left (show m ∈ c.col from hm)
  show ({ typ := (c.typ.addRel r).1, id := m.1, data := m.2 } : Soft).get r.fromName = r.zero
  rcases Typ.addRel_cases h.keyed r with e | ⟨hn, e⟩
  · rw [show (c.addRel r).2 = (c.typ.addRel r).2 from rfl, e] at hok; cases hok
  · rw [e, hrow.get_new_field (h.keyed.setRel hn) hn (isField_setRel r) hid, fieldZero_setRel r hn]

/-- The same on the list: a row stored before the field existed has no value for it. -/
theorem C19_zero_for_later_fields (c : SColl) (σ : Spec.Store) (h : Abs c σ) :
    (∀ a : Attr, (c.addAttr a).2 = .ok () → a.name ≠ idName →
      (∀ m ∈ (c.addAttr a).1.col, ((c.addAttr a).1.soft m).get a.name = a.zero) ∧
      (∀ row ∈ (σ.addAttr a).rows, Spec.Row.get (σ.addAttr a).typ row a.name = a.zero)) ∧
    (∀ r : Rel, (c.addRel r).2 = .ok () → r.fromName ≠ idName →
      (∀ m ∈ (c.addRel r).1.col, ((c.addRel r).1.soft m).get r.fromName = r.zero) ∧
      (∀ row ∈ (σ.addRel r).rows, Spec.Row.get (σ.addRel r).typ row r.fromName = r.zero)) := by
  constructor
  · intro a hok hid
    have hm := C19_zero_for_later_attr c σ h a hok hid
    refine ⟨hm, ?_⟩
    intro row hrow
    have habs := h.addAttr a
    obtain ⟨m, hmem, hr⟩ := habs.rows.of_mem_right hrow
    rw [← habs.typ, ← hr.get]
    exact hm m hmem
  · intro r hok hid
    have hm := C19_zero_for_later_rel c σ h r hok hid
    refine ⟨hm, ?_⟩
    intro row hrow
    have habs := h.addRel r
    obtain ⟨m, hmem, hr⟩ := habs.rows.of_mem_right hrow
    rw [← habs.typ, ← hr.get]
    exact hm m hmem

/-! ### 5. Snapshot -/

/-- `Add` is a function of what it reads from the resource at the time of the call —
its ID, its attribute and relationship definitions and its values; nothing of the
resource is kept, so later `Set` calls on it cannot reach the stored snapshot. -/
theorem C19_snapshot (c : SColl) (r r' : ResView) (hid : r.id = r'.id) (ha : r.attrs = r'.attrs)
    (hr : r.rels = r'.rels) (hv : r.vals = r'.vals) :
    colStep c (.add r) = colStep c (.add r') := by
  obtain ⟨n, i, a, l, v⟩ := r
  obtain ⟨n', i', a', l', v'⟩ := r'
  simp only [] at hid ha hr hv
  subst hid ha hr hv
  rfl

/-- Operations after an `Add` change a stored row only as the list says: `Add` of
another resource, `Remove` of another ID, `AddAttr` and `AddRel` leave the recorded
values of every other row alone. -/
theorem C19_rows_stable (σ : Spec.Store) (op : ColOp) (hop : ∀ t, op ≠ .setType t) :
    ∀ row ∈ (σ.step op).rows, row ∈ σ.rows ∨ ∃ r, op = .add r ∧ row.id = r.id := by
  intro row hrow
  cases op with
  | add r =>
    simp only [Spec.Store.step, Spec.Store.add, List.mem_append, List.mem_singleton] at hrow
    rcases hrow with h | h
    · exact .inl h
    · exact .inr ⟨r, rfl, by rw [h]⟩
  | remove id =>
    exact .inl ((Schema.eraseFirst_eq_eraseP _ _ ▸ List.eraseP_sublist).subset hrow)
  | addAttr a => exact .inl hrow
  | addRel r => exact .inl hrow
  | setType t => exact absurd rfl (hop t)


/-! ### Non-vacuity: a concrete history inside the domain -/

namespace C19Example

def attrA : Attr := { name := [97], ty := 1, nullable := false }     -- a: string
def attrB : Attr := { name := [98], ty := 2, nullable := false }     -- b: int
def attrC : Attr := { name := [99], ty := 12, nullable := false }    -- c: bool
def attrD : Attr := { name := [100], ty := 3, nullable := true }     -- d: *int8
def relR : Rel :=
  { fromType := [116], fromName := [114], toOne := true, toType := [117], toName := [], fromOne := false }

def t0 : Typ := { name := [116], attrs := [([97], attrA)], rels := [] }
/-- keeps a and c, drops b and r, brings d -/
def t1 : Typ := { name := [116], attrs := [([99], attrC), ([97], attrA), ([100], attrD)], rels := [] }

/-- ID "1", wider than `t0` (b and r are new), all values well typed. -/
def r1 : ResView :=
  { typeName := [116], id := [49], attrs := [([97], attrA), ([98], attrB)], rels := [([114], relR)],
    vals := [([97], .val .string (.s [120])), ([98], .val .int (.i 5)), ([114], .val .string (.s [50]))] }
/-- ID "1" again, narrower, with an ill-typed value for a. -/
def r2 : ResView :=
  { typeName := [116], id := [49], attrs := [([97], attrA)], rels := [],
    vals := [([97], .val .int (.i 3))] }
/-- ID "2". -/
def r3 : ResView :=
  { typeName := [116], id := [50], attrs := [([97], attrA)], rels := [],
    vals := [([97], .val .string (.s [121]))] }

def ops : List ColOp :=
  [.add r1, .add r2, .addAttr attrC, .add r3, .remove [49], .addRel relR, .setType t1]

def names : List GoString := [idName, [97], [98], [99], [100], [114], [122]]

/-- What a client can read: Len, At(-1) and At(Len) being nil, every name of every
At(i), every name of Resource("1"). -/
structure Reads where
  len : Nat
  atNeg : Bool
  atLen : Bool
  rows : List (List GoVal)
  res1 : Option (List GoVal)
deriving DecidableEq

def readModel (l : List ColOp) : Option Reads :=
  match colRun { typ := t0, col := [] } l with
  | .ok c =>
    some ⟨c.len, (c.at? (-1)).isNone, (c.at? (Int.ofNat c.len)).isNone,
      (List.range c.len).map (fun (i : Nat) =>
        match c.at? (Int.ofNat i) with
        | some s => names.map s.get
        | none => []),
      (c.resource? [49]).map (fun s => names.map s.get)⟩
  | _ => none

def readSpec (l : List ColOp) : Option Reads :=
  let σ := Spec.Store.run { typ := t0, rows := [] } l
  some ⟨σ.rows.length, true, true, σ.rows.map (fun row => names.map (Spec.Row.get σ.typ row)),
    (σ.rows.find? (fun row => row.id = [49])).map (fun row => names.map (Spec.Row.get σ.typ row))⟩

/-- The history is in the domain. -/
example : TypKeyed t0 ∧ HistOk { typ := t0, rows := [] } ops := by decide +kernel

/-- After the first four operations: three rows, the first holding r1's values, the
second (ill-typed a) and third the zero of the later fields b, c, r. -/
example : readModel (ops.take 4) =
    some ⟨3, true, true,
      [[.val .string (.s [49]), .val .string (.s [120]), .val .int (.i 5), .val .bool (.b false),
          .nil, .val .string (.s [50]), .nil],
       [.val .string (.s [49]), .val .string (.s []), .val .int (.i 0), .val .bool (.b false),
          .nil, .val .string (.s []), .nil],
       [.val .string (.s [50]), .val .string (.s [121]), .val .int (.i 0), .val .bool (.b false),
          .nil, .val .string (.s []), .nil]],
      some [.val .string (.s [49]), .val .string (.s [120]), .val .int (.i 5), .val .bool (.b false),
          .nil, .val .string (.s [50]), .nil]⟩ := by decide +kernel

/-- At the end: `Remove "1"` took the first of the two rows with ID "1" only, the failing
`AddRel` changed nothing, `SetType` dropped b and r and brought d. -/
example : readModel ops =
    some ⟨2, true, true,
      [[.val .string (.s [49]), .val .string (.s []), .nil, .val .bool (.b false),
          .ptr .int8 none, .nil, .nil],
       [.val .string (.s [50]), .val .string (.s [121]), .nil, .val .bool (.b false),
          .ptr .int8 none, .nil, .nil]],
      some [.val .string (.s [49]), .val .string (.s []), .nil, .val .bool (.b false),
          .ptr .int8 none, .nil, .nil]⟩ := by decide +kernel

/-- The plain list reads the same after every prefix of the history. -/
example : ∀ n ∈ List.range 8, readModel (ops.take n) = readSpec (ops.take n) := by decide +kernel

end C19Example

#print axioms C19_step
#print axioms C19_refines_from
#print axioms C19_init
#print axioms C19_refines
#print axioms C19_only_add_panics
#print axioms C19_len
#print axioms C19_at
#print axioms C19_resource
#print axioms C19_fields
#print axioms C19_remove_first
#print axioms C19_zero_for_later_attr
#print axioms C19_zero_for_later_rel
#print axioms C19_zero_for_later_fields
#print axioms C19_snapshot
#print axioms C19_rows_stable

end Jsonapi
