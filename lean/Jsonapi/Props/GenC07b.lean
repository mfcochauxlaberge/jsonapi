/-
T1b for the URL front end (C07/C08): `NewSimpleURL` (simple_url.go), `NewParams` (params.go) and
`NewURL` (url.go) - and `Type.Fields` (type.go), which NewParams calls -, translated from the Go
source on this run (harness/cmd/translate: structures generated from the struct declarations,
local structures, pointers as `Option`, `(T, error)` results as pairs, delegated calls as
parameters, loops with early exit / break / continue, counting loops with in-place removal,
reads that may panic), are the hand-written model's `newSimpleURL`, `newParams`, `newURL` of
Model/Url.lean - for every input that satisfies the stated hypotheses.

Correspondence. The translated functions work on the structures `Gen.SimpleURL`, `Gen.Params`,
`Gen.URL` (every field of the Go structs); the model keeps fewer fields, the views
`SimpleURL.ofGen`, `Params.ofGen`, `URL.ofGen` (Proofs/GenC07bLemmas.lean) forget `Route`,
`RelKind`, `BelongsToFilter`, `Attrs`, `Rels`, `RelData`. A Go result `(*T, error)` is a pair
`Option T × Res Unit` and represents the model's `Res` as `PtrPairIs` says (non-nil pointer
and nil error, or nil pointer and non-nil error, or nil pointer and `Res.panic` - nothing else),
a result `(T, error)` as `ValPairIs` says (the value returned next to a non-nil error is not
compared, the model drops it).

`Gen_NewParams_eq`, `Gen_NewURL_eq`: under the one hypothesis that no sorting rule of the
SimpleURL is the empty string. The code reads `urule[0]` of every rule, so it PANICS on an empty
rule where the model goes on: `Gen_NewParams_differs_on_empty_rule` is a checked instance (the
code - its faithful translation - is the ground truth there). `NewSimpleURL` never produces an
empty rule (`Gen_NewSimpleURL_rules_nonempty`), so the composition `NewURLFromRaw` is covered.

`Gen_NewSimpleURL_eq`: the translated function takes the `*url.URL` (a generated structure,
`some u`: non-nil) and three delegated calls as parameters: `q` is `(*url.URL).Query`, `unm0` /
`unm1` the two `json.Unmarshal` calls (into `&sURL.FilterLabel` and into the fresh `&Filter{}`).
The model starts from the decoded path `u.path`, the values `q u` (an association list whose
order is the iteration order) and the decoded filter `fd`. Hypotheses: the keys of the values
are distinct (it is a Go map), and `fd` is what the two decoders give on the filter value
(`FilterDecIs`). `Gen_NewSimpleURL_nil`: a nil `*url.URL` is an error (the model has no such input).
-/
import Jsonapi.Generated.Funcs
import Jsonapi.Props.GenC08
import Jsonapi.Props.GenC15
import Jsonapi.Proofs.GenC07bLemmas
namespace Jsonapi
open Schema GoMap

theorem Gen_Type_Fields_eq (t : Typ) : Gen.Type_Fields t = t.fields := by
  unfold Gen.Type_Fields Typ.fields
  simp only [foldl_append_map (fun (e : GoString × Attr) => e.2.name),
    foldl_append_map (fun (e : GoString × Rel) => e.2.fromName), List.nil_append]
  simp [GoMap.vals, List.map_map]
  rfl

theorem Gen_NewParams_eq (σ : Schema) (su : Gen.SimpleURL) (rt : GoString)
    (hsr : ∀ r ∈ su.sortingRules, r ≠ []) :
    PtrPairIs Params.ofGen (Gen.NewParams σ su rt) (newParams σ (SimpleURL.ofGen su) rt) := by
  generalize hM : newParams σ (SimpleURL.ofGen su) rt = M
  rw [UrlL.newParams_eq] at hM
  unfold Gen.NewParams
  extract_lets -underBinder +onlyGivenNames params0 incs1 incs2 incs3 incs4
  -- the includes: copied, sorted, pruned
  have hincs4 : incs4 = UrlL.pIncs (SimpleURL.ofGen su) := by
    have e : incs4 = (List.range incs3.length).reverse.foldl GenC07b.pruneStep incs3 :=
      GenC07b.foldl_ext _ _ (fun _ _ => rfl) _ _
    rw [e, GenC07b.prune_fold]
    show pruneIncludes (Typ.sortStrings incs2) = _
    rw [show incs2 = su.include_ from GenC07b.make_copy su.include_]
    rfl
  clear_value incs4
  clear incs3 incs2 incs1
  subst hincs4
  -- the check loop
  generalize hE : List.foldl _ (UrlL.pIncs (SimpleURL.ofGen su), params0) _ = st5
  obtain ⟨incs5, params5⟩ := st5
  split
  rename_i incs5' params5' heq
  cases heq
  change List.foldl (GenC07b.checkStep σ rt) _ _ = _ at hE
  -- what the check loop leaves: the includes whose path resolves are unchanged, the types met are registered
  obtain ⟨suf', h5, hres5⟩ := GenC07b.check_fold σ rt (UrlL.pIncs (SimpleURL.ofGen su)).length [] (UrlL.pIncs (SimpleURL.ofGen su)) params0 (Nat.le_refl _)
  simp only [List.length_nil, List.nil_append, ← List.range_eq_range'] at h5
  rw [h5] at hE
  have hincs5 : incs5 = suf' := (Prod.mk.inj hE).1.symm
  have hp5 : params5 = (⟨UrlL.pFields0 σ (SimpleURL.ofGen su) rt, [], [], [], [], none, [], [], []⟩ : Gen.Params) :=
    (Prod.mk.inj hE).2.symm
  clear hE h5
  subst hincs5 hp5
  clear params0
  extract_lets -underBinder +onlyGivenNames params6 params7 p8a params8
  have h7 : params7 = (⟨UrlL.pFields0 σ (SimpleURL.ofGen su) rt, [], [], [], [], none, [], [],
      UrlL.pIncl σ (SimpleURL.ofGen su) rt⟩ : Gen.Params) := by
    have e : params7 = incs5.foldl (GenC07b.inclStep σ rt) params6 := rfl
    rw [e, GenC07b.incl_fold, hres5]
    rfl
  have h8 : params8 = (⟨UrlL.pFields1 σ (SimpleURL.ofGen su) rt, [], [], [], [], none, [], [],
      UrlL.pIncl σ (SimpleURL.ofGen su) rt⟩ : Gen.Params) := by
    have e8 : params8 = if decide (rt ≠ []) = true then p8a else params7 := rfl
    have e8a : p8a = { params7 with fields := GoMap.set params7.fields rt [] } := rfl
    rw [e8, e8a, h7]
    unfold UrlL.pFields1
    by_cases h : rt = [] <;> simp [h]
  clear_value params8
  subst h8
  clear h7 p8a params7 params6 hres5 incs5
  -- the fields loop
  generalize hF : List.foldl _ (_, none) su.fields = st9
  obtain ⟨params9, ret9⟩ := st9
  split
  rename_i params9' ret9' heq
  cases heq
  have key : GenC07b.EarlyIs
      (fun (s : Gen.Params) fm => s = ⟨fm, [], [], [], [], none, [], [], UrlL.pIncl σ (SimpleURL.ofGen su) rt⟩)
      (fun r => r = ((none : Option Gen.Params), (Res.err : Res Unit))) (params9, ret9)
      (UrlL.pFieldsRes σ (SimpleURL.ofGen su) rt) := by
    rw [← hF]
    refine GenC07b.fold_early _ (UrlL.fieldStep σ rt) _ _ (fun _ _ => True) (fun _ _ _ => rfl) ?hstep
      su.fields _ _ trivial rfl
    rintro ⟨t, fs⟩ rest s fm _ rfl
    simp only [Gen_Schema_GetType_eq, Gen_Type_Fields_eq]
    -- the selection: two nested loops
    rw [GenC07b.foldl_ext _ (GenC07b.selStep (σ.getType t) t) ?sel fs]
    case sel =>
      intro p f
      unfold GenC07b.selStep
      rw [GenC07b.foldl_ext _ (GenC07b.selInner t f) (fun _ _ => rfl)]
      rfl
    have hsel := GenC07b.sel_fold (σ.getType t) t
      (⟨fm, [], [], [], [], none, [], [], UrlL.pIncl σ (SimpleURL.ofGen su) rt⟩ : Gen.Params) fm fs []
    simp only [List.nil_append] at hsel
    rw [hsel]
    simp only [GoMap.get?_set_self, Option.getD_some]
    -- the search for a duplicate: two nested index loops
    rw [GenC07b.foldl_ext _ (GenC07b.dupOuter (UrlL.Perm.sel (σ.getType t) fs) ((none : Option Gen.Params), (Res.err : Res Unit))) ?dup]
    case dup =>
      intro r i
      set_option smartUnfolding false in rfl
    rw [GenC07b.dup_fold]
    unfold UrlL.fieldStep GenC07b.EarlyIs
    simp only []
    by_cases hn : (σ.getType t).name = []
    · by_cases ht : t = rt
      · subst ht; simp [hn]
      · simp [hn, ht]
    · have hE := UrlL.eraseDups_length_iff (UrlL.Perm.sel (σ.getType t) fs)
      by_cases hnd : (UrlL.Perm.sel (σ.getType t) fs).Nodup
      · by_cases ht : t = rt
        · subst ht; simp [hn, hnd, hE.2 hnd]
        · simp [hn, ht, hnd, hE.2 hnd]
      · have h1 : (UrlL.Perm.sel (σ.getType t) fs).eraseDups.length ≠ (UrlL.Perm.sel (σ.getType t) fs).length := mt hE.1 hnd
        by_cases ht : t = rt
        · subst ht; simp [hn, hnd, h1]
        · simp [hn, ht, hnd, h1]
  clear hF
  cases hfold : UrlL.pFieldsRes σ (SimpleURL.ofGen su) rt with
  | panic => rw [hfold] at key; exact key.elim
  | err =>
    rw [hfold] at key hM
    obtain ⟨r, e2, hr⟩ := key
    have e2 : ret9 = some r := e2
    subst e2 hr hM
    rfl
  | ok fm =>
    rw [hfold] at key hM
    have e2 : ret9 = none := key.1
    have e1 : params9 = _ := key.2
    subst e2 e1 hM
    have hnd : (GoMap.keys fm).Nodup :=
      UrlL.rfold_inv (UrlL.fieldStep σ rt) (fun m => (GoMap.keys m).Nodup) (fun a b a' hq h => UrlL.fieldStep_nodup hq h)
        _ _ _ (UrlL.pFields1_nodup σ _ rt) hfold
    clear key hfold
    split
    · rename_i r heq; cases heq
    extract_lets -underBinder +onlyGivenNames params10 params11
    have h10 : params10 = (⟨UrlL.fillDefault σ fm, [], [], [], [], none, [], [], UrlL.pIncl σ (SimpleURL.ofGen su) rt⟩ : Gen.Params) := by
      have e : params10 = fm.foldl (GenC07b.fillStep σ)
          (⟨fm, [], [], [], [], none, [], [], UrlL.pIncl σ (SimpleURL.ofGen su) rt⟩ : Gen.Params) := by
        refine GenC07b.foldl_ext _ _ ?_ _ _
        intro p e
        simp only [Gen_Schema_GetType_eq, Gen_Type_Fields_eq, GenC07b.fillStep]
        by_cases hc : decide ((((GoMap.get? p.fields e.1).getD []).length : Int) = 0) = true
        · simp only [hc, if_true, GoMap.get?_set_self, Option.getD_some, GenC07b.set_set, GenC07b.make_copy]
        · simp only [hc, Bool.false_eq_true, if_false]
      rw [e]
      have := GenC07b.fill_fold σ (⟨fm, [], [], [], [], none, [], [], UrlL.pIncl σ (SimpleURL.ofGen su) rt⟩ : Gen.Params) fm [] (by simpa using hnd)
      simpa [UrlL.fillDefault] using this
    have h11 : (params11.fields, params11.include_, params11.sortingRules) =
        (params10.fields, params10.include_, params10.sortingRules) := by
      refine foldl_keep _ (fun p : Gen.Params => (p.fields, p.include_, p.sortingRules)) ?_ _ _
      intro s a
      simp only []
      refine Eq.trans (foldl_keep _ (fun st : Gen.Params × Typ => (st.1.fields, st.1.include_, st.1.sortingRules)) ?h2 _ _) rfl
      rintro ⟨p, ty⟩ f1
      simp only []
      refine Eq.trans (foldl_keep _ (fun st : Gen.Params × Typ => (st.1.fields, st.1.include_, st.1.sortingRules)) ?h3 _ _) rfl
      rintro ⟨p, ty⟩ f2
      -- whichever of the four tests hold, only `attrs` or `rels` is written
      simp only []
      cases decide (f1 = f2)
      · rfl
      · cases decide ((Gen.Schema_GetType σ a.1).name ≠ [])
        · rfl
        · cases ((Gen.Schema_GetType σ a.1).attrs.get? f1).isSome
          · cases ((Gen.Schema_GetType σ a.1).rels.get? f1).isSome <;> rfl
          · rfl
    obtain ⟨h11f, h11i, h11s⟩ : params11.fields = UrlL.fillDefault σ fm ∧
        params11.include_ = UrlL.pIncl σ (SimpleURL.ofGen su) rt ∧ params11.sortingRules = [] := by
      have := h11
      rw [h10] at this
      simp only [Prod.mk.injEq] at this
      exact this
    clear_value params11
    clear h10 h11 params10
    extract_lets -underBinder +onlyGivenNames params12 params13 isCol0 isColT relName typC relC isColR isColE isCol
    have hcol : isCol = UrlL.pIsCol σ (SimpleURL.ofGen su) := by
      show (if decide ((su.fragments.length : Int) = 1) = true then true else
        if decide ((3 : Int) ≤ (su.fragments.length : Int)) = true then
          !((GoMap.get? (Gen.Schema_GetType σ (su.fragments.getD 0 [])).rels (su.fragments.getD (su.fragments.length - 1) [])).getD
            { fromType := [], fromName := [], toOne := false, toType := [], toName := [], fromOne := false }).toOne
        else false) = _
      have e1 : ((su.fragments.length : Int) = 1) ↔ su.fragments.length = 1 := by omega
      have e3 : ((3 : Int) ≤ su.fragments.length) ↔ su.fragments.length ≥ 3 := by omega
      have h0 : su.fragments.getD 0 [] = su.fragments.head?.getD [] := by cases su.fragments <;> rfl
      unfold UrlL.pIsCol
      rw [Gen_Schema_GetType_eq, GenC07b.getD_length_sub_one, h0,
        show (SimpleURL.ofGen su).fragments = su.fragments from rfl]
      simp only [e1, e3, decide_eq_true_eq]
      cases (σ.getType (su.fragments.head?.getD [])).rels.get? (su.fragments.getLast?.getD []) <;> rfl
    clear_value isCol
    subst hcol
    clear isColE isColR relC typC relName isColT isCol0
    by_cases hc : UrlL.pIsCol σ (SimpleURL.ofGen su) = true
    · rw [if_pos hc]
      extract_lets -underBinder +onlyGivenNames typS sr0 idf0
      generalize hS1 : List.foldl _ (idf0, sr0, none) su.sortingRules = st1
      obtain ⟨idf, sr, ret1⟩ := st1
      split
      rename_i idf' sr' ret1' heq
      cases heq
      rw [GenC07b.foldl_ext _ (GenC07b.rule1Step (σ.getType rt) ((none : Option Gen.Params), (Res.panic : Res Unit))) ?s1] at hS1
      case s1 =>
        rintro ⟨a, b, c⟩ rule
        show _ = GenC07b.rule1Step (Gen.Schema_GetType σ rt) _ _ _
        set_option smartUnfolding false in rfl
      rw [GenC07b.rule1_fold _ _ _ _ _ hsr] at hS1
      have hidf : idf = su.sortingRules.any (fun rule => decide (Spec.stripDash rule = idName)) := by
        have := (Prod.mk.inj hS1).1; simpa [idf0] using this.symm
      have hsr1 : sr = Spec.validRules σ rt su.sortingRules := by
        have := (Prod.mk.inj (Prod.mk.inj hS1).2).1; simpa [sr0, Spec.validRules] using this.symm
      have hret1 : ret1 = none := (Prod.mk.inj (Prod.mk.inj hS1).2).2.symm
      clear hS1
      subst hret1
      split
      · rename_i r heq; cases heq
      extract_lets -underBinder
      generalize hS2 : List.foldl _ (sr0, none) typS.attrs = st2
      obtain ⟨rest, ret2⟩ := st2
      split
      rename_i rest' ret2' heq
      cases heq
      rw [GenC07b.foldl_ext _ (GenC07b.rule2Step sr ((none : Option Gen.Params), (Res.panic : Res Unit))) ?s2] at hS2
      case s2 =>
        rintro ⟨a, b⟩ e
        set_option smartUnfolding false in rfl
      have hsr2 : ∀ r ∈ sr, r ≠ [] := by
        intro r hr
        rw [hsr1, Spec.validRules] at hr
        exact hsr r (List.mem_filter.1 hr).1
      rw [GenC07b.rule2_fold sr _ hsr2] at hS2
      have hrest : rest = (UrlL.attrNames σ rt).filter (fun a => !sr.any (fun rule => decide (Spec.stripDash rule = a))) := by
        have := (Prod.mk.inj hS2).1; simpa [sr0, typS, UrlL.attrNames, Gen_Schema_GetType_eq] using this.symm
      have hret2 : ret2 = none := (Prod.mk.inj hS2).2.symm
      clear hS2
      subst hret2
      split
      · rename_i r heq; cases heq
      have hr : UrlL.pRules σ (SimpleURL.ofGen su) rt =
          sr ++ Typ.sortStrings rest ++ (if (!idf) = true then [[105, 100]] else []) := by
        unfold UrlL.pRules
        rw [if_pos hc, hsr1, hrest, hidf, hsr1]
        have hs : (SimpleURL.ofGen su).sortingRules = su.sortingRules := rfl
        rw [hs]
        cases su.sortingRules.any (fun rule => decide (Spec.stripDash rule = idName)) <;> rfl
      refine ⟨_, rfl, ?_⟩
      rw [hr]
      unfold Params.ofGen
      simp only [params13, params12, h11f, h11i]
      cases idf <;> simp [SimpleURL.ofGen]
    · have hc' : UrlL.pIsCol σ (SimpleURL.ofGen su) = false := by simpa using hc
      rw [if_neg hc]
      have hr : UrlL.pRules σ (SimpleURL.ofGen su) rt = [] := by unfold UrlL.pRules; rw [hc']; rfl
      refine ⟨_, rfl, ?_⟩
      rw [hr]
      unfold Params.ofGen
      simp only [params13, params12, h11f, h11i, h11s]
      rfl

/-- a schema with the one type `a` (no attribute, no relationship) -/
def GenC07b.exSchema : Schema := { types := [{ name := [97], attrs := [], rels := [] }] }

/-- the collection URL `/a` with `SortingRules = [""]` -/
def GenC07b.exEmptyRule : Gen.SimpleURL :=
  { fragments := [[97]], route := [], fields := [], filterLabel := [], filter := none,
    sortingRules := [[]], page := [], include_ := [] }

/-- Where the code and the model differ: an empty sorting rule. `NewParams` reads `urule[0]` and
panics; the model drops the rule and succeeds. The translation is faithful to the code. -/
theorem Gen_NewParams_differs_on_empty_rule :
    (Gen.NewParams GenC07b.exSchema GenC07b.exEmptyRule [97]).2 = Res.panic ∧
    newParams GenC07b.exSchema (SimpleURL.ofGen GenC07b.exEmptyRule) [97] ≠ Res.panic := by
  refine ⟨by decide, UrlL.newParams_no_panic _ _ _⟩

/-- the end of `NewURL`: the call of `NewParams` and the two returns -/
theorem newURL_tail (x : Option Gen.Params × Res Unit) (m : Res Params)
    (fr : List GoString) (route : GoString) (isCol : Bool) (resType resID relKind : GoString) (rel : Rel)
    (btf : Gen.BelongsToFilter) (res : Res URL)
    (hr : res = match m with
      | .ok p => .ok { fragments := fr, isCol := isCol, resType := resType, resID := resID, rel := rel, params := p }
      | .err => .err
      | .panic => .panic)
    (h : PtrPairIs Params.ofGen x m) :
    PtrPairIs URL.ofGen
      (if decide (x.2 ≠ Res.ok ()) = true then (none, x.2) else
        (some { fragments := fr, route := route, isCol := isCol, resType := resType, resID := resID,
                relKind := relKind, rel := rel, belongsToFilter := btf, params := x.1 }, Res.ok ())) res := by
  subst hr
  cases m with
  | ok p => obtain ⟨a, rfl, rfl⟩ := h; exact ⟨_, rfl, rfl⟩
  | err => obtain rfl : x = (none, Res.err) := h; rfl
  | panic => obtain rfl : x = (none, Res.panic) := h; rfl

theorem ite_relKind (c : Prop) [Decidable c] (f : List GoString) (r : GoString) (i : Bool) (t d a k : GoString)
    (l : Rel) (b : Gen.BelongsToFilter) (p : Option Gen.Params) :
    (if c then (⟨f, r, i, t, d, a, l, b, p⟩ : Gen.URL) else ⟨f, r, i, t, d, k, l, b, p⟩) =
      ⟨f, r, i, t, d, if c then a else k, l, b, p⟩ := by
  split <;> rfl

theorem Gen_NewURL_eq (σ : Schema) (su : Gen.SimpleURL) (hsr : ∀ r ∈ su.sortingRules, r ≠ []) :
    PtrPairIs URL.ofGen (Gen.NewURL σ su) (newURL σ (SimpleURL.ofGen su)) := by
  have hnp : ∀ rt, PtrPairIs Params.ofGen (Gen.NewParams σ su rt) (newParams σ (SimpleURL.ofGen su) rt) :=
    fun rt => Gen_NewParams_eq σ su rt hsr
  rw [UrlL.newURL_eq]
  unfold Gen.NewURL UrlL.urlHead
  rw [show (SimpleURL.ofGen su).fragments = su.fragments from rfl]
  -- the tests on `len(url.Fragments)` are decided by the number of fragments: none, one, two, more
  rcases su.fragments with _ | ⟨f0, _ | ⟨f1, _ | ⟨f2, rest⟩⟩⟩
  · rfl
  iterate 2
    · simp only [List.length_cons, List.length_nil, Gen_Schema_GetType_eq, List.getD_cons_zero,
        List.getD_cons_succ, Int.reduceEq, Int.reduceLE, Nat.reduceAdd, Int.cast_ofNat_Int, Nat.zero_add,
        decide_true, decide_false, Bool.false_eq_true, if_false, if_true]
      by_cases hn : (σ.getType f0).name = []
      · simp only [hn, decide_true, if_true]; rfl
      · simp only [hn, decide_false, Bool.false_eq_true, if_false]
        exact newURL_tail (h := hnp _) (hr := rfl) ..
  · have hle : ∀ k : Int, k ≤ 3 → decide (k ≤ ((f0 :: f1 :: f2 :: rest).length : Int)) = true := by
      intro k hk; simp only [List.length_cons, decide_eq_true_eq]; omega
    have hne : ∀ k : Int, k < 3 → decide (((f0 :: f1 :: f2 :: rest).length : Int) = k) = false := by
      intro k hk; simp only [List.length_cons, decide_eq_false_iff_not]; omega
    have h3 : (f0 :: f1 :: f2 :: rest).length ≥ 3 := by simp only [List.length_cons]; omega
    simp only [hle, hne, h3, Int.reduceLE, Int.reduceLT, Gen_Schema_GetType_eq, Gen_Schema_HasType_eq,
      List.getD_cons_zero, GenC07b.getD_length_sub_one, Bool.false_eq_true, if_false, if_true, ite_relKind]
    by_cases hn : (σ.getType f0).name = []
    · simp only [hn, decide_true, if_true]; rfl
    · simp only [hn, decide_false, Bool.false_eq_true, if_false]
      cases hr : (σ.getType f0).rels.get? ((f0 :: f1 :: f2 :: rest).getLast?.getD []) with
      | none => rfl
      | some rel =>
        simp only [Option.isSome_some, Option.getD_some, Bool.not_true, Bool.false_eq_true, if_false]
        by_cases ht : σ.hasType rel.toType = true
        · simp only [ht, Bool.not_true, Bool.false_eq_true, if_false]
          exact newURL_tail (h := hnp _) (hr := rfl) ..
        · simp only [ht, Bool.not_false, if_true]; rfl

/-- `fd` (what the model takes as the decoded filter parameter) is what the two delegated
`json.Unmarshal` calls of `NewSimpleURL` produce on the filter value `v`: `unm0` decodes
`"\"" + v + "\""` into the (still empty) `FilterLabel`, `unm1` decodes `v` into a fresh `&Filter{}`. -/
def FilterDecIs (unm0 : GoString → GoString → GoString × Res Unit)
    (unm1 : GoString → Option GoString → Option GoString × Res Unit) (v : GoString) (fd : FilterDec) : Prop :=
  (match fd.label with
    | some l => unm0 ([34] ++ v ++ [34]) [] = (l, .ok ())
    | none => (unm0 ([34] ++ v ++ [34]) []).2 ≠ .ok ()) ∧
  (match fd.filter with
    | some f => unm1 v (some []) = (some f, .ok ())
    | none => (unm1 v (some [])).2 ≠ .ok ())

theorem Gen_NewSimpleURL_eq (q : Gen.url_URL → GoMap (List GoString))
    (unm0 : GoString → GoString → GoString × Res Unit)
    (unm1 : GoString → Option GoString → Option GoString × Res Unit)
    (u : Gen.url_URL) (fd : FilterDec)
    (hkeys : (GoMap.keys (q u)).Nodup)
    (hfd : FilterDecIs unm0 unm1 (firstVal ((GoMap.get? (q u) sFilter).getD [])) fd) :
    ValPairIs SimpleURL.ofGen (Gen.NewSimpleURL (some u) q unm0 unm1) (newSimpleURL u.path (q u) fd) := by
  unfold Gen.NewSimpleURL
  rw [UrlL.newSimpleURL_eq]
  simp only []
  generalize hX : List.foldl _ (_, none) (q u) = X
  have key : GenC07b.EarlyIs (fun s t => SimpleURL.ofGen s = t) (fun (r : Gen.SimpleURL × Res Unit) => r.2 = Res.err) X
      (UrlL.rfold (fun su (p : GoString × List GoString) => simpleStep fd su p.1 p.2)
        (.ok { fragments := parseFragments u.path, fields := [], filterLabel := [], filter := none,
               sortingRules := [], page := [], incl := [] }) (q u)) := by
    rw [← hX]
    refine GenC07b.fold_early _ _ _ _
      (fun l s => (∀ p ∈ l, GoMap.get? (q u) p.1 = some p.2) ∧ (GoMap.keys l).Nodup ∧
        (sFilter ∈ GoMap.keys l → s.filterLabel = []))
      (fun _ _ _ => rfl) ?step (q u) _ _ ⟨fun p hp => GoMap.get?_of_mem_nodup hkeys hp, hkeys, fun _ => rfl⟩
      (by simp only [SimpleURL.ofGen, Gen_parseFragments_eq])
    clear hX X
    rintro ⟨name, vs⟩ rest s t ⟨hget, hnd, hlab⟩ rfl
    have hv : (q u).get? name = some vs := hget (name, vs) List.mem_cons_self
    have hrest : (∀ p ∈ rest, GoMap.get? (q u) p.1 = some p.2) ∧ (GoMap.keys rest).Nodup :=
      ⟨fun p hp => hget p (List.mem_cons_of_mem _ hp), (List.nodup_cons.1 hnd).2⟩
    have hl' : sFilter ∈ keys rest → s.filterLabel = [] := fun hm => hlab (List.mem_cons_of_mem _ hm)
    have k1 : ([102, 105, 101, 108, 100, 115, 91] : GoString) = sFieldsOpen := rfl
    have k2 : ([112, 97, 103, 101, 91] : GoString) = sPageOpen := rfl
    have k3 : ([102, 105, 108, 116, 101, 114] : GoString) = sFilter := rfl
    have k4 : ([115, 111, 114, 116] : GoString) = sSort := rfl
    have k5 : ([105, 110, 99, 108, 117, 100, 101] : GoString) = sInclude := rfl
    have i8 : decide ((8 : Int) < (name.length : Int)) = decide (name.length > 8) := GenC07b.int_lt_length 8 name
    have i6 : decide ((6 : Int) < (name.length : Int)) = decide (name.length > 6) := GenC07b.int_lt_length 6 name
    simp only [hv, Option.getD_some, k1, k2, k3, k4, k5, isSuffixOf_singleton, i8, i6,
      GenC07b.take_drop_dropLast, Gen_parseCommaList_eq, decide_eq_true_eq]
    unfold simpleStep
    by_cases c1 : (hasPrefix name sFieldsOpen && name.getLast? = some 93 && name.length > 8) = true
    · rw [if_pos c1, if_pos c1]
      exact ⟨rfl, rfl, hrest.1, hrest.2, hl'⟩
    rw [if_neg c1, if_neg c1]
    by_cases c2 : (hasPrefix name sPageOpen && name.getLast? = some 93 && name.length > 6) = true
    · rw [if_pos c2, if_pos c2]
      cases hv0 : firstVal vs with
      | nil => exact ⟨rfl, rfl, hrest.1, hrest.2, hl'⟩
      | cons a v =>
        have hpos : (0 : Int) < ((a :: v).length : Int) := by simp only [List.length_cons]; omega
        rw [if_pos hpos]
        simp only [reduceCtorEq, if_false]
        cases parseInt 64 (a :: v) <;> exact ⟨rfl, rfl, hrest.1, hrest.2, hl'⟩
    rw [if_neg c2, if_neg c2]
    by_cases c3 : name = sFilter
    · subst c3
      rw [if_pos rfl, if_pos rfl]
      have hl0 : s.filterLabel = [] := hlab List.mem_cons_self
      have hname : sFilter ∉ keys rest := (List.nodup_cons.1 hnd).1
      rw [show firstVal (((q u).get? sFilter).getD []) = firstVal vs by rw [hv]; rfl] at hfd
      obtain ⟨hfl, hff⟩ := hfd
      cases hv0 : firstVal vs with
      | nil => exact ⟨_, rfl, rfl⟩
      | cons a v =>
        rw [hv0] at hfl hff
        simp only [reduceCtorEq, if_false, List.getD_cons_zero, List.head?_cons, ne_eq, Option.some.injEq, hl0]
        by_cases hb : a = 123
        · subst hb
          simp only [not_true_eq_false, if_false]
          cases hlb : fd.filter with
          | some f =>
            rw [hlb] at hff
            rw [show unm1 (123 :: v) (some []) = (some f, Res.ok ()) from hff]
            exact ⟨rfl, by simp only [SimpleURL.ofGen, hl0, not_true_eq_false, if_false], hrest.1, hrest.2,
              fun hm => absurd hm hname⟩
          | none =>
            rw [hlb] at hff
            rw [if_pos (show ¬ (unm1 (123 :: v) (some [])).snd = Res.ok () from hff)]
            exact ⟨_, rfl, rfl⟩
        · simp only [hb, not_false_eq_true, if_true]
          cases hlb : fd.label with
          | some l =>
            rw [hlb] at hfl
            rw [show unm0 ([34] ++ a :: v ++ [34]) [] = (l, Res.ok ()) from hfl]
            exact ⟨rfl, rfl, hrest.1, hrest.2, fun hm => absurd hm hname⟩
          | none =>
            rw [hlb] at hfl
            rw [if_pos (show ¬ (unm0 ([34] ++ a :: v ++ [34]) []).snd = Res.ok () from hfl)]
            exact ⟨_, rfl, rfl⟩
    rw [if_neg c3, if_neg c3]
    by_cases c4 : name = sSort
    · rw [if_pos c4, if_pos c4, GenC07b.foldl_sorting]
      exact ⟨rfl, rfl, hrest.1, hrest.2, hl'⟩
    rw [if_neg c4, if_neg c4]
    by_cases c5 : name = sInclude
    · rw [if_pos c5, if_pos c5, GenC07b.foldl_include]
      exact ⟨rfl, rfl, hrest.1, hrest.2, hl'⟩
    rw [if_neg c5, if_neg c5]
    exact ⟨_, rfl, rfl⟩
  revert key
  cases UrlL.rfold _ _ (q u) with
  | ok t => rintro ⟨h1, h2⟩; obtain ⟨s, r⟩ := X; cases (h1 : r = none); exact ⟨rfl, h2⟩
  | err => rintro ⟨r, h1, h2⟩; obtain ⟨s, r'⟩ := X; cases (h1 : r' = some r); exact h2
  | panic => exact False.elim


/-- a nil `*url.URL` is refused (the model starts from a parsed URL) -/
theorem Gen_NewSimpleURL_nil (q : Gen.url_URL → GoMap (List GoString))
    (unm0 : GoString → GoString → GoString × Res Unit)
    (unm1 : GoString → Option GoString → Option GoString × Res Unit) :
    (Gen.NewSimpleURL none q unm0 unm1).2 = Res.err := rfl

/-- what `NewSimpleURL` returns without error has no empty sorting rule (`parseCommaList` drops the
empty items): the hypothesis of `Gen_NewParams_eq` / `Gen_NewURL_eq` holds on its results -/
theorem Gen_NewSimpleURL_rules_nonempty (q : Gen.url_URL → GoMap (List GoString))
    (unm0 : GoString → GoString → GoString × Res Unit)
    (unm1 : GoString → Option GoString → Option GoString × Res Unit)
    (u : Gen.url_URL) (fd : FilterDec)
    (hkeys : (GoMap.keys (q u)).Nodup)
    (hfd : FilterDecIs unm0 unm1 (firstVal ((GoMap.get? (q u) sFilter).getD [])) fd)
    (hok : (Gen.NewSimpleURL (some u) q unm0 unm1).2 = Res.ok ()) :
    ∀ r ∈ (Gen.NewSimpleURL (some u) q unm0 unm1).1.sortingRules, r ≠ [] := by
  have hm := (Gen_NewSimpleURL_eq q unm0 unm1 u fd hkeys hfd).of_ok hok
  rw [show (Gen.NewSimpleURL (some u) q unm0 unm1).1.sortingRules = _ from UrlL.newSimpleURL_sort hm]
  intro r hr
  obtain ⟨p, _, hp⟩ := List.mem_flatMap.1 hr
  split at hp
  · obtain ⟨v, _, hv⟩ := List.mem_flatMap.1 hp
    simpa using (List.mem_filter.1 hv).2
  · cases hp

end Jsonapi

section Axioms
open Jsonapi
#print axioms Gen_Type_Fields_eq
#print axioms Gen_NewParams_eq
#print axioms Gen_NewParams_differs_on_empty_rule
#print axioms Gen_NewURL_eq
#print axioms Gen_NewSimpleURL_eq
#print axioms Gen_NewSimpleURL_nil
#print axioms Gen_NewSimpleURL_rules_nonempty
end Axioms
