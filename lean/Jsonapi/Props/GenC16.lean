/-
T1b for C16: the definitions translated from type.go / schema.go on this run
(Generated/Funcs.lean) are the hand-written model's, for every input. The C16 theorems are
about `Rel.invert`, `Rel.normalize`, `Rel.string` and the order `Rel.less`; through these
equalities they are theorems about what the source says now.
-/
import Jsonapi.Generated.Funcs
import Jsonapi.Proofs.SchemaLemmas
namespace Jsonapi

theorem Gen_Rel_Invert_eq (r : Rel) : Gen.Rel_Invert r = r.invert := rfl

theorem Gen_Rel_Normalize_eq (r : Rel) : Gen.Rel_Normalize r = r.normalize := by
  unfold Gen.Rel_Normalize Rel.normalize
  simp only [Gen_Rel_Invert_eq, decide_eq_true_eq, Bool.or_eq_true, Bool.and_eq_true, Bool.not_eq_true',
    decide_eq_false_iff_not, List.not_lt, List.le_iff_lt_or_eq]
  by_cases h : r.fromType < r.toType <;> simp only [h, true_or, false_or, if_true, if_false]

theorem Gen_Rel_String_eq (r : Rel) : Gen.Rel_String r = r.string := by
  unfold Gen.Rel_String Rel.string Rel.us
  rw [Gen_Rel_Normalize_eq]
  by_cases h : r.normalize.toName = []
  · simp [h]
  · simp [h, List.append_assoc]

/-- One step of a lexicographic comparison as `relLess` writes it: `if x != y { return x < y }`. -/
private theorem lt_cons_step {α : Type} [DecidableEq α] [LT α] [DecidableLT α]
    [Std.Irrefl (· < · : α → α → Prop)] (x y : α) (xs ys : List α) :
    decide (x :: xs < y :: ys) = if decide (x ≠ y) then decide (x < y) else decide (xs < ys) := by
  by_cases h : x = y
  · subst h; simp
  · simp [List.cons_lt_cons_iff, h]

/-- The last two steps, on the cardinality flags (`false < true`). -/
private theorem flags_lt (p q p' q' : Bool) :
    decide (([[if p then 1 else 0], [if q then 1 else 0]] : List GoString)
      < [[if p' then 1 else 0], [if q' then 1 else 0]]) = if decide (p ≠ p') then !p else (!q && q') := by
  cases p <;> cases p' <;> cases q <;> cases q' <;> decide

/-- schema.go `relLess` is the lexicographic order on (FromType, FromName, ToType, ToName,
ToOne, FromOne) that the model sorts `Schema.Rels()` by. -/
theorem Gen_relLess_eq (a b : Rel) : Gen.relLess a b = Rel.less a b := by
  unfold Gen.relLess Rel.less Rel.key
  rw [lt_cons_step, lt_cons_step, lt_cons_step, lt_cons_step, flags_lt]

end Jsonapi

section Axioms
open Jsonapi
#print axioms Gen_Rel_Invert_eq
#print axioms Gen_Rel_Normalize_eq
#print axioms Gen_Rel_String_eq
#print axioms Gen_relLess_eq
end Axioms
