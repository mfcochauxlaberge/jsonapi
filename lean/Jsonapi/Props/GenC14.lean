/-
T1b for the attribute-kind tables (C14's validity test of an attribute kind, C17/C19's
`Set` type check, C20's Go-type table): `GetAttrType` and `GetAttrTypeString` translated
from type.go on this run agree with the model's reading of them for every input.
-/
import Jsonapi.Generated.Funcs
import Jsonapi.Model.Soft
namespace Jsonapi

/-- the Go name of each kind, and of the pointer to it, resolves to the kind's code -/
theorem Gen_GetAttrType_goName (k : Kind) :
    Gen.GetAttrType (gs k.goName) = ((k.code : Int), false) ∧
    Gen.GetAttrType (gs ("*" ++ k.goName)) = ((k.code : Int), true) := by
  cases k <;> decide +kernel

/-- `GetAttrType(fmt.Sprintf("%T", v))` is the (kind code, nullable) pair the model's
`SoftResource.Set` compares with the attribute's, for every dynamic type the model has;
every other type name the model can print gives (AttrTypeInvalid, false). -/
theorem Gen_GetAttrType_eq (v : GoVal) :
    Gen.GetAttrType (gs v.goType) = ((v.attrType.1 : Int), v.attrType.2) := by
  cases v with
  | val k p => exact (Gen_GetAttrType_goName k).1
  | ptr k p => exact (Gen_GetAttrType_goName k).2
  | strs l => exact (by decide +kernel : Gen.GetAttrType (gs "[]string") = (0, false))
  | nil => exact (by decide +kernel : Gen.GetAttrType (gs "<nil>") = (0, false))
  | other n => exact (by decide +kernel : Gen.GetAttrType (gs "other") = (0, false))

/-- the documented short names resolve to the same kinds -/
theorem Gen_GetAttrType_names :
    Gen.GetAttrType (gs "time") = (13, false) ∧ Gen.GetAttrType (gs "*time") = (13, true) ∧
    Gen.GetAttrType (gs "bytes") = (14, false) ∧ Gen.GetAttrType (gs "[]byte") = (14, false) ∧
    Gen.GetAttrType (gs "*[]byte") = (14, true) ∧ Gen.GetAttrType (gs "*") = (0, false) ∧
    Gen.GetAttrType (gs "") = (0, false) ∧ Gen.GetAttrType (gs "**int") = (0, false) := by decide +kernel

/-- the name `GetAttrTypeString` gives each kind -/
def Kind.attrName : Kind → String
  | .string => "string" | .int => "int" | .int8 => "int8" | .int16 => "int16" | .int32 => "int32"
  | .int64 => "int64" | .uint => "uint" | .uint8 => "uint8" | .uint16 => "uint16" | .uint32 => "uint32"
  | .uint64 => "uint64" | .bool => "bool" | .time => "time" | .bytes => "bytes"

theorem Gen_GetAttrTypeString_kind (k : Kind) (n : Bool) :
    Gen.GetAttrTypeString (k.code : Int) n = gs ((if n then "*" else "") ++ k.attrName) := by
  cases k <;> cases n <;> decide +kernel

/-- `GetAttrTypeString(t, nullable) != ""` is the model's validity test of an attribute kind
(`Type.AddAttr`), for EVERY integer code, nullable or not. -/
theorem Gen_GetAttrTypeString_nonEmpty (ty : Nat) (n : Bool) :
    attrTypeStringNonEmpty ty n = decide (Gen.GetAttrTypeString (ty : Int) n ≠ []) := by
  by_cases h : ty < 15
  · exact (by decide +kernel : ∀ ty < 15, ∀ n, attrTypeStringNonEmpty ty n =
      decide (Gen.GetAttrTypeString (ty : Int) n ≠ [])) ty h n
  · -- no case of the switch applies: with `ty = m + 15` every comparison evaluates
    obtain ⟨m, rfl⟩ := Nat.exists_eq_add_of_le' (Nat.le_of_not_lt h)
    cases n <;> rfl

/-- the two tables are inverse on the fourteen kinds: the name of a kind resolves to it -/
theorem Gen_GetAttrType_String (k : Kind) (n : Bool) :
    Gen.GetAttrType (Gen.GetAttrTypeString (k.code : Int) n) = ((k.code : Int), n) := by
  cases k <;> cases n <;> decide +kernel

end Jsonapi

section Axioms
open Jsonapi
#print axioms Gen_GetAttrType_eq
#print axioms Gen_GetAttrType_names
#print axioms Gen_GetAttrTypeString_kind
#print axioms Gen_GetAttrTypeString_nonEmpty
#print axioms Gen_GetAttrType_String
end Axioms
