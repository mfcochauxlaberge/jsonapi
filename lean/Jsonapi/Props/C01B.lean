/-
C01B — C01 through the BYTES (audit finding 2 of DESIGN §14).

`Props/C01.lean` proves the round trip from the marshaled TREE: `unmarshalResource σ
(Spec.skeletonOf c t)`, where `Spec.skeletonOf` is a definition standing for "what encoding/json
decodes from the bytes of `t`". Here both byte-level halves of the model are connected:

  `Json.render`               the bytes `encoding/json` writes for the tree (Model/JsonText.lean)
  `Spec.parseJsonC`           the full-grammar reader of `encoding/json` (Spec/JsonFull.lean)
  `decodeRes D`               `json.Unmarshal(bytes, &resourceSkeleton{})` (Model/Decode.lean)
  `unmarshalResourceBytes`    `UnmarshalResource(bytes, schema)` from BYTES

Parameters. `D : Delegated` as in Props/C05B, constrained by `DelegatedOk D TimeOk`:
`D.decTime` (json.Unmarshal of the raw text of a value into a time.Time) inverts
time.Time.MarshalJSON on `TimeOk` - C01's codec law, stated on the rendered literal - and rejects
every text that is neither a string literal nor `null` (time.Time.UnmarshalJSON: "input is not
a JSON string"). `D.numCanon` is unconstrained (a resource object written by `marshalResource`
has no `meta`). base64 is not a parameter: `goB64`, the decoder of Model/Decode.lean, is modelled and
inverts the model's encoder (`RtbL.goB64_b64enc`). `C01B_realD` instantiates `D.decTime` with the
RFC 3339 reader of Spec/Codec.lean on `Spec.TimeDom`.

Domain: C01's, plus the decidable `ResView.utf8Ok r prepath` (ID, type name, path prefix,
attribute / relationship names, target types, string values and relationship IDs are valid
UTF-8 - "every ID string (valid UTF-8)", "strings code point for code point" of the property
text; Go writes U+FFFD for anything else, and the resource would not come back).
Not covered: resource-level `meta` (`rmeta ≠ []`; `UnmarshalResource` does not read it).
Documents: Props/C02B.lean.
-/
import Jsonapi.Props.C01
import Jsonapi.Props.Bridge
import Jsonapi.Props.C05B
import Jsonapi.Proofs.RoundTripBytesLemmas
namespace Jsonapi
open GoMap Spec FullL RtbL

/-! ### 1. What the reader makes of what the renderer wrote -/

/-- Go's `unquote` inverts Go's `appendString` (HTML escaping on) on every valid UTF-8 string. -/
theorem C01B_unquote_render (s : GoString) (h : utf8Valid s = true) :
    unquote (renderStrBody s) = s :=
  unquote_render s h

/-- The full reader parses what the renderer writes, for EVERY tree whose strings (keys
included) are valid UTF-8, whose numbers match the JSON grammar and that is nested at most
10000 deep: the tree itself comes back, and the concrete syntax is `FullL.toC t`. -/
theorem C01B_parse_render (t : Json) (hn : t.numsOk = true) (hd : depth t ≤ maxDepth)
    (hu : strsAll utf8Valid t = true) :
    parseJsonFull t.render = some t ∧ parseJsonC t.render = some (toC t) ∧
      parseJsonFull t.render = Spec.parseJson t.render := by
  obtain ⟨h1, h2⟩ := C05B_render_roundtrip t hn hd
  rw [mapStr_unquote_id t hu] at h2
  exact ⟨h2, parseJsonC_render t hn hd, h2.trans h1.symm⟩

/-! ### 2. The decoded skeleton is the one `Spec.skeletonOf` reads off the tree -/

/-- The conversion `RawVal.abstr` / `ResSke.abstr` (the `bytes` of a string value: literal as
written ↦ quote-content-quote; the never-consulted time decode of `null`) cannot be observed by
the library: `Attr.UnmarshalToType` and `UnmarshalResource` return the same on both, for EVERY
raw value and skeleton. -/
theorem C01B_abstr_invisible (σ : SSchema) (a : Attr) (r : RawVal) (sk : ResSke) :
    unmarshalToType a r.abstr = unmarshalToType a r ∧
    unmarshalResource σ sk.abstr = unmarshalResource σ sk ∧
    sk.abstr.id = sk.id ∧ sk.abstr.typ = sk.typ ∧ sk.abstr.rels = sk.rels ∧
    sk.abstr.smeta = sk.smeta ∧ sk.abstr.attrs.keys = sk.attrs.keys ∧
    r.abstr.decStr = r.decStr ∧ r.abstr.decBytes = r.decBytes ∧
    (r.bytes ≠ sNull → r.abstr.decTime = r.decTime) ∧ r.abstr.bytes.head? = r.bytes.head? := by
  refine ⟨toType_abstr a r, unmarshalResource_abstr σ sk, rfl, rfl, rfl, rfl, ?_, ?_⟩
  · simp [ResSke.abstr, keys, List.map_map]
  · unfold RawVal.abstr
    split
    · next h => exact ⟨rfl, rfl, fun h' => absurd h h', rfl⟩
    · split
      · next hh _ => exact ⟨rfl, rfl, fun _ => rfl, hh.symm⟩
      · exact ⟨rfl, rfl, fun _ => rfl, rfl⟩

/-- **decode ∘ parse ∘ render = skeletonOf.** For every tree of the shape of a marshaled
resource object whose numbers are JSON numbers and whose strings are valid UTF-8, reading the
rendered bytes with `encoding/json`'s grammar and decoding them into `resourceSkeleton` gives
the skeleton the tree-level theorems start from: id, type, every value of `attributes` (the
three decodes `decStr` / `decTime` / `decBytes` and the first byte), every relationship
(`present`, `isNull`, the Identifier / Identifiers decodes of `data`; `links` and `meta` are
checked and dropped), and no meta. -/
theorem decode_render_skeleton (D : Delegated) (TimeOk : Time → Prop) (hD : DelegatedOk D TimeOk)
    (t : Json) (hs : ResTreeShape t = true) (hn : t.numsOk = true)
    (hu : strsAll utf8Valid t = true) (hd : depth t ≤ maxDepth) :
    ((parseJsonC t.render).bind (decodeRes D)).map ResSke.abstr =
      some (Spec.skeletonOf (codecsOf D TimeOk hD) t) := by
  obtain ⟨sk, h1, h2⟩ := decodeRes_toC D TimeOk hD t hs hn hu
  rw [parseJsonC_render t hn hd, Option.bind_some, h1, Option.map_some, h2]

/-- Every resource object `marshalResource` writes (resource-level meta empty) has the shape,
JSON numbers, depth at most 10000, and - when the resource's strings are valid UTF-8 - only
valid UTF-8 strings. -/
theorem C01B_shape (r : ResView) (hr : r.keyedWf) (prepath : GoString) (fields : List GoString)
    (relData : GoMap (List GoString)) (t : Json) (r' : ResView)
    (hm : marshalResource r prepath fields relData = .ok (t, r')) :
    t = Spec.resourceObject r prepath fields relData ∧
    ResTreeShape t = true ∧ t.numsOk = true ∧ depth t ≤ maxDepth ∧
    (r.utf8Ok prepath = true → strsAll utf8Valid t = true) := by
  obtain ⟨r'', h, -⟩ := C04_resource r hr prepath fields relData []
  rw [h] at hm
  cases hm
  exact ⟨rfl, resourceObject_shape hr prepath fields relData,
    MJsonL.resourceObject_numsOk r prepath fields relData [] rfl,
    resourceObject_depth r prepath fields relData,
    resourceObject_strs r prepath fields relData⟩

/-- `UnmarshalResource` from the rendered BYTES of a marshaled resource is `UnmarshalResource`
from `Spec.skeletonOf` of the tree. -/
theorem C01B_bytes_eq_tree (D : Delegated) (TimeOk : Time → Prop) (hD : DelegatedOk D TimeOk)
    (σ : SSchema) (r : ResView) (hr : r.keyedWf) (prepath : GoString) (fields : List GoString)
    (relData : GoMap (List GoString)) (hu : r.utf8Ok prepath = true) (t : Json) (r' : ResView)
    (hm : marshalResource r prepath fields relData = .ok (t, r')) :
    unmarshalResourceBytes D σ t.render =
      unmarshalResource σ (Spec.skeletonOf (codecsOf D TimeOk hD) t) := by
  obtain ⟨-, hs, hn, hd, hv⟩ := C01B_shape r hr prepath fields relData t r' hm
  obtain ⟨sk, h1, h2⟩ := decodeRes_toC D TimeOk hD t hs hn (hv hu)
  unfold unmarshalResourceBytes
  rw [parseJsonC_render t hn hd]
  simp only [h1]
  rw [← h2, unmarshalResource_abstr]

/-! ### 3. C01 from the bytes -/

/-- **C01 through the bytes.** The statement of `C01_roundtrip` / `C01_roundtrip_model` with
the bytes in the middle: the model's `MarshalResource` succeeds on the resource with all fields
and all relationship data selected, and `UnmarshalResource` of the BYTES `encoding/json` writes
for its result gives a resource with the same type name, ID and, field by field, the same
value. -/
theorem C01B_roundtrip_bytes (D : Delegated) (TimeOk : Time → Prop) (hD : DelegatedOk D TimeOk)
    (σ : SSchema) (hσ : σ.WF) (st : SType) (hst : st ∈ σ)
    (r : ResView) (hr : r.keyedWf) (htn : r.typeName = st.typ.name)
    (hattrs : ∀ key a, r.attrs.get? key = some a ↔ st.typ.attrs.get? key = some a)
    (hrels : ∀ key, (r.rels.get? key).map Spec.relCore = (st.typ.rels.get? key).map Spec.relCore)
    (hdom : ∀ key ∈ r.attrs.keys, Spec.codecDom (codecsOf D TimeOk hD) (r.get key))
    (prepath : GoString) (hu : r.utf8Ok prepath = true) :
    ∃ t r', marshalResource r prepath (Spec.allFields r) [(r.typeName, r.rels.keys)] = .ok (t, r') ∧
      ∃ res v', unmarshalResourceBytes D σ t.render = .ok res ∧ res.view? = some v' ∧
        v'.typeName = r.typeName ∧ v'.id = r.id ∧
        (∀ f ∈ Spec.allFields r, Spec.sameVal (v'.get f) (r.get f)) := by
  obtain ⟨t, r', hm, res, v', h⟩ :=
    C01_roundtrip_model (codecsOf D TimeOk hD) σ hσ st hst r hr htn hattrs hrels hdom prepath
  refine ⟨t, r', hm, res, v', ?_⟩
  rw [C01B_bytes_eq_tree D TimeOk hD σ r hr prepath _ _ hu t r' hm]
  exact h

/-- … for a soft resource built by the library (`Bridge.C01_roundtrip_soft`). -/
theorem C01B_roundtrip_bytes_soft (D : Delegated) (TimeOk : Time → Prop) (hD : DelegatedOk D TimeOk)
    (σ : SSchema) (hσ : σ.WF) (st : SType) (hst : st ∈ σ)
    (s : Soft) (hty : s.typ = st.typ) (hwt : s.WT)
    (hdom : ∀ key ∈ s.typ.attrs.keys, Spec.codecDom (codecsOf D TimeOk hD) (s.get key))
    (prepath : GoString) (hu : s.view.utf8Ok prepath = true) :
    ∃ t r', marshalResource s.view prepath (s.typ.attrs.keys ++ s.typ.rels.keys)
        [(s.typ.name, s.typ.rels.keys)] = .ok (t, r') ∧
      ∃ res v', unmarshalResourceBytes D σ t.render = .ok res ∧ res.view? = some v' ∧
        v'.typeName = s.typ.name ∧ v'.id = s.id ∧
        (∀ f ∈ s.typ.attrs.keys ++ s.typ.rels.keys, Spec.sameVal (v'.get f) (s.get f)) := by
  obtain ⟨_, ht, hn, _⟩ := hσ.2 st hst
  rw [← hty] at ht hn
  have hk := Soft_view_keyedWf s (SoftGood_of_wf s ht hn hwt)
  obtain ⟨t, r', hm, res, v', h⟩ :=
    C01_roundtrip_soft (codecsOf D TimeOk hD) σ hσ st hst s hty hwt hdom prepath
  refine ⟨t, r', hm, res, v', ?_⟩
  rw [C01B_bytes_eq_tree D TimeOk hD σ s.view hk prepath _ _ hu t r' hm]
  exact h

/-- … for a wrapped struct (`Bridge.C01_roundtrip_wrapped`). -/
theorem C01B_roundtrip_bytes_wrapped (D : Delegated) (TimeOk : Time → Prop)
    (hD : DelegatedOk D TimeOk) (σ : SSchema) (hσ : σ.WF) (st : SType) (hst : st ∈ σ)
    (d : StructDecl) (hd : checkStruct d = true) (hs : SingleID d) (hb : buildType d = .ok st.typ)
    (vals : List GoVal) (w : Wrapped) (hw : wrap d vals = .ok w) (hwt : w.WT)
    (hdom : ∀ key ∈ w.attrs.keys, ∀ x, w.get key = .ok x → Spec.codecDom (codecsOf D TimeOk hD) x)
    (prepath : GoString) (hu : ∀ v, w.view = some v → v.utf8Ok prepath = true) :
    ∃ v, w.view = some v ∧
    ∃ t r', marshalResource v prepath (w.attrs.keys ++ w.rels.keys) [(w.typ, w.rels.keys)] = .ok (t, r') ∧
      ∃ res v', unmarshalResourceBytes D σ t.render = .ok res ∧ res.view? = some v' ∧
        v'.typeName = w.typ ∧ v'.id = w.getID ∧
        (∀ f ∈ w.attrs.keys ++ w.rels.keys, ∃ x, w.get f = .ok x ∧ Spec.sameVal (v'.get f) x) := by
  obtain ⟨v0, hv0, -, -, -, -, -, -, hkw, -⟩ := Wrapped_view_ok d hd hs vals w hw hwt
  obtain ⟨v, hv, t, r', hm, res, v', h⟩ :=
    C01_roundtrip_wrapped (codecsOf D TimeOk hD) σ hσ st hst d hd hs hb vals w hw hwt hdom prepath
  have e : v = v0 := by rw [hv] at hv0; cases hv0; rfl
  subst e
  refine ⟨v, hv, t, r', hm, res, v', ?_⟩
  rw [C01B_bytes_eq_tree D TimeOk hD σ v hkw prepath _ _ (hu v hv) t r' hm]
  exact h

/-! ### Non-vacuity -/

/-- "é", a quote, the control byte 01, `<`, U+2028, U+1F600, a backslash, a line feed -/
def C01B_exStr : GoString :=
  [0xC3, 0xA9, 34, 1, 60, 0xE2, 0x80, 0xA8, 0xF0, 0x9F, 0x98, 0x80, 92, 10]

set_option maxRecDepth 20000 in
/-- the string is valid UTF-8; it is written as `é\"\u0001< 😀\\\n`; Go's `unquote`
gives it back; a lone continuation byte is not valid UTF-8 and does NOT come back (Go reads
U+FFFD): the hypothesis of `C01B_unquote_render` is needed -/
example :
    utf8Valid C01B_exStr = true ∧
    renderStrBody C01B_exStr =
      [0xC3, 0xA9, 92, 34, 92, 117, 48, 48, 48, 49, 92, 117, 48, 48, 51, 99,
       92, 117, 50, 48, 50, 56, 0xF0, 0x9F, 0x98, 0x80, 92, 92, 92, 110] ∧
    unquote (renderStrBody C01B_exStr) = C01B_exStr ∧
    utf8Valid [0x80] = false ∧ unquote (renderStrBody [0x80]) = [0xEF, 0xBF, 0xBD] := by decide +kernel

example := C01B_unquote_render C01B_exStr (by decide)

/-- a tree with that string as a key and as a value, a number and a nested array -/
def C01B_exTree : Json :=
  .obj [(C01B_exStr, .arr [.str C01B_exStr, .num [45, 49], .null]), ([97], .bool true)]

example : parseJsonFull C01B_exTree.render = some C01B_exTree :=
  (C01B_parse_render C01B_exTree (by decide) (by decide) (by decide)).1

/-- A delegated decoder satisfying `DelegatedOk`: it knows the literal of one instant `t0`
(as `RtL.codecsFor`); `TimeOk` is "is `t0`". The constraint is satisfiable. -/
def C01B_exD (t0 : Time) : Delegated :=
  { decTime := fun raw => if raw = renderStr (formatTime t0) then some t0 else none
    numCanon := fun l => some l }

theorem C01B_exD_ok (t0 : Time) : DelegatedOk (C01B_exD t0) (fun t => t = t0) := by
  constructor
  · intro t h; subst h; simp [C01B_exD]
  · intro raw h _
    have : raw ≠ renderStr (formatTime t0) := by
      intro e; rw [e] at h; exact h rfl
    simp [C01B_exD, this]

/-- `DelegatedOk` with the RFC 3339 reader of Spec/Codec.lean on the text between the quotes,
`TimeOk` = `Spec.TimeDom` (C01's `realCodecs`): what time.Time.UnmarshalJSON does on the
literals time.Time.MarshalJSON writes. -/
def C01B_realD : Delegated :=
  { decTime := fun raw =>
      match raw with
      | 34 :: rest => if rest.getLast? = some 34 then Spec.parseRFC3339 rest.dropLast else none
      | _ => none
    numCanon := fun l => some l }

theorem C01B_realD_ok : DelegatedOk C01B_realD Spec.TimeDom := by
  constructor
  · intro t h
    have e : renderStr (formatTime t) = 34 :: (formatTime t ++ [34]) := by
      rw [renderStr, FullL.renderStrBody_plain _ (formatTime_plain t)]
    rw [e]
    simp only [C01B_realD, List.getLast?_append, List.getLast?_singleton, List.dropLast_concat]
    exact RtL.parseRFC3339_formatTime t h
  · intro raw h _
    cases raw with
    | nil => rfl
    | cons c r =>
      have : c ≠ 34 := by intro e; subst e; exact h rfl
      simp only [C01B_realD]
      split
      · rename_i e; cases e; exact absurd rfl this
      · rfl

/-- a resource of `C01_exT` whose nullable string attribute "s" holds `C01B_exStr` and whose
ID is "é" -/
def C01B_exR (tn : GoString) : ResView :=
  { C01_exR tn with
    id := [0xC3, 0xA9]
    vals := [([97], .val .int8 (.i (-128))), ([115], .ptr .string (some (.s C01B_exStr))),
             ([117], .val .uint64 (.i 18446744073709551615)), ([98], .val .bytes (.bs none)),
             ([102], .ptr .bool (some (.b true))),
             ([111], .val .string (.s [107])), ([109], .strs [[50], [0xC3, 0xA9]])] }

theorem C01B_exR_dom (c : Spec.Codecs) (st : SType) (h : st.typ = C01_exT ∨ st.typ = C01_exW) :
    RtL.ResDom c st (C01B_exR st.typ.name) := by
  have ha : st.typ.attrs = C01_exT.attrs := by rcases h with h | h <;> rw [h] <;> rfl
  have hr : st.typ.rels = C01_exT.rels := by rcases h with h | h <;> rw [h] <;> rfl
  refine ⟨?_, rfl, ?_, ?_, ?_⟩
  · rcases h with h | h <;> rw [h] <;> decide +kernel
  · intro key a; rw [ha]; exact Iff.rfl
  · intro key; rw [hr]; rfl
  · intro key hk
    have hk' : key ∈ [[97], [115], [117], [98], [102]] := hk
    simp only [List.mem_cons, List.not_mem_nil, or_false] at hk'
    rcases hk' with rfl | rfl | rfl | rfl | rfl <;> exact codecDom_of_noTime _ _ rfl

/-- The hypotheses of `C01B_roundtrip_bytes` are satisfiable, for the soft and for the
struct-backed type and for every delegated decoder meeting `DelegatedOk`: the string with the
quote, the control byte, `<`, U+2028 and the multi-byte characters comes back from the BYTES. -/
example (D : Delegated) (TimeOk : Time → Prop) (hD : DelegatedOk D TimeOk) (st : SType)
    (hst : st ∈ C01_exσ) :
    ∃ t r', marshalResource (C01B_exR st.typ.name) [47] (Spec.allFields (C01B_exR st.typ.name))
        [(st.typ.name, C01_exT.rels.keys)] = .ok (t, r') ∧
      ∃ res v', unmarshalResourceBytes D C01_exσ t.render = .ok res ∧ res.view? = some v' ∧
        v'.id = [0xC3, 0xA9] ∧
        Spec.sameVal (v'.get [115]) (.ptr .string (some (.s C01B_exStr))) := by
  have hd : RtL.ResDom (codecsOf D TimeOk hD) st (C01B_exR st.typ.name) := by
    apply C01B_exR_dom
    simp only [C01_exσ, List.mem_cons, List.not_mem_nil, or_false] at hst
    rcases hst with rfl | rfl
    · exact .inl rfl
    · exact .inr rfl
  have hu : (C01B_exR st.typ.name).utf8Ok [47] = true := by
    simp only [C01_exσ, List.mem_cons, List.not_mem_nil, or_false] at hst
    rcases hst with rfl | rfl <;> decide +kernel
  obtain ⟨t, r', hm, res, v', h1, h2, -, h4, h5⟩ := C01B_roundtrip_bytes D TimeOk hD C01_exσ
    C01_exσ_wf st hst (C01B_exR st.typ.name) hd.keyed hd.tname hd.attrs hd.rels hd.dom [47] hu
  exact ⟨t, r', hm, res, v', h1, h2, h4,
    h5 [115] (by simp [Spec.allFields, C01B_exR, C01_exR, C01_exT, GoMap.keys])⟩

/-- a resource object of type "t" as `marshalResource` writes it (members sorted), with the
string in `attributes.s`, the ID "é" and the to-one relationship "o" -> ("k", "x") -/
def C01B_exObj : Json :=
  .obj [(K.attributes, .obj [([97], .num [45, 49, 50, 56]), ([115], .str C01B_exStr)]),
        (K.id, .str [0xC3, 0xA9]),
        (K.links, .obj [(K.self, .str [47, 116, 47, 0xC3, 0xA9])]),
        (K.relationships, .obj [([111], .obj [(K.data, identifierJson [107] [120]),
          (K.links, .obj [])])]),
        (K.type, .str [116])]

set_option maxRecDepth 40000 in
/-- Computed: the object has the shape; `UnmarshalResource` of its rendered BYTES returns the
string, the ID and the relationship unchanged; the skeleton decoded from the bytes carries the
string's literal as written (escapes included) and, through `ResSke.abstr`, the
quote-content-quote form of `Spec.rawOf`. -/
example :
    ResTreeShape C01B_exObj = true ∧ strsAll utf8Valid C01B_exObj = true ∧
    (match unmarshalResourceBytes C05B_exD C01_exσ C01B_exObj.render with
      | .ok (.soft s) =>
        s.get [115] == .ptr .string (some (.s C01B_exStr)) && s.id == [0xC3, 0xA9] &&
        s.get [111] == .val .string (.s [107]) && s.get [97] == .val .int8 (.i (-128))
      | _ => false) = true ∧
    ((parseJsonC C01B_exObj.render).bind (decodeRes C05B_exD)).map
        (fun sk => (sk.attrs.map (fun p => p.2.bytes), sk.abstr.attrs.map (fun p => p.2.bytes))) =
      some ([[45, 49, 50, 56], 34 :: (renderStrBody C01B_exStr ++ [34])],
            [[45, 49, 50, 56], 34 :: (C01B_exStr ++ [34])]) := by decide +kernel

/-- `decode_render_skeleton` applies to the object (shape, numbers, UTF-8 and depth by
evaluation), with a decoder meeting `DelegatedOk`. -/
example := decode_render_skeleton (C01B_exD default) _ (C01B_exD_ok default) C01B_exObj
  (by decide +kernel) (by decide +kernel) (by decide +kernel) (by decide +kernel)

/-- `C01B_shape` and `C01B_bytes_eq_tree` apply to what the model's `marshalResource` writes for
the resource with the escape-worthy string. -/
example (D : Delegated) (TimeOk : Time → Prop) (hD : DelegatedOk D TimeOk) :
    ∃ t r', marshalResource (C01B_exR [116]) [47] (Spec.allFields (C01B_exR [116]))
        [([116], C01_exT.rels.keys)] = .ok (t, r') ∧
      ResTreeShape t = true ∧ t.numsOk = true ∧ strsAll utf8Valid t = true ∧
      unmarshalResourceBytes D C01_exσ t.render =
        unmarshalResource C01_exσ (Spec.skeletonOf (codecsOf D TimeOk hD) t) := by
  have hk : (C01B_exR [116]).keyedWf := by decide +kernel
  have hu : (C01B_exR [116]).utf8Ok [47] = true := by decide +kernel
  obtain ⟨r', hm, -⟩ := C04_resource (C01B_exR [116]) hk [47] (Spec.allFields (C01B_exR [116]))
    [([116], C01_exT.rels.keys)] []
  obtain ⟨-, h1, h2, -, h4⟩ := C01B_shape _ hk _ _ _ _ _ hm
  exact ⟨_, r', hm, h1, h2, h4 hu, C01B_bytes_eq_tree D TimeOk hD C01_exσ _ hk _ _ _ hu _ _ hm⟩

def C01B_exS : Soft := { typ := C01_exT, id := [0xC3, 0xA9], data := (C01B_exR [116]).vals }

example (D : Delegated) (TimeOk : Time → Prop) (hD : DelegatedOk D TimeOk) :=
  C01B_roundtrip_bytes_soft D TimeOk hD C01_exσ C01_exσ_wf { typ := C01_exT, backed := false }
    (List.Mem.head _) C01B_exS rfl (by decide +kernel)
    (fun key hk => codecDom_of_noTime _ _ ((by decide +kernel : ∀ key ∈ C01B_exS.typ.attrs.keys,
      (match C01B_exS.get key with
        | .val _ (.t _) => false | .ptr _ (some (.t _)) => false | _ => true) = true) key hk))
    [47] (by decide +kernel)

/-- `C01B_roundtrip_bytes_wrapped` applies to the freshly created Article of Props/Bridge.lean. -/
example (D : Delegated) (TimeOk : Time → Prop) (hD : DelegatedOk D TimeOk) :
    ∃ w, wrap exampleDecl (Wrapped.zeroVals exampleDecl) = .ok w ∧
    ∃ v, w.view = some v ∧ ∃ t r', marshalResource v [47] (w.attrs.keys ++ w.rels.keys)
        [(w.typ, w.rels.keys)] = .ok (t, r') ∧
      ∃ res v', unmarshalResourceBytes D Bridge_exσ t.render = .ok res ∧
        res.view? = some v' ∧ v'.typeName = w.typ := by
  obtain ⟨w, hw, hwt⟩ := C20_zero_WT exampleDecl exampleDecl_check
  have ew := eq_mkW_of_wrap exampleDecl_check hw
  obtain ⟨v, hv, t, r', hm, res, v', h1, h2, h3, _⟩ :=
    C01B_roundtrip_bytes_wrapped D TimeOk hD Bridge_exσ Bridge_exσ_wf
      { typ := Bridge_exArticle, backed := true }
      (List.Mem.head _) exampleDecl exampleDecl_check exampleDecl_singleID exampleDecl_buildType _ w hw hwt
      (by
        subst ew
        intro key hk x hx k t e
        have := (by decide +kernel : ∀ key ∈ (mkW exampleDecl (Wrapped.zeroVals exampleDecl)).attrs.keys,
          (match (mkW exampleDecl (Wrapped.zeroVals exampleDecl)).get key with
            | .ok (.val _ (.t _)) => false | .ok (.ptr _ (some (.t _))) => false | _ => true) = true) key hk
        rw [hx] at this
        rcases e with rfl | rfl <;> cases this)
      [47]
      (by
        subst ew
        intro v hv
        have : (match (mkW exampleDecl (Wrapped.zeroVals exampleDecl)).view with
          | some v => v.asciiOk [47]
          | none => true) = true := by decide +kernel
        rw [hv] at this
        exact utf8Ok_of_ascii v [47] this)
  exact ⟨w, hw, v, hv, t, r', hm, res, v', h1, h2, h3⟩

end Jsonapi

section Axioms
open Jsonapi
#print axioms C01B_unquote_render
#print axioms C01B_parse_render
#print axioms C01B_abstr_invisible
#print axioms decode_render_skeleton
#print axioms C01B_shape
#print axioms C01B_bytes_eq_tree
#print axioms C01B_roundtrip_bytes
#print axioms C01B_roundtrip_bytes_soft
#print axioms C01B_roundtrip_bytes_wrapped
#print axioms C01B_exD_ok
#print axioms C01B_realD_ok
#print axioms C01B_exR_dom
#print axioms RtbL.unquote_render
#print axioms RtbL.goB64_b64enc
#print axioms RtbL.decodeRes_toC
end Axioms
