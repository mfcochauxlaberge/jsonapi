/-
C09P — "consecutive pages therefore partition the matching resources",
stated for the model's `range` itself.

`C09_partition` / `C09_partition_all` (Props/C09.lean) are facts about the page function on an
arbitrary list. Here they are composed with `C09_range`: for a fixed collection, ID list,
filter, rules and page size there is ONE ordering `π` of the matching resources that respects
the rules such that

* page `n` returned by `Range` is the slice `[n*size, (n+1)*size)` of `π` (every `n` with
  `n*size < 2^63`),
* pages `0 … k-1` laid end to end are the first `k*size` elements of `π` - all of `π` as soon
  as `k*size` reaches its length,
* every page is a contiguous piece of `π` (`π = before ++ page ++ after`), two different pages
  have no resource (no ID) in common, and a page that starts at or beyond the end is empty.

Hypotheses: those of `C09_range` (well-formed resources, unique IDs, no ID listed twice, rules
over the collection's attributes, the known-finding exclusion `RulesHaveCases`, a filter on
which `IsAllowed` is the specification's `eval` - discharged by C10 for well-typed filters in
`C09_pages_partition_filtered`), `size < 2^64` and `k*size < 2^63` (Go's `uint`/`int`).
`size > 0` is NOT needed for these clauses (with `size = 0` every page is empty and the prefix
has length 0); it is what makes the pages cover `π` (`k = π.length` pages then suffice).

The clause "the input collection keeps its members and order" of the property is NOT expressible
on this model and has no theorem: `range` is a pure function from the list of views of
the input collection to the page; it has no output component standing for the input collection
(the Go code only calls `Len`/`At` on it and builds a private slice), so a theorem
"`c` is unchanged" would be `c = c`. The clause is checked on the real code by the harness
(suite `range`: members and order of the input collection before and after every call).
-/
import Jsonapi.Props.C09
import Jsonapi.Props.Bridge
namespace Jsonapi
open Spec

/-! ### pages of a list -/

theorem page_split (π : List ResView) (size n : Nat) :
    π = π.take (n * size) ++ Spec.page π size n ++ π.drop ((n + 1) * size) := by
  unfold Spec.page
  have h2 : (n + 1) * size = n * size + size := by rw [Nat.add_mul, Nat.one_mul]
  rw [h2, ← List.drop_drop, List.append_assoc, List.take_append_drop,
    List.take_append_drop]

theorem page_beyond (π : List ResView) (size n : Nat) (h : π.length ≤ n * size) :
    Spec.page π size n = [] := by
  unfold Spec.page
  rw [List.drop_eq_nil_of_le h, List.take_nil]

theorem page_length (π : List ResView) (size n : Nat) :
    (Spec.page π size n).length = min size (π.length - n * size) := by
  unfold Spec.page
  rw [List.length_take, List.length_drop]

theorem page_disjoint (π : List ResView) (hnd : (π.map (·.id)).Nodup) (size m n : Nat) (hmn : m < n) :
    ∀ a ∈ Spec.page π size m, ∀ b ∈ Spec.page π size n, a.id ≠ b.id := by
  intro a ha b hb e
  -- a is in the first (m+1)*size elements, b after the first n*size ≥ (m+1)*size
  have ha' : a ∈ π.take ((m + 1) * size) := by
    rw [Nat.add_mul, Nat.one_mul, List.take_add]
    exact List.mem_append_right _ ha
  have hb' : b ∈ π.drop ((m + 1) * size) :=
    List.drop_subset_drop_left π (Nat.mul_le_mul_right size hmn) (List.mem_of_mem_take hb)
  rw [← List.take_append_drop ((m + 1) * size) π, List.map_append, List.nodup_append] at hnd
  exact hnd.2.2 _ (List.mem_map_of_mem ha') _ (List.mem_map_of_mem hb') e

/-! ### the pages `Range` returns -/

theorem C09_pages_partition (S : Sorter) (hS : S.Local) (c : List ResView) (ids : List GoString)
    (f : Option Filter) (rules : List GoString) (size : Nat) (hsize : size < 2 ^ 64)
    (hwf : AllWf c) (hu : UniqueIds c) (hids : ids.Nodup)
    (hover : RulesOver c (effRules rules)) (hcases : RulesHaveCases c (effRules rules))
    (hf : ∀ flt, f = some flt → ∀ r ∈ c, isAllowed r flt = .ok (Spec.eval r flt)) :
    ∃ (π : List ResView) (pages : Nat → List ResView),
      -- one ordering of the matching resources that respects the rules
      π.Perm (Spec.matching c ids f) ∧
      π.Pairwise (fun a b => Spec.le (effRules rules) a b = true) ∧
      -- `pages n` is what Range returns for page number n
      (∀ n, n * size < 2 ^ 63 → range S c ids f rules size n = .ok (pages n)) ∧
      -- pages 0..k-1 end to end are the first k*size elements of the ordering …
      (∀ k, (List.range k).flatMap pages = π.take (k * size)) ∧
      -- … all of it once k*size reaches its length
      (∀ k, π.length ≤ k * size → (List.range k).flatMap pages = π) ∧
      -- every page is a contiguous piece of the ordering (a sublist), of at most `size` elements
      (∀ n, π = π.take (n * size) ++ pages n ++ π.drop ((n + 1) * size)) ∧
      (∀ n, (pages n).Sublist π ∧ (pages n).length = min size (π.length - n * size)) ∧
      -- no overlap: different pages share no resource ID
      (∀ m n, m ≠ n → ∀ a ∈ pages m, ∀ b ∈ pages n, a.id ≠ b.id) ∧
      -- pages beyond the end are empty
      (∀ n, (Spec.matching c ids f).length ≤ n * size → pages n = []) := by
  obtain ⟨π, hp, hs, hr⟩ := C09_range S hS c ids f rules hwf hu hids hover hcases hf
  have hnd : (π.map (·.id)).Nodup := (hp.map _).nodup_iff.2 (hu.matching ids f)
  refine ⟨π, fun n => Spec.page π size n, hp, hs, fun n hn => hr size n hsize hn,
    fun k => C09_partition π size k, fun k hk => C09_partition_all π size k hk,
    fun n => page_split π size n, ?_, ?_, ?_⟩
  · intro n
    refine ⟨?_, page_length π size n⟩
    unfold Spec.page
    exact (List.take_sublist _ _).trans (List.drop_sublist _ _)
  · intro m n hmn a ha b hb
    rcases Nat.lt_or_gt_of_ne hmn with h | h
    · exact page_disjoint π hnd size m n h a ha b hb
    · exact fun e => page_disjoint π hnd size n m h b hb a ha e.symm
  · intro n hn
    exact page_beyond π size n (by rw [hp.length_eq]; exact hn)

/-- With `size > 0` the pages cover the ordering: every matching resource is on exactly one
page (exactly one: by the no-overlap clause above). -/
theorem C09_pages_cover (π : List ResView) (size : Nat) (hpos : 0 < size) :
    ∀ r ∈ π, ∃ n, n * size < π.length ∧ r ∈ Spec.page π size n := by
  intro r hr
  have hall := C09_partition_all π size π.length (Nat.le_mul_of_pos_right _ hpos)
  rw [← hall] at hr
  obtain ⟨n, _, hn⟩ := List.mem_flatMap.1 hr
  refine ⟨n, ?_, hn⟩
  rcases Nat.lt_or_ge (n * size) π.length with h | h
  · exact h
  · rw [page_beyond π size n h] at hn; cases hn

/-- `C09_pages_partition` with the filter hypothesis discharged by C10 (well-typed filter
tree), the first five clauses. -/
theorem C09_pages_partition_filtered (S : Sorter) (hS : S.Local) (c : List ResView)
    (ids : List GoString) (f : Option Filter) (rules : List GoString) (size : Nat)
    (hsize : size < 2 ^ 64) (hwf : AllWf c) (hu : UniqueIds c) (hids : ids.Nodup)
    (hover : RulesOver c (effRules rules)) (hcases : RulesHaveCases c (effRules rules))
    (hft : ∀ flt, f = some flt → ∀ r ∈ c, wellTyped r flt = true) :
    ∃ (π : List ResView) (pages : Nat → List ResView),
      π.Perm (Spec.matching c ids f) ∧
      π.Pairwise (fun a b => Spec.le (effRules rules) a b = true) ∧
      (∀ n, n * size < 2 ^ 63 → range S c ids f rules size n = .ok (pages n)) ∧
      (∀ k, (List.range k).flatMap pages = π.take (k * size)) ∧
      (∀ k, π.length ≤ k * size → (List.range k).flatMap pages = π) ∧
      (∀ m n, m ≠ n → ∀ a ∈ pages m, ∀ b ∈ pages n, a.id ≠ b.id) := by
  obtain ⟨π, pages, h1, h2, h3, h4, h5, _, _, h8, _⟩ :=
    C09_pages_partition S hS c ids f rules size hsize hwf hu hids hover hcases
      (fun flt hflt r hr => C10_eval r (hwf r hr) flt (hft flt hflt r hr))
  exact ⟨π, pages, h1, h2, h3, h4, h5, h8⟩

/-- The collections `Range` is given hold soft resources or wrapped structs: the views of soft
resources in the invariant (Props/Bridge.lean) are well formed, so `AllWf` holds of them. -/
theorem C09_allWf_soft (ss : List Soft) (h : ∀ s ∈ ss, SoftGood s) : AllWf (ss.map Soft.view) := by
  intro r hr
  obtain ⟨s, hs, rfl⟩ := List.mem_map.1 hr
  exact Soft_view_wf s (h s hs)

/-! ### Non-vacuity: the collection of `C09_nonvacuous`, pages of size 2 -/

example :
    ∃ (π : List ResView) (pages : Nat → List ResView),
      π.Perm [exA, exB, exC] ∧
      range mergeSorter [exA, exB, exC] [] none exRules 2 0 = .ok (pages 0) ∧
      range mergeSorter [exA, exB, exC] [] none exRules 2 1 = .ok (pages 1) ∧
      range mergeSorter [exA, exB, exC] [] none exRules 2 2 = .ok [] ∧
      pages 0 ++ pages 1 = π ∧ (pages 0).length = 2 ∧ (pages 1).length = 1 := by
  obtain ⟨h1, h2, h3, h4, h5, _⟩ := C09_nonvacuous
  obtain ⟨π, pages, p1, _, p3, p4, p5, _, p7, _, p9⟩ :=
    C09_pages_partition mergeSorter C09_mergeSorter_local [exA, exB, exC] [] none exRules 2
      (by decide) h1 h2 h3 h4 h5 (fun flt e => by cases e)
  have hm : Spec.matching [exA, exB, exC] [] none = [exA, exB, exC] := by decide
  rw [hm] at p1 p9
  have hlen : π.length = 3 := p1.length_eq
  have e2 := p9 2 (by decide)
  refine ⟨π, pages, p1, p3 0 (by decide), p3 1 (by decide), by rw [p3 2 (by decide), e2], ?_, ?_, ?_⟩
  · have := p5 2 (by omega)
    simpa [List.range_succ] using this
  · rw [(p7 0).2, hlen]; decide
  · rw [(p7 1).2, hlen]; decide

end Jsonapi

section Axioms
open Jsonapi
#print axioms C09_pages_partition
#print axioms C09_pages_cover
#print axioms C09_pages_partition_filtered
#print axioms C09_allWf_soft
end Axioms
