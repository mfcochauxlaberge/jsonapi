/-
C06 — What an accepted resource payload stores.

"Whenever a resource payload is accepted, each attribute present in it is stored with exactly
the value the JSON denotes: an integer literal is accepted only if it lies within the
declared width and signedness and is stored unchanged, null is accepted only for nullable
attributes, and strings, booleans, RFC 3339 times and base64 byte strings decode to the same
value. Each relationship holds exactly the IDs listed, fields absent from the payload hold
their zero value."

* `Spec.intLit` (in `Jsonapi/Proofs/UnmarshalLemmas.lean`) is the denotation of a JSON integer
  literal, defined without reference to strconv: optional '-', then a non-empty string of
  ASCII digits, read in base 10.
* Decoding of strings, times, byte strings and identifiers is delegated to the standard
  library: the skeleton carries what `json.Unmarshal` returned and the theorems say that
  exactly that is stored.

FINDING recorded by `C06_int` / `C06_uint_negzero`: for the unsigned kinds the accepted
literals are the in-range integer literals *without a minus sign*; the JSON number `-0`
(which denotes 0) is rejected by `strconv.ParseUint`. The informal property only claims
"accepted only if in range", which holds for all ten kinds (`C06_int_sound`).
-/
import Jsonapi.Proofs.UnmarshalLemmas6
namespace Jsonapi
open GoMap UnmL

/-! ### Integer literals -/

/-- All ten integer kinds: a non-null raw value (not starting with '+', which no JSON number
does) is accepted exactly when it is an integer literal within the range of the kind — and,
for the unsigned kinds, carries no minus sign — and the value stored is the integer denoted. -/
theorem C06_int (a : Attr) (raw : RawVal) (v : GoVal) (k : Kind) (hk : Kind.ofCode? a.ty = some k)
    (hint : k.isInt = true) (hplus : raw.bytes.head? ≠ some 43) (hnn : raw.bytes ≠ sNull) :
    unmarshalToType a raw = .ok v ↔
      ∃ n, Spec.intLit raw.bytes = some n ∧ (∃ lo hi, k.range? = some (lo, hi) ∧ lo ≤ n ∧ n ≤ hi) ∧
        (k.isUnsigned = true → raw.bytes.head? ≠ some 45) ∧ v = mkVal k a.nullable (.i n) := by
  rcases Kind.int_cases k hint with ⟨hs, hu⟩ | ⟨_, hu⟩
  · rw [toType_signed a raw k hnn hk hs]
    cases hp : parseInt k.bits raw.bytes with
    | some n =>
      obtain ⟨h1, h2⟩ := (signed_accept k hs raw.bytes hplus n).1 hp
      simp only [Res.ok.injEq]
      constructor
      · intro e; exact ⟨n, h1, h2, by simp [hu], e.symm⟩
      · rintro ⟨n', h1', _, _, e⟩
        rw [h1] at h1'; cases h1'; exact e.symm
    | none =>
      simp only [false_iff, reduceCtorEq]
      rintro ⟨n, h1, h2, _, _⟩
      rw [(signed_accept k hs raw.bytes hplus n).2 ⟨h1, h2⟩] at hp
      cases hp
  · rw [toType_unsigned a raw k hnn hk hu]
    cases hp : parseUint k.bits raw.bytes with
    | some m =>
      obtain ⟨h1, h2, h3⟩ := (unsigned_accept k hu raw.bytes m).1 ⟨m, hp, rfl⟩
      simp only [Res.ok.injEq]
      constructor
      · intro e; exact ⟨m, h1, h2, fun _ => h3, e.symm⟩
      · rintro ⟨n', h1', _, _, e⟩
        rw [h1] at h1'; cases h1'; exact e.symm
    | none =>
      simp only [false_iff, reduceCtorEq]
      rintro ⟨n, h1, h2, h3, _⟩
      obtain ⟨m, hm, _⟩ := (unsigned_accept k hu raw.bytes n).2 ⟨h1, h2, h3 hu⟩
      rw [hm] at hp; cases hp

/-- The direction the property text claims, for all ten integer kinds with no side
condition on the sign: accepted only if an integer literal in range, stored unchanged. -/
theorem C06_int_sound (a : Attr) (raw : RawVal) (v : GoVal) (k : Kind)
    (hk : Kind.ofCode? a.ty = some k) (hint : k.isInt = true) (hplus : raw.bytes.head? ≠ some 43)
    (hnn : raw.bytes ≠ sNull) (h : unmarshalToType a raw = .ok v) :
    ∃ n, Spec.intLit raw.bytes = some n ∧ (∃ lo hi, k.range? = some (lo, hi) ∧ lo ≤ n ∧ n ≤ hi) ∧
      v = mkVal k a.nullable (.i n) := by
  obtain ⟨n, h1, h2, _, h3⟩ := (C06_int a raw v k hk hint hplus hnn).1 h
  exact ⟨n, h1, h2, h3⟩

/-- Signed kinds: exactly the integer literals in range. -/
theorem C06_int_signed (a : Attr) (raw : RawVal) (v : GoVal) (k : Kind)
    (hk : Kind.ofCode? a.ty = some k) (hs : k.isSigned = true) (hplus : raw.bytes.head? ≠ some 43)
    (hnn : raw.bytes ≠ sNull) :
    unmarshalToType a raw = .ok v ↔
      ∃ n, Spec.intLit raw.bytes = some n ∧ (∃ lo hi, k.range? = some (lo, hi) ∧ lo ≤ n ∧ n ≤ hi) ∧
        v = mkVal k a.nullable (.i n) := by
  have hint : k.isInt = true := by revert hs; cases k <;> decide
  have hu : k.isUnsigned = false := by revert hs; cases k <;> decide
  rw [C06_int a raw v k hk hint hplus hnn]
  constructor
  · rintro ⟨n, h1, h2, _, h3⟩; exact ⟨n, h1, h2, h3⟩
  · rintro ⟨n, h1, h2, h3⟩; exact ⟨n, h1, h2, by simp [hu], h3⟩

/-- The side condition of `C06_int` cannot be dropped: the JSON number `-0` denotes 0, which
is in the range of uint8, and is rejected. -/
theorem C06_uint_negzero :
    let a : Attr := { name := [97], ty := 8, nullable := false }
    let raw : RawVal := { bytes := [45, 48], decStr := none, decTime := none, decBytes := none }
    Kind.ofCode? a.ty = some .uint8 ∧ Spec.intLit raw.bytes = some 0 ∧
    Kind.uint8.range? = some (0, 255) ∧ unmarshalToType a raw = .err := by decide +kernel

theorem C06_null (a : Attr) (raw : RawVal) (v : GoVal) (h : raw.bytes = sNull) :
    (unmarshalToType a raw = .ok v ↔ a.nullable = true ∧ v = a.zero) ∧
    (∀ k, Kind.ofCode? a.ty = some k → a.nullable = true → a.zero = .ptr k none) := by
  constructor
  · rw [toType_null a raw h]
    by_cases hn : a.nullable = true
    · simp only [hn, if_true, Res.ok.injEq, true_and]
      exact ⟨fun e => e.symm, fun e => e.symm⟩
    · simp [hn]
  · intro k hk hn
    simp [Attr.zero, hk, GoVal.zero, hn]

/-! ### Delegated decodes and booleans -/

theorem C06_string (a : Attr) (raw : RawVal) (v : GoVal) (hk : Kind.ofCode? a.ty = some .string)
    (hnn : raw.bytes ≠ sNull) :
    unmarshalToType a raw = .ok v ↔
      ∃ s, raw.decStr = some s ∧ v = mkVal .string a.nullable (.s s) := by
  rw [toType_string a raw hnn hk]
  cases raw.decStr with
  | none => simp
  | some s => simp only [Res.ok.injEq, Option.some.injEq, exists_eq_left']; exact eq_comm

theorem C06_time (a : Attr) (raw : RawVal) (v : GoVal) (hk : Kind.ofCode? a.ty = some .time)
    (hnn : raw.bytes ≠ sNull) :
    unmarshalToType a raw = .ok v ↔
      ∃ t, raw.decTime = some t ∧ v = mkVal .time a.nullable (.t t) := by
  rw [toType_time a raw hnn hk]
  cases raw.decTime with
  | none => simp
  | some s => simp only [Res.ok.injEq, Option.some.injEq, exists_eq_left']; exact eq_comm

/-- Byte strings: the raw value must be a JSON string (first byte '"') that the standard
library decodes (base64) into a byte slice; that slice is stored. -/
theorem C06_bytes (a : Attr) (raw : RawVal) (v : GoVal) (hk : Kind.ofCode? a.ty = some .bytes)
    (hnn : raw.bytes ≠ sNull) :
    unmarshalToType a raw = .ok v ↔
      raw.bytes.head? = some 34 ∧ ∃ b, raw.decBytes = some b ∧ v = mkVal .bytes a.nullable (.bs b) := by
  rw [toType_bytes a raw hnn hk]
  by_cases hq : raw.bytes.head? = some 34
  · simp only [hq, ne_eq, not_true_eq_false, if_false, true_and]
    cases raw.decBytes with
    | none => simp
    | some s => simp only [Res.ok.injEq, Option.some.injEq, exists_eq_left']; exact eq_comm
  · simp [hq]

theorem C06_bool (a : Attr) (raw : RawVal) (v : GoVal) (hk : Kind.ofCode? a.ty = some .bool)
    (hnn : raw.bytes ≠ sNull) :
    unmarshalToType a raw = .ok v ↔
      (raw.bytes = sTrue ∧ v = mkVal .bool a.nullable (.b true)) ∨
      (raw.bytes = sFalse ∧ v = mkVal .bool a.nullable (.b false)) := by
  rw [toType_bool a raw hnn hk]
  by_cases h1 : raw.bytes = sTrue
  · have h2 : raw.bytes ≠ sFalse := by rw [h1]; decide
    simp only [h1, if_true, Res.ok.injEq, true_and]
    constructor
    · intro e; exact .inl e.symm
    · rintro (e | ⟨e, _⟩)
      · exact e.symm
      · exact absurd e (by decide)
  · by_cases h2 : raw.bytes = sFalse
    · have h3 : ¬ sFalse = sTrue := by decide
      rw [h2]
      simp only [h3, if_false, if_true, Res.ok.injEq, false_and, false_or, true_and]
      exact eq_comm
    · simp [h1, h2]

/-- Distinct decoded payloads are stored as distinct values ("decode to the same value"). -/
theorem C06_mkVal_inj (k : Kind) (n : Bool) (p q : Pay) (h : mkVal k n p = mkVal k n q) : p = q :=
  mkVal_inj h

/-! ### Relationships -/

/-- A relationship object without data member sets nothing and is accepted. -/
theorem C06_rel_absent (rel : Rel) (v : RelRaw) (h : v.present = false) :
    relValue rel v = (none, false) := relValue_absent rel v h

/-- To-one, data present: accepted exactly when the data decodes into an identifier whose
type is the relationship's target type (not checked for `null`); the ID set is the decoded ID. -/
theorem C06_rel_toOne (rel : Rel) (v : RelRaw) (hp : v.present = true) (ho : rel.toOne = true) :
    ((relValue rel v).2 = false ↔
      ∃ id ty, v.decIdent = some (id, ty) ∧ (v.isNull = true ∨ ty = rel.toType)) ∧
    (∀ id ty, v.decIdent = some (id, ty) → (relValue rel v).1 = some (.val .string (.s id))) := by
  unfold relValue
  simp only [hp, Bool.not_true, Bool.false_eq_true, if_false, ho, if_true]
  cases hd : v.decIdent with
  | none => simp
  | some p =>
    obtain ⟨id, ty⟩ := p
    simp only [Option.some.injEq, Prod.mk.injEq]
    constructor
    · cases v.isNull <;> simp
    · rintro id' ty' ⟨rfl, rfl⟩; rfl

/-- To-many, data present: accepted exactly when the data decodes into identifiers that all
have the target type; the IDs set are exactly the decoded IDs, in order, repeats kept. -/
theorem C06_rel_toMany (rel : Rel) (v : RelRaw) (hp : v.present = true) (ho : rel.toOne = false) :
    ((relValue rel v).2 = false ↔ ∃ l, v.decIdents = some l ∧ ∀ p ∈ l, p.2 = rel.toType) ∧
    (∀ l, v.decIdents = some l → (relValue rel v).1 = some (.strs (l.map (·.1)))) := by
  unfold relValue
  simp only [hp, Bool.not_true, Bool.false_eq_true, if_false, ho]
  cases hd : v.decIdents with
  | none => simp
  | some l =>
    simp only [Option.some.injEq, exists_eq_left']
    constructor
    · rw [Bool.eq_false_iff]
      simp [List.any_eq_true]
    · rintro l' rfl; rfl

/-! ### The accepted resource: present fields hold the decoded values, absent fields
their zero value, the ID is the payload's -/

theorem C06_stored (σ : SSchema) (hσ : σ.WF) (sk : ResSke) (r : AnyRes)
    (hA : sk.attrs.keys.Nodup) (hR : sk.rels.keys.Nodup)
    (h : unmarshalResource σ sk = .ok r) :
    ∃ st ∈ σ, st.typ.name = sk.typ ∧ ∃ v, r.view? = some v ∧ v.typeName = st.typ.name ∧ v.id = sk.id ∧
      -- attributes present in the payload: the value `unmarshalToType` gave
      (∀ key raw, sk.attrs.get? key = some raw → ∃ a x, st.typ.attrs.get? key = some a ∧
        unmarshalToType a raw = .ok x ∧ Spec.canon (v.get key) = Spec.canon x) ∧
      -- relationships present in the payload: accepted, and with a data member exactly its value
      (∀ key rv, sk.rels.get? key = some rv → ∃ rel, st.typ.rels.get? key = some rel ∧
        (relValue rel rv).2 = false ∧
        (rv.present = true → (relValue rel rv).1 = some (v.get key))) ∧
      -- every other field of the type: its zero value
      (∀ f ∈ st.typ.attrs.keys ++ st.typ.rels.keys, sk.attrs.has f = false →
        (∀ rv, sk.rels.get? f = some rv → rv.present = false) →
        Spec.canon (v.get f) = Spec.zeroOf st.typ f) := by
  obtain ⟨st, hg, okA, okR, _, inv⟩ := ((resource_spec hσ sk).2 r).1 h
  obtain ⟨hm, hname⟩ := getType_some hg
  obtain ⟨_, h2, h3, _⟩ := hσ.2 st hm
  obtain ⟨v, hv, e1, e2, e3, _, e5⟩ := inv.conforms h2 h3 (fullHist_ok h2 h3 sk)
  obtain ⟨r1, r2, r3⟩ := fullHist_reads h2 h3 sk hA hR okA okR
  refine ⟨st, hm, hname, v, hv, e1, by rw [e2, specId_fullHist h2 h3], ?_, ?_, ?_⟩
  · intro key raw hkr
    obtain ⟨a, x, ha, hx, hs⟩ := r1 key raw hkr
    have hf : key ∈ st.typ.fieldKeys := List.mem_append_left _ (mem_keys_of_get? ha)
    exact ⟨a, x, ha, hx, (e3 key hf).trans hs⟩
  · intro key rv hkr
    obtain ⟨rel, hr, hbad, hpres⟩ := r2 key rv hkr
    refine ⟨rel, hr, hbad, fun hp => ?_⟩
    obtain ⟨x, hx, hs⟩ := hpres hp
    have hf : key ∈ st.typ.fieldKeys := List.mem_append_right _ (mem_keys_of_get? hr)
    have hc := (e3 key hf).trans hs
    rw [hx]
    congr 1
    have ht := relValue_typed rel rv x hx
    split at ht
    · obtain ⟨id, rfl⟩ := ht; exact (canon_eq_string hc).symm
    · obtain ⟨l, rfl⟩ := ht; exact (canon_eq_strs hc).symm
  · intro f hf hna hnr
    rw [e3 f hf]
    exact r3 f hna hnr (namesOk_mem h3 hf).1

/-! ### The per-kind parse calls of `Attr.unmarshalToType`, read from the source (T1) -/

/-- the name of the kind's constant in type.go -/
def Kind.constName : Kind → String
  | .string => "AttrTypeString" | .int => "AttrTypeInt" | .int8 => "AttrTypeInt8" | .int16 => "AttrTypeInt16"
  | .int32 => "AttrTypeInt32" | .int64 => "AttrTypeInt64" | .uint => "AttrTypeUint" | .uint8 => "AttrTypeUint8"
  | .uint16 => "AttrTypeUint16" | .uint32 => "AttrTypeUint32" | .uint64 => "AttrTypeUint64" | .bool => "AttrTypeBool"
  | .time => "AttrTypeTime" | .bytes => "AttrTypeBytes"

/-- What the model of `unmarshalToType` assumes the clause of a kind does: which parser it
calls, with which bit size, and which narrowing conversion it applies - in terms of the
model's own `Kind.isSigned`, `Kind.isUnsigned` and `Kind.bits` (`strconv.Atoi` is
`ParseInt(s, 10, 0)`: the 64 bits of `int`). -/
def C06_expectedParse (k : Kind) : String × Nat × List String :=
  if k.isSigned then
    (if k.bits = 64 then ("strconv.Atoi", 0, if k = .int then [] else [k.goName])
     else ("strconv.ParseInt", k.bits, [k.goName]))
  else if k.isUnsigned then ("strconv.ParseUint", k.bits, if k = .uint64 then [] else [k.goName])
  else if k = .bool then ("", 0, [])
  else ("json.Unmarshal", 0, [])

/-- The clause of every kind in the CURRENT source of `Attr.unmarshalToType` (regenerated
`Facts.unmarshalParse`) calls the parser, with the bit size, and applies the conversion the
model assumes - for all fourteen kinds, so `parseInt k.bits` / `parseUint k.bits` in the
model are the source's `ParseInt(…, 10, bits)` / `ParseUint(…, 10, bits)`. -/
theorem C06_parse_facts (k : Kind) :
    Facts.unmarshalParse.lookup k.constName = some (C06_expectedParse k) := by
  have h : ∀ k ∈ Kind.all, Facts.unmarshalParse.lookup k.constName = some (C06_expectedParse k) := by
    decide +kernel
  exact h k (Kind.mem_all k)

/-- and the switch has a clause for each of the fourteen kinds (plus `default`) -/
theorem C06_parse_cases :
    Facts.unmarshalToTypeCases = Kind.all.map Kind.constName ∧
    Facts.unmarshalParse.map (·.1) = Kind.all.map Kind.constName ++ ["default"] := ⟨rfl, rfl⟩

/-! ### Re-marshaling the linkage, and the known finding C06-toone-empty-id -/

/-- An accepted, present, non-null to-one linkage whose id is not empty re-marshals (data
requested) as exactly the payload's identifier: the relationship's target type and that id. -/
theorem C06_remarshal_toOne (rel : Rel) (rv : RelRaw) (id : GoString) (r : ResView) (prepath : GoString)
    (h1 : rel.toOne = true) (hp : rv.present = true) (hn : rv.isNull = false)
    (hv : relValue rel rv = (some (.val .string (.s id)), false)) (hid : id ≠ [])
    (hget : r.get rel.fromName = .val .string (.s id)) :
    rv.decIdent = some (id, rel.toType) ∧
    marshalRel r prepath rel true =
      .ok (.obj [(K.data, identifierJson id rel.toType), (K.links, buildRelationshipLinks r prepath rel.fromName)], none) := by
  constructor
  · unfold relValue at hv
    simp only [hp, h1, hn] at hv
    cases hd : rv.decIdent with
    | none => simp [hd] at hv
    | some p =>
      obtain ⟨i, t⟩ := p
      simp [hd] at hv
      obtain ⟨rfl, ht⟩ := hv
      simp [ht]
  · simp [marshalRel, h1, hget, hid]

/-- An accepted to-many linkage re-marshals (data requested) as the listed IDs, sorted, each
with the relationship's target type. -/
theorem C06_remarshal_toMany (rel : Rel) (ids : List GoString) (r : ResView) (prepath : GoString)
    (h1 : rel.toOne = false) (hget : r.get rel.fromName = .strs ids) :
    marshalRel r prepath rel true =
      .ok (.obj [(K.data, .arr ((Typ.sortStrings ids).map (fun id => identifierJson id rel.toType))),
                 (K.links, buildRelationshipLinks r prepath rel.fromName)], some (Typ.sortStrings ids)) := by
  simp [marshalRel, h1, hget]

/-- Known finding (pinned by TestUnmarshalPartialResource): a to-one linkage identifier
without id, or with the empty id, carrying the target type is accepted - the relationship is
set to the empty string and no error is returned - and an empty to-one re-marshals as `null`,
not as the payload's identifier. -/
theorem C06_known_toOne_empty_id (rel : Rel) (r : ResView) (prepath : GoString) (h1 : rel.toOne = true)
    (hget : r.get rel.fromName = .val .string (.s [])) :
    relValue rel { present := true, isNull := false, decIdent := some ([], rel.toType), decIdents := none }
      = (some (.val .string (.s [])), false) ∧
    marshalRel r prepath rel true =
      .ok (.obj [(K.data, .null), (K.links, buildRelationshipLinks r prepath rel.fromName)], none) := by
  constructor
  · simp [relValue, h1]
  · simp [marshalRel, h1, hget]

/-! ### Non-vacuity -/

/-- int8: "-128" accepted and stored as -128; "128", "1e2", "+1" rejected; null rejected for
the non-nullable attribute, stored as typed nil for the nullable one. -/
example :
    let a : Attr := { name := [97], ty := 3, nullable := false }
    let an : Attr := { name := [97], ty := 3, nullable := true }
    let raw (b : GoString) : RawVal := { bytes := b, decStr := none, decTime := none, decBytes := none }
    Spec.intLit [45, 49, 50, 56] = some (-128) ∧
    unmarshalToType a (raw [45, 49, 50, 56]) = .ok (.val .int8 (.i (-128))) ∧
    unmarshalToType an (raw [45, 49, 50, 56]) = .ok (.ptr .int8 (some (.i (-128)))) ∧
    unmarshalToType a (raw [49, 50, 56]) = .err ∧
    unmarshalToType a (raw [49, 101, 50]) = .err ∧
    unmarshalToType a (raw sNull) = .err ∧
    unmarshalToType an (raw sNull) = .ok (.ptr .int8 none) := by decide +kernel

/-- The hypotheses of `C06_int` are satisfiable (int8, "-128"). -/
example := (C06_int { name := [97], ty := 3, nullable := false }
  { bytes := [45, 49, 50, 56], decStr := none, decTime := none, decBytes := none }
  (.val .int8 (.i (-128))) .int8 (by decide) (by decide) (by decide) (by decide)).2
  ⟨-128, by decide, ⟨-128, 127, by decide, by decide, by decide⟩, by decide, by decide⟩

end Jsonapi

section Axioms
open Jsonapi
#print axioms C06_int
#print axioms C06_int_sound
#print axioms C06_int_signed
#print axioms C06_uint_negzero
#print axioms C06_null
#print axioms C06_string
#print axioms C06_time
#print axioms C06_bytes
#print axioms C06_bool
#print axioms C06_mkVal_inj
#print axioms C06_rel_absent
#print axioms C06_rel_toOne
#print axioms C06_rel_toMany
#print axioms C06_stored
#print axioms C06_parse_facts
#print axioms C06_parse_cases
#print axioms C06_remarshal_toOne
#print axioms C06_remarshal_toMany
#print axioms C06_known_toOne_empty_id
end Axioms
