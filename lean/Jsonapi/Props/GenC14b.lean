/-
T1b for the schema editing API (C14's state machine): the receiver-mutating methods
`Type.AddAttr/RemoveAttr/AddRel/RemoveRel` and `Schema.AddType/RemoveType/AddAttr/RemoveAttr/
AddRel/RemoveRel/AddTwoWayRel`, translated from type.go / schema.go with the receiver
threaded through as a value (harness/cmd/translate, "state threading"), are the
hand-written model's functions of Model/Schema.lean - for every input.

Correspondence: a `*Type` / `*Schema` receiver is the model's `Typ` / `Schema` value before the
call, the first component of the result is its value after the call, the second the returned
error (`Res.ok ()` for nil). An `Attr` of the code with `Type = k >= 0` is the model's `Attr`
with `ty = k` (the translation reads the kind as `Int.ofNat a.ty`; `Gen_GetAttrTypeString_nonEmpty`
of GenC14 relates the validity test on that integer to the model's `1 <= ty <= 14`).

All equalities but the last hold with no hypothesis on the state (in particular not the
key = name invariant `TypWF`: the code and the model both look names up in the VALUES of the
maps). `AddTwoWayRel` remembers the index of the LAST type of each name where the model updates
the types of that name; the two agree on schemas whose type names are unique - the first
component of C14's invariant `Inv`, stated as the hypothesis `hnd` - and differ otherwise
(`Gen_Schema_AddTwoWayRel_differs_without_unique_names`).
-/
import Jsonapi.Generated.Funcs
import Jsonapi.Props.GenC14
import Jsonapi.Props.GenC16
import Jsonapi.Proofs.GenC14bLemmas
namespace Jsonapi
open Schema GoMap

theorem Gen_Type_AddAttr_eq (t : Typ) (a : Attr) : Gen.Type_AddAttr t a = t.addAttr a := by
  unfold Gen.Type_AddAttr Typ.addAttr Typ.attrNameUsed Typ.relNameUsed
  rw [Gen_GetAttrTypeString_nonEmpty]
  simp only [Int.ofNat_eq_natCast, decide_eq_true_eq, Bool.not_eq_true', decide_eq_false_iff_not, ne_eq,
    Decidable.not_not]

theorem Gen_Type_AddRel_eq (t : Typ) (r : Rel) : Gen.Type_AddRel t r = t.addRel r := by
  unfold Gen.Type_AddRel Typ.addRel Typ.attrNameUsed Typ.relNameUsed
  simp only [decide_eq_true_eq]

theorem Gen_Type_RemoveAttr_eq (t : Typ) (n : GoString) : Gen.Type_RemoveAttr t n = t.removeAttr n :=
  GenC14b.delLoop (fun t : Typ => t.attrs) (fun t m => { t with attrs := m }) (fun _ _ => rfl) (fun _ _ _ => rfl)
    (fun a => decide (a.name = n)) n t.attrs t (fun _ he => he)

theorem Gen_Type_RemoveRel_eq (t : Typ) (n : GoString) : Gen.Type_RemoveRel t n = t.removeRel n :=
  GenC14b.delLoop (fun t : Typ => t.rels) (fun t m => { t with rels := m }) (fun _ _ => rfl) (fun _ _ _ => rfl)
    (fun a => decide (a.fromName = n)) n t.rels t (fun _ he => he)

theorem Gen_Schema_AddType_eq (s : Schema) (t : Typ) : Gen.Schema_AddType s t = s.addType t := by
  unfold Gen.Schema_AddType Schema.addType Schema.hasType
  simp only [decide_eq_true_eq]

theorem Gen_Schema_RemoveType_eq (s : Schema) (n : GoString) : Gen.Schema_RemoveType s n = s.removeType n := by
  unfold Gen.Schema_RemoveType Schema.removeType
  rw [GenC14b.find?_range_getD (fun t : Typ => decide (t.name = n)), GenC14b.eraseFirst_eq_findIdx?]
  cases s.types.findIdx? _ <;> rfl

theorem Gen_Schema_AddAttr_eq (s : Schema) (n : GoString) (a : Attr) : Gen.Schema_AddAttr s n a = s.addAttr n a := by
  unfold Gen.Schema_AddAttr Schema.addAttr
  rw [GenC14b.find?_range_getD (fun t : Typ => decide (t.name = n)), updFirst_eq_findIdx?]
  cases s.types.findIdx? _
  · rfl
  · simp only [Gen_Type_AddAttr_eq]

theorem Gen_Schema_AddRel_eq (s : Schema) (n : GoString) (r : Rel) : Gen.Schema_AddRel s n r = s.addRel n r := by
  unfold Gen.Schema_AddRel Schema.addRel
  rw [GenC14b.find?_range_getD (fun t : Typ => decide (t.name = n)), updFirst_eq_findIdx?]
  cases s.types.findIdx? _
  · rfl
  · simp only [Gen_Type_AddRel_eq]

theorem Gen_Schema_RemoveAttr_eq (s : Schema) (n a : GoString) : Gen.Schema_RemoveAttr s n a = s.removeAttr n a := by
  unfold Gen.Schema_RemoveAttr Schema.removeAttr Schema.updAll
  simpa only [Gen_Type_RemoveAttr_eq, decide_eq_true_eq, List.range_eq_range', List.nil_append, List.length_nil] using
    GenC14b.foldRange (fun t : Typ => decide (t.name = n)) (fun t => Gen.Type_RemoveAttr t a) s.types []

theorem Gen_Schema_RemoveRel_eq (s : Schema) (n a : GoString) : Gen.Schema_RemoveRel s n a = s.removeRel n a := by
  unfold Gen.Schema_RemoveRel Schema.removeRel Schema.updAll
  simpa only [Gen_Type_RemoveRel_eq, decide_eq_true_eq, List.range_eq_range', List.nil_append, List.length_nil] using
    GenC14b.foldRange (fun t : Typ => decide (t.name = n)) (fun t => Gen.Type_RemoveRel t a) s.types []

/-- `Schema.AddTwoWayRel` on EVERY schema: its loop leaves in each index variable the last index
of a type of that name (or -1), and the rest of the function is `GenC14b.twoWayAt` of the two. -/
theorem Gen_Schema_AddTwoWayRel_at (s : Schema) (r : Rel) :
    Gen.Schema_AddTwoWayRel s r = GenC14b.twoWayAt Typ.addRel Typ.removeRel s
      (GenC14b.idx s.types r.normalize.fromType) (GenC14b.idx s.types r.normalize.invert.fromType)
      r.normalize r.normalize.invert := by
  rw [← Gen_Rel_Normalize_eq, ← funext fun t => funext (Gen_Type_AddRel_eq t),
    ← funext fun t => funext (Gen_Type_RemoveRel_eq t)]
  unfold Gen.Schema_AddTwoWayRel
  extract_lets rel1 rel2 i0
  generalize hp : List.foldl _ _ (List.range s.types.length) = p
  have hp' : p = (GenC14b.idx s.types rel1.fromType, GenC14b.idx s.types rel2.fromType) := by
    refine hp.symm.trans (GenC14b.foldl_prod _ _ _ (fun a b i => ?_) _ _ _)
    dsimp only
    generalize decide ((s.types.getD i Typ.empty).name = rel1.fromType) = c1
    generalize decide ((s.types.getD i Typ.empty).name = rel2.fromType) = c2
    cases c1 <;> cases c2 <;> rfl
  refine Eq.trans (b := GenC14b.twoWayAt Gen.Type_AddRel Gen.Type_RemoveRel s p.1 p.2 rel1 rel2) ?_ (by rw [hp']; rfl)
  -- both sides test `0 ≤ i`, which evaluates once `i` is a constructor of `Int`
  obtain ⟨i, j⟩ := p
  cases i <;> cases j <;> rfl

/-- `Schema.AddTwoWayRel`. `hnd`: the type names of the schema are pairwise distinct (the first
component of C14's invariant `Inv`; every schema built through the API has it, `AddType` refuses
a second type of the same name). -/
theorem Gen_Schema_AddTwoWayRel_eq (s : Schema) (hnd : (s.types.map (·.name)).Nodup) (r : Rel) :
    Gen.Schema_AddTwoWayRel s r = s.addTwoWayRel r :=
  (Gen_Schema_AddTwoWayRel_at s r).trans (GenC14b.twoWayAt_idx s hnd r)

/-- Without unique type names the code and the model part: with two types named "a" the code
adds the relationship to the LAST one only (the index it remembered), the model to both. Such a
schema cannot be built through the API; the translation is the ground truth for it. -/
theorem Gen_Schema_AddTwoWayRel_differs_without_unique_names :
    let a : Typ := { name := [97], attrs := [], rels := [] }
    let b : Typ := { name := [98], attrs := [], rels := [] }
    let s : Schema := { types := [a, a, b] }
    let r : Rel := { fromType := [97], fromName := [120], toOne := true, toType := [98], toName := [121], fromOne := true }
    Gen.Schema_AddTwoWayRel s r ≠ s.addTwoWayRel r ∧
    (Gen.Schema_AddTwoWayRel s r).2 = .ok () ∧ (s.addTwoWayRel r).2 = .ok () ∧
    ((Gen.Schema_AddTwoWayRel s r).1.types.map (fun t => t.rels.length)) = [0, 1, 1] ∧
    ((s.addTwoWayRel r).1.types.map (fun t => t.rels.length)) = [1, 1, 1] := by
  decide +kernel

end Jsonapi

section Axioms
open Jsonapi
#print axioms Gen_Type_AddAttr_eq
#print axioms Gen_Type_RemoveAttr_eq
#print axioms Gen_Type_AddRel_eq
#print axioms Gen_Type_RemoveRel_eq
#print axioms Gen_Schema_AddType_eq
#print axioms Gen_Schema_RemoveType_eq
#print axioms Gen_Schema_AddAttr_eq
#print axioms Gen_Schema_RemoveAttr_eq
#print axioms Gen_Schema_AddRel_eq
#print axioms Gen_Schema_RemoveRel_eq
#print axioms Gen_Schema_AddTwoWayRel_eq
#print axioms Gen_Schema_AddTwoWayRel_differs_without_unique_names
end Axioms
