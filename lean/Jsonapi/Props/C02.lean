/-
C02 — Marshaling a document and unmarshaling it again yields the same document.

"For every document whose primary data is null, a resource, a collection, an identifier or a
list of identifiers, marshaling it and unmarshaling the bytes against the same schema yields a
document with the same kind of primary data - the same resources in the same order with the
same types, IDs and selected field values - the same included resources and JSON-equal
top-level meta. A document carrying errors comes back with the same error objects in the same
order and without data."

How the pieces fit (as for C01):
* the marshaling side is the JSON tree `Spec.documentTree` (C04_document: the model's
  `marshalDocument` returns exactly that tree when every resource is `keyedWf`);
* `Spec.docSkeletonOf c t` is the payload skeleton `encoding/json` decodes from the tree `t`
  (`data` absent / null / object / array; error objects through `Spec.errorOfJson`; for every
  included value whether it decodes into an Identifier, and its resource skeleton; the meta
  members), with the delegated decoders `c : Spec.Codecs` of C01;
* the unmarshaling side is the model's `unmarshalDocument` on that skeleton.

What comes back for one resource is the round trip of C01 for an arbitrary selection
(`C01_roundtrip_selection`): `RtL.ResBack` (unfolded in `C02_ResBack_def`) — same type name and
ID; the attributes selected by the URL's `fields` entry of the resource's type and the selected
relationships whose data the document requests come back with the same value (`Spec.sameVal`);
every other field reads its zero value. An identifier comes back as a resource of its type
with that ID and all fields zero (`RtL.IdentBack`): the library has no other representation
for it on the unmarshaling side.

Domain (`RtL.DocDom`, unfolded in `C02_DocDom_def`): every resource of the document, primary or
included, is a resource of some type of the schema in the domain of C01; the types named by
identifiers exist in the schema. Error objects: the `links` map is represented with its keys
in ascending order (`Spec.linksSorted`; a Go map has no order, reading back produces this one).
-/
import Jsonapi.Proofs.RoundTripDocLemmas
import Jsonapi.Props.C01
namespace Jsonapi
open GoMap UnmL MarshalL RtL

/-! ### Definitions used in the statements -/

theorem C02_ResBack_def (σ : SSchema) (fields relData : GoMap (List GoString)) (r : ResView)
    (x : AnyRes) :
    ResBack σ fields relData r x ↔
      ∃ st ∈ σ, st.typ.name = r.typeName ∧ ∃ v', x.view? = some v' ∧
        v'.typeName = r.typeName ∧ v'.id = r.id ∧
        (∀ f ∈ r.attrs.keys, f ∈ Spec.selection fields r.typeName → Spec.sameVal (v'.get f) (r.get f)) ∧
        (∀ f ∈ r.rels.keys, f ∈ Spec.selection fields r.typeName →
          f ∈ (relData.get? r.typeName).getD [] → Spec.sameVal (v'.get f) (r.get f)) ∧
        (∀ f ∈ r.attrs.keys ++ r.rels.keys,
          (f ∉ Spec.selection fields r.typeName ∨
            (f ∈ r.rels.keys ∧ f ∉ (relData.get? r.typeName).getD [])) →
          Spec.canon (v'.get f) = Spec.zeroOf st.typ f) :=
  Iff.rfl

theorem C02_IdentBack_def (σ : SSchema) (id typ : GoString) (x : AnyRes) :
    IdentBack σ id typ x ↔
      ∃ st ∈ σ, st.typ.name = typ ∧ ∃ v, x.view? = some v ∧ v.typeName = typ ∧ v.id = id ∧
        ∀ f ∈ st.typ.attrs.keys ++ st.typ.rels.keys, Spec.canon (v.get f) = Spec.zeroOf st.typ f :=
  Iff.rfl

theorem C02_DocDom_def (c : Spec.Codecs) (σ : SSchema) (doc : Document) :
    DocDom c σ doc ↔
      (∀ r ∈ docResources doc, ∃ st ∈ σ, ResDom c st r) ∧
      (∀ id typ, doc.data = .ident id typ → ∃ st ∈ σ, st.typ.name = typ) ∧
      (∀ b l, doc.data = .idents b l → ∀ p ∈ l, ∃ st ∈ σ, st.typ.name = p.2) :=
  ⟨fun h => ⟨h.res, h.ident, h.idents⟩, fun ⟨h1, h2, h3⟩ => ⟨h1, h2, h3⟩⟩

theorem C02_docResources_def (doc : Document) :
    docResources doc =
      (match doc.data with | .res r => [r] | .col _ ms => ms | _ => []) ++ doc.included := by
  unfold docResources docPrimary
  cases doc.data <;> rfl

/-! ### 1. Error documents -/

/-- `Spec.errorOfJson` inverts `Error.MarshalJSON` (every member, empty members omitted and
read back as empty; the links map in ascending key order). -/
theorem C02_error_object (e : ErrorObj) (hs : Spec.linksSorted e) :
    Spec.errorOfJson e.toJson = e :=
  errorOfJson_toJson e hs

/-- A document carrying errors comes back with the same error objects in the same order,
without data (and without included resources); its meta comes back too. No hypothesis on the
schema or on the document's data / included resources (they are not marshaled). -/
theorem C02_errors (c : Spec.Codecs) (σ : SSchema) (doc : Document) (fields : GoMap (List GoString))
    (selfHref : GoString) (t : Json) (ht : Spec.documentTree doc fields selfHref = some t)
    (he : doc.errors ≠ []) (hs : ∀ e ∈ doc.errors, Spec.linksSorted e) :
    unmarshalDocument σ (some (Spec.docSkeletonOf c t)) =
      .ok { data := .none, included := [], errors := doc.errors, dmeta := doc.dmeta } :=
  errors_roundtrip c σ ht he hs

/-! ### 2. Top-level meta -/

/-- Whatever else the document holds: if the marshaled document is accepted, its top-level
meta members are the document's, unchanged and in the same order. -/
theorem C02_meta (c : Spec.Codecs) (σ : SSchema) (doc : Document) (fields : GoMap (List GoString))
    (selfHref : GoString) (t : Json) (ht : Spec.documentTree doc fields selfHref = some t)
    (d : UDoc) (h : unmarshalDocument σ (some (Spec.docSkeletonOf c t)) = .ok d) :
    d.dmeta = doc.dmeta := by
  rw [(unmarshalDocument_ok h).2.1]
  exact docSke_dmeta c ht

/-! ### 3. Data documents -/

/-- The whole round trip of a document without errors: it is accepted; the primary data comes
back with the same kind (`RtL.DataBack`, spelled out in `C02_data_kind`); the included
resources come back as the round trips of `sortById doc.included`, in that order; no errors;
the same meta. -/
theorem C02_roundtrip (c : Spec.Codecs) (σ : SSchema) (hσ : σ.WF) (doc : Document)
    (hdom : DocDom c σ doc) (he : doc.errors = []) (fields : GoMap (List GoString))
    (selfHref : GoString) (t : Json) (ht : Spec.documentTree doc fields selfHref = some t) :
    ∃ d, unmarshalDocument σ (some (Spec.docSkeletonOf c t)) = .ok d ∧
      DataBack σ fields doc.relData doc.data d.data ∧
      Forall2 (ResBack σ fields doc.relData) (sortById doc.included) d.included ∧
      d.errors = [] ∧ d.dmeta = doc.dmeta :=
  document_roundtrip c σ hσ doc hdom he fields selfHref t ht

/-- The same kind of primary data: null ↦ no data; a resource ↦ that resource; a collection ↦
a collection of the same length whose members are the round trips of the members, in order;
an identifier ↦ an empty resource with that type and ID; identifiers ↦ a collection of such. -/
theorem C02_data_kind (c : Spec.Codecs) (σ : SSchema) (hσ : σ.WF) (doc : Document)
    (hdom : DocDom c σ doc) (he : doc.errors = []) (fields : GoMap (List GoString))
    (selfHref : GoString) (t : Json) (ht : Spec.documentTree doc fields selfHref = some t) :
    ∃ d, unmarshalDocument σ (some (Spec.docSkeletonOf c t)) = .ok d ∧ d.errors = [] ∧
      (doc.data = .none → d.data = .none) ∧
      (∀ r, doc.data = .res r → ∃ x, d.data = .res x ∧ ResBack σ fields doc.relData r x) ∧
      (∀ tn ms, doc.data = .col tn ms → ∃ xs, d.data = .col xs ∧ xs.length = ms.length ∧
        Forall2 (ResBack σ fields doc.relData) ms xs) ∧
      (∀ id typ, doc.data = .ident id typ → ∃ x, d.data = .res x ∧ IdentBack σ id typ x) ∧
      (∀ b l, doc.data = .idents b l → ∃ xs, d.data = .col xs ∧ xs.length = l.length ∧
        Forall2 (fun p x => IdentBack σ p.1 p.2 x) l xs) := by
  obtain ⟨d, h1, h2, -, h4, -⟩ := C02_roundtrip c σ hσ doc hdom he fields selfHref t ht
  refine ⟨d, h1, h4, ?_, ?_, ?_, ?_, ?_⟩
  · intro e
    rw [e] at h2
    cases hd : d.data <;> rw [hd] at h2 <;> first | rfl | exact absurd h2 (fun h => h)
  · intro r e
    rw [e] at h2
    cases hd : d.data <;> rw [hd] at h2 <;> first | exact ⟨_, rfl, h2⟩ | exact absurd h2 (fun h => h)
  · intro tn ms e
    rw [e] at h2
    cases hd : d.data <;> rw [hd] at h2 <;>
      first | exact ⟨_, rfl, h2.length_eq.symm, h2⟩ | exact absurd h2 (fun h => h)
  · intro id typ e
    rw [e] at h2
    cases hd : d.data <;> rw [hd] at h2 <;> first | exact ⟨_, rfl, h2⟩ | exact absurd h2 (fun h => h)
  · intro b l e
    rw [e] at h2
    cases hd : d.data <;> rw [hd] at h2 <;>
      first | exact ⟨_, rfl, h2.length_eq.symm, h2⟩ | exact absurd h2 (fun h => h)

/-- The included resources come back as the element-wise round trips of the included
resources in the order they are written (`sortById`: by ID), as many as were included. -/
theorem C02_included (c : Spec.Codecs) (σ : SSchema) (hσ : σ.WF) (doc : Document)
    (hdom : DocDom c σ doc) (he : doc.errors = []) (fields : GoMap (List GoString))
    (selfHref : GoString) (t : Json) (ht : Spec.documentTree doc fields selfHref = some t) :
    ∃ d, unmarshalDocument σ (some (Spec.docSkeletonOf c t)) = .ok d ∧
      d.included.length = doc.included.length ∧
      Forall2 (ResBack σ fields doc.relData) (sortById doc.included) d.included := by
  obtain ⟨d, h1, -, h3, -, -⟩ := C02_roundtrip c σ hσ doc hdom he fields selfHref t ht
  exact ⟨d, h1, by rw [← h3.length_eq, (sortById_perm _).length_eq], h3⟩

/-- the specification's tree exists unless the data is of no kind the library marshals -/
theorem C02_tree_exists (doc : Document) (hdata : doc.data ≠ .other) (fields : GoMap (List GoString))
    (selfHref : GoString) : ∃ t, Spec.documentTree doc fields selfHref = some t := by
  unfold Spec.documentTree
  split
  · rename_i hm
    cases hd : doc.data <;> rw [hd] at hm <;> first | exact absurd hd hdata | cases hm
  · exact ⟨_, rfl⟩

/-- Through the model's `MarshalDocument` (C04_document): on the domain it succeeds, and
unmarshaling what it wrote gives the document back. -/
theorem C02_roundtrip_model (c : Spec.Codecs) (σ : SSchema) (hσ : σ.WF) (doc : Document)
    (hdom : DocDom c σ doc) (he : doc.errors = []) (hdata : doc.data ≠ .other)
    (fields : GoMap (List GoString)) (selfHref : GoString) :
    ∃ t doc', marshalDocument doc fields selfHref = .ok (t, doc') ∧
      ∃ d, unmarshalDocument σ (some (Spec.docSkeletonOf c t)) = .ok d ∧
        DataBack σ fields doc.relData doc.data d.data ∧
        Forall2 (ResBack σ fields doc.relData) (sortById doc.included) d.included ∧
        d.errors = [] ∧ d.dmeta = doc.dmeta := by
  have hkw : ∀ r ∈ docResources doc, r.keyedWf := by
    intro r hr
    obtain ⟨st, -, hd⟩ := hdom.res r hr
    exact hd.keyed
  obtain ⟨t, ht⟩ := C02_tree_exists doc hdata fields selfHref
  obtain ⟨doc', hm⟩ := (C04_document doc hkw fields selfHref).2 t ht
  exact ⟨t, doc', hm, C02_roundtrip c σ hσ doc hdom he fields selfHref t ht⟩

/-- and for error documents -/
theorem C02_errors_model (c : Spec.Codecs) (σ : SSchema) (doc : Document)
    (hkw : ∀ r ∈ docResources doc, r.keyedWf) (hdata : doc.data ≠ .other)
    (fields : GoMap (List GoString)) (selfHref : GoString)
    (he : doc.errors ≠ []) (hs : ∀ e ∈ doc.errors, Spec.linksSorted e) :
    ∃ t doc', marshalDocument doc fields selfHref = .ok (t, doc') ∧
      unmarshalDocument σ (some (Spec.docSkeletonOf c t)) =
        .ok { data := .none, included := [], errors := doc.errors, dmeta := doc.dmeta } := by
  obtain ⟨t, ht⟩ := C02_tree_exists doc hdata fields selfHref
  obtain ⟨doc', hm⟩ := (C04_document doc hkw fields selfHref).2 t ht
  exact ⟨t, doc', hm, C02_errors c σ doc fields selfHref t ht he hs⟩

/-! ### Non-vacuity -/

/-- an error object with every member, links keys "a" < "b" -/
def C02_exErr : ErrorObj :=
  { id := [49], code := [50], status := [52, 48, 52], title := [116], detail := [100],
    links := [([97], [120]), ([98], [121])], source := [([112], .str [47])],
    emeta := [([109], .num [49])] }

example : Spec.linksSorted C02_exErr ∧ Spec.errorOfJson C02_exErr.toJson = C02_exErr :=
  ⟨by unfold Spec.linksSorted C02_exErr; decide, C02_error_object _ (by unfold Spec.linksSorted C02_exErr; decide)⟩

/-- an error document (with data and meta set as well: the data is not written) -/
example (c : Spec.Codecs) :
    let doc : Document := { data := .ident [49] [116], errors := [C02_exErr, {}],
                            dmeta := [([109], .num [49])] }
    ∃ t, Spec.documentTree doc [] [47] = some t ∧
      unmarshalDocument C01_exσ (some (Spec.docSkeletonOf c t)) =
        .ok { data := .none, included := [], errors := [C02_exErr, {}], dmeta := [([109], .num [49])] } := by
  intro doc
  have hs : ∀ e ∈ doc.errors, Spec.linksSorted e := by
    intro e he
    have : e = C02_exErr ∨ e = {} := by simpa [doc] using he
    rcases this with rfl | rfl
    · unfold Spec.linksSorted C02_exErr; decide
    · exact List.Pairwise.nil
  cases ht : Spec.documentTree doc [] [47] with
  | none => simp [Spec.documentTree, doc] at ht
  | some t => exact ⟨t, rfl, C02_errors c C01_exσ doc [] [47] t ht (by simp [doc]) hs⟩

/-- A data document in the domain: a collection of a soft and a struct-backed resource, one
included resource, meta; `fields` selects "a" and "m" for type "t" only, relationship data
requested for "m". It is accepted, both members come back in order, the included resource and
the meta come back. -/
example (c : Spec.Codecs) :
    let doc : Document :=
      { data := .col [] [C01_exR [116], C01_exR [119]], included := [C01_exR [116]],
        relData := [([116], [[109]])], dmeta := [([109], .num [49])] }
    let fields : GoMap (List GoString) := [([116], [[97], [109]])]
    ∃ t d xs, Spec.documentTree doc fields [47] = some t ∧
      unmarshalDocument C01_exσ (some (Spec.docSkeletonOf c t)) = .ok d ∧
      d.data = .col xs ∧ xs.length = 2 ∧ d.included.length = 1 ∧ d.dmeta = [([109], .num [49])] := by
  intro doc fields
  have hdom : DocDom c C01_exσ doc := by
    refine ⟨?_, ?_, ?_⟩
    · intro r hr
      have : r = C01_exR [116] ∨ r = C01_exR [119] := by
        simp only [docResources, docPrimary, doc, List.mem_append, List.mem_cons,
          List.not_mem_nil, or_false] at hr
        rcases hr with (h | h) | h
        · exact .inl h
        · exact .inr h
        · exact .inl h
      rcases this with rfl | rfl
      · exact ⟨⟨C01_exT, false⟩, by simp [C01_exσ], C01_exR_dom c ⟨C01_exT, false⟩ (.inl rfl)⟩
      · exact ⟨⟨C01_exW, true⟩, by simp [C01_exσ], C01_exR_dom c ⟨C01_exW, true⟩ (.inr rfl)⟩
    · intro id typ e; simp [doc] at e
    · intro b l e; simp [doc] at e
  cases ht : Spec.documentTree doc fields [47] with
  | none => simp [Spec.documentTree, doc] at ht
  | some t =>
    obtain ⟨d, h1, -, -, -, h3, -, -⟩ :=
      C02_data_kind c C01_exσ C01_exσ_wf doc hdom rfl fields [47] t ht
    obtain ⟨xs, hx, hl, -⟩ := h3 [] _ rfl
    obtain ⟨d', h1', hi, -⟩ := C02_included c C01_exσ C01_exσ_wf doc hdom rfl fields [47] t ht
    rw [h1] at h1'; cases h1'
    exact ⟨t, d, xs, rfl, h1, hx, hl, hi, C02_meta c C01_exσ doc fields [47] t ht d h1⟩

end Jsonapi

section Axioms
open Jsonapi
#print axioms C02_ResBack_def
#print axioms C02_IdentBack_def
#print axioms C02_DocDom_def
#print axioms C02_docResources_def
#print axioms C02_error_object
#print axioms C02_errors
#print axioms C02_meta
#print axioms C02_roundtrip
#print axioms C02_data_kind
#print axioms C02_included
#print axioms C02_roundtrip_model
#print axioms C02_errors_model
end Axioms
