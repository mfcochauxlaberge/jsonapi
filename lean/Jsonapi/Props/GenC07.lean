/-
T1b for C07: `deduceRoute` (simple_url.go), translated from the source on this run, has no
hand-written counterpart: the theorems below are about the translated definition itself.
It is total by construction (`NewSimpleURL` calls it on every path), looks at the first five
fragments only, and gives the documented route patterns on the four URL shapes of JSON:API.
(The translation reads `path[k]` as `getD`: every such read in the source is inside the
matching `len(path) >= k+1` test, so no read is out of range.)
-/
import Jsonapi.Generated.Funcs
namespace Jsonapi

theorem Gen_deduceRoute_nil : Gen.deduceRoute [] = [] := by decide +kernel

theorem Gen_deduceRoute_take5 (p : List GoString) : Gen.deduceRoute p = Gen.deduceRoute (p.take 5) := by
  rcases p with _ | ⟨a, _ | ⟨b, _ | ⟨c, _ | ⟨d, _ | ⟨e, rest⟩⟩⟩⟩⟩
  · rfl
  · rfl
  · rfl
  · rfl
  · rfl
  · have l1 : ∀ k : Int, k ≤ 5 → decide (k ≤ ((a :: b :: c :: d :: e :: rest).length : Int)) = true := by
      intro k hk; simp only [List.length_cons, decide_eq_true_eq]; omega
    have l2 : ∀ k : Int, k ≤ 5 → decide (k ≤ (([a, b, c, d, e] : List GoString).length : Int)) = true := by
      intro k hk; simp only [List.length_cons, List.length_nil, decide_eq_true_eq]; omega
    show Gen.deduceRoute (a :: b :: c :: d :: e :: rest) = Gen.deduceRoute [a, b, c, d, e]
    unfold Gen.deduceRoute
    simp only [l1 1 (by omega), l1 2 (by omega), l1 3 (by omega), l1 4 (by omega), l1 5 (by omega),
      l2 1 (by omega), l2 2 (by omega), l2 3 (by omega), l2 4 (by omega), l2 5 (by omega),
      List.getD_cons_zero, List.getD_cons_succ, if_true]

/-- `/type` -/
theorem Gen_deduceRoute_col (t : GoString) : Gen.deduceRoute [t] = [47] ++ t := by
  simp [Gen.deduceRoute]

/-- `/type/id` -/
theorem Gen_deduceRoute_res (t id : GoString) (h : id ≠ gs "meta") :
    Gen.deduceRoute [t, id] = [47] ++ t ++ gs "/:id" := by
  have h' : id ≠ [109, 101, 116, 97] := h
  simp [Gen.deduceRoute, h']
  decide +kernel

/-- `/type/id/rel` -/
theorem Gen_deduceRoute_related (t id rel : GoString) (h : id ≠ gs "meta")
    (h1 : rel ≠ gs "relationships") (h2 : rel ≠ gs "meta") :
    Gen.deduceRoute [t, id, rel] = [47] ++ t ++ gs "/:id" ++ [47] ++ rel := by
  have h' : id ≠ [109, 101, 116, 97] := h
  have h1' : rel ≠ [114, 101, 108, 97, 116, 105, 111, 110, 115, 104, 105, 112, 115] := h1
  have h2' : rel ≠ [109, 101, 116, 97] := h2
  have e : gs "/:id" = [47, 58, 105, 100] := by decide +kernel
  simp [Gen.deduceRoute, h', h1', h2', e]

/-- `/type/id/relationships/rel` -/
theorem Gen_deduceRoute_self (t id rel : GoString) (h : id ≠ gs "meta") (h2 : rel ≠ gs "meta") :
    Gen.deduceRoute [t, id, gs "relationships", rel] = [47] ++ t ++ gs "/:id/relationships/" ++ rel := by
  have h' : id ≠ [109, 101, 116, 97] := h
  have h2' : rel ≠ [109, 101, 116, 97] := h2
  have e : gs "relationships" = [114, 101, 108, 97, 116, 105, 111, 110, 115, 104, 105, 112, 115] := by decide +kernel
  have e2 : gs "/:id/relationships/" = [47, 58, 105, 100, 47, 114, 101, 108, 97, 116, 105, 111, 110, 115, 104, 105, 112, 115, 47] := by decide +kernel
  rw [e, e2]
  simp [Gen.deduceRoute, h', h2']

end Jsonapi

section Axioms
open Jsonapi
#print axioms Gen_deduceRoute_nil
#print axioms Gen_deduceRoute_take5
#print axioms Gen_deduceRoute_col
#print axioms Gen_deduceRoute_res
#print axioms Gen_deduceRoute_related
#print axioms Gen_deduceRoute_self
end Axioms
