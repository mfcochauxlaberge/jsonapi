/-
C02B — C02 through the BYTES, for documents.

`Props/C02.lean` proves the document round trip from the marshaled TREE: `unmarshalDocument σ
(some (Spec.docSkeletonOf c t))`, where `Spec.docSkeletonOf` is a definition standing for "what
encoding/json decodes from the bytes of `t` into `payloadSkeleton`". Here the byte-level halves
are connected, as `Props/C01B.lean` does for one resource object:

  `Json.render`               the bytes `encoding/json` writes for the tree
  `Spec.parseJsonC`           the full-grammar reader of `encoding/json`
  `decodeDoc D`               `json.Unmarshal(bytes, &payloadSkeleton{})` and the decodes
                              `UnmarshalDocument` makes of `data` / `included` (Model/Decode.lean)
  `unmarshalDocumentBytes`    `UnmarshalDocument(bytes, schema)` from BYTES

Parameters: `D : Delegated`; `D.decTime` constrained by `DelegatedOk D TimeOk` as in C01B;
`D.numCanon` (the text Go prints for the float64 of a number literal inside `meta` / an error's
`source`) enters through `Document.metaCanon D.numCanon doc`, below.
Domain: C02's, plus (all decidable)
* `Document.utf8Ok doc selfHref`: every resource, the identifiers of an identifier document, the
  strings of the `links` member, of the top-level meta and of the error objects are valid UTF-8;
* `doc.numsOk`: number literals inside the caller's meta values are JSON numbers (C03's);
* `Document.depthOk doc selfHref`: `links`, `meta` and the error objects are nested less than
  10000 deep (encoding/json's limit);
* `Document.metaCanon D.numCanon doc`: the top-level meta and every error's `source` / `meta` are
  CANONICAL: object keys strictly ascending at every level (the model lists a Go map; this is
  the order `json.Marshal` writes and the decoder's map is listed in) and every number literal
  is a fixed point of `D.numCanon` (`1` is, `1.0` and `1e2` are not: they come back as `1`,
  `100` - "JSON-equal" in the property text, not the same text; C02's tree-level `d.dmeta =
  doc.dmeta` does not see this because `Spec.docSkeletonOf` copies the members);
* `Document.errLinksOk doc`: an error's `links` map has distinct keys (it is a Go map).
Top-level `links` of the document: written, parsed and skipped by the decoder (`payloadSkeleton`
has no `links` field); any link objects are allowed on the marshaling side.
-/
import Jsonapi.Props.C02
import Jsonapi.Props.C01B
import Jsonapi.Proofs.DocBytesLemmas
namespace Jsonapi
open GoMap Spec FullL RtbL DocbL MarshalL RtL

/-! ### The decoded payload skeleton is the one `Spec.docSkeletonOf` reads off the tree -/

/-- The conversion `DocSke.abstr` cannot be observed by `UnmarshalDocument`, for EVERY payload
skeleton; it changes nothing but the resource skeletons (through `ResSke.abstr`). -/
theorem C02B_abstr_invisible (σ : SSchema) (d : DocSke) :
    unmarshalDocument σ (some d.abstr) = unmarshalDocument σ (some d) ∧
    d.abstr.errors = d.errors ∧ d.abstr.dmeta = d.dmeta ∧
    d.abstr.included.map (·.1) = d.included.map (·.1) :=
  ⟨unmarshalDocument_abstr σ d, rfl, rfl, List.map_map⟩

/-- **decode ∘ parse ∘ render = docSkeletonOf.** For every tree of the shape of a marshaled
document whose numbers are JSON numbers and whose strings are valid UTF-8, reading the rendered
bytes with `encoding/json`'s grammar and decoding them into `payloadSkeleton` gives the
skeleton the tree-level theorems of C02 start from: the kind of `data` (absent / null / one
object / an array) with the skeleton of every resource object, for every member of `included`
whether it decodes into an Identifier and its resource skeleton, the error objects and the
top-level meta. -/
theorem docDecode_render_skeleton (D : Delegated) (TimeOk : Time → Prop)
    (hD : DelegatedOk D TimeOk) (t : Json) (hs : DocTreeShape D.numCanon t = true) (hn : t.numsOk = true)
    (hu : strsAll utf8Valid t = true) (hd : depth t ≤ maxDepth) :
    ((parseJsonC t.render).bind (decodeDoc D)).map DocSke.abstr =
      some (Spec.docSkeletonOf (codecsOf D TimeOk hD) t) := by
  obtain ⟨d, h1, h2⟩ := decodeDoc_toC D TimeOk hD t hs hn hu
  rw [parseJsonC_render t hn hd, Option.bind_some, h1, Option.map_some, h2]

/-- `UnmarshalDocument` from the rendered BYTES of a tree of the shape is `UnmarshalDocument`
from `Spec.docSkeletonOf` of the tree. -/
theorem C02B_bytes_eq_tree_shape (D : Delegated) (TimeOk : Time → Prop)
    (hD : DelegatedOk D TimeOk) (σ : SSchema) (t : Json) (hs : DocTreeShape D.numCanon t = true)
    (hn : t.numsOk = true) (hu : strsAll utf8Valid t = true) (hd : depth t ≤ maxDepth) :
    unmarshalDocumentBytes D σ t.render =
      unmarshalDocument σ (some (Spec.docSkeletonOf (codecsOf D TimeOk hD) t)) := by
  obtain ⟨d, h1, h2⟩ := decodeDoc_toC D TimeOk hD t hs hn hu
  unfold unmarshalDocumentBytes
  rw [parseJsonC_render t hn hd]
  simp only [h1]
  rw [← h2, unmarshalDocument_abstr]

/-- Every document tree `marshalDocument` writes (resources in C04's domain, canonical meta,
distinct error link keys) is `Spec.documentTree`, has the shape, JSON numbers when the caller's
values have, depth at most 10000 when `links`, `meta` and the error objects are nested less deep
than that, and - when the document's strings are valid UTF-8 - only valid UTF-8 strings. -/
theorem C02B_shape (nc : GoString → Option GoString) (doc : Document)
    (hkw : ∀ r ∈ docResources doc, r.keyedWf)
    (hmc : doc.metaCanon nc = true) (hln : doc.errLinksOk = true) (fields : GoMap (List GoString))
    (selfHref : GoString) (t : Json) (doc' : Document)
    (hm : marshalDocument doc fields selfHref = .ok (t, doc')) :
    Spec.documentTree doc fields selfHref = some t ∧
    DocTreeShape nc t = true ∧ (doc.numsOk → t.numsOk = true) ∧
    (doc.depthOk selfHref = true → depth t ≤ maxDepth) ∧
    (doc.utf8Ok selfHref = true → strsAll utf8Valid t = true) := by
  have ht : Spec.documentTree doc fields selfHref = some t := by
    cases h : Spec.documentTree doc fields selfHref with
    | none =>
      rw [(C04_document doc hkw fields selfHref).1 h] at hm
      cases hm
    | some t' =>
      obtain ⟨d'', h2⟩ := (C04_document doc hkw fields selfHref).2 t' h
      rw [h2] at hm
      cases hm
      rfl
  exact ⟨ht, (documentTree_shape nc doc hkw hmc hln fields selfHref t ht).1,
    fun hn => MJsonL.documentTree_numsOk hn ht,
    (documentTree_shape nc doc hkw hmc hln fields selfHref t ht).2⟩

/-- `UnmarshalDocument` from the rendered BYTES of a marshaled document is `UnmarshalDocument`
from `Spec.docSkeletonOf` of the tree. -/
theorem C02B_bytes_eq_tree (D : Delegated) (TimeOk : Time → Prop) (hD : DelegatedOk D TimeOk)
    (σ : SSchema) (doc : Document) (hkw : ∀ r ∈ docResources doc, r.keyedWf)
    (hmc : doc.metaCanon D.numCanon = true) (hln : doc.errLinksOk = true) (hn : doc.numsOk)
    (fields : GoMap (List GoString)) (selfHref : GoString)
    (hl : doc.depthOk selfHref = true) (hu : doc.utf8Ok selfHref = true)
    (t : Json) (doc' : Document) (hm : marshalDocument doc fields selfHref = .ok (t, doc')) :
    unmarshalDocumentBytes D σ t.render =
      unmarshalDocument σ (some (Spec.docSkeletonOf (codecsOf D TimeOk hD) t)) := by
  obtain ⟨-, hs, h1, h2, h3⟩ := C02B_shape D.numCanon doc hkw hmc hln fields selfHref t doc' hm
  exact C02B_bytes_eq_tree_shape D TimeOk hD σ t hs (h1 hn) (h3 hu) (h2 hl)

/-! ### C02 from the bytes -/

theorem keyed_of_dom {c : Spec.Codecs} {σ : SSchema} {doc : Document} (hdom : DocDom c σ doc) :
    ∀ r ∈ docResources doc, r.keyedWf := fun r hr =>
  (hdom.res r hr).elim fun _ h => h.2.keyed

/-- A document without errors in C02's domain is marshaled into `Spec.documentTree`, and
`UnmarshalDocument` from the BYTES is `UnmarshalDocument` from the skeleton of the tree: what the
statements of C02 need to go through the bytes. -/
theorem C02B_marshal_bytes (D : Delegated) (TimeOk : Time → Prop) (hD : DelegatedOk D TimeOk)
    (σ : SSchema) (hσ : σ.WF) (doc : Document)
    (hdom : DocDom (codecsOf D TimeOk hD) σ doc) (hr : doc.errors = []) (hdata : doc.data ≠ .other)
    (hmc : doc.metaCanon D.numCanon = true)
    (hn : doc.numsOk) (fields : GoMap (List GoString)) (selfHref : GoString)
    (hl : doc.depthOk selfHref = true) (hu : doc.utf8Ok selfHref = true) :
    ∃ t doc', marshalDocument doc fields selfHref = .ok (t, doc') ∧
      Spec.documentTree doc fields selfHref = some t ∧
      unmarshalDocumentBytes D σ t.render =
        unmarshalDocument σ (some (Spec.docSkeletonOf (codecsOf D TimeOk hD) t)) := by
  obtain ⟨t, doc', hm, -⟩ :=
    C02_roundtrip_model (codecsOf D TimeOk hD) σ hσ doc hdom hr hdata fields selfHref
  have hln : doc.errLinksOk = true := by rw [Document.errLinksOk, hr]; rfl
  exact ⟨t, doc', hm,
    (C02B_shape D.numCanon doc (keyed_of_dom hdom) hmc hln fields selfHref t doc' hm).1,
    C02B_bytes_eq_tree D TimeOk hD σ doc (keyed_of_dom hdom) hmc hln hn fields selfHref hl hu t
      doc' hm⟩

/-- **C02 through the bytes** (data documents): the statement of `C02_roundtrip_model` with the
bytes in the middle. -/
theorem C02B_roundtrip_bytes (D : Delegated) (TimeOk : Time → Prop) (hD : DelegatedOk D TimeOk)
    (σ : SSchema) (hσ : σ.WF) (doc : Document)
    (hdom : DocDom (codecsOf D TimeOk hD) σ doc) (hr : doc.errors = []) (hdata : doc.data ≠ .other)
    (hmc : doc.metaCanon D.numCanon = true)
    (hn : doc.numsOk) (fields : GoMap (List GoString)) (selfHref : GoString)
    (hl : doc.depthOk selfHref = true) (hu : doc.utf8Ok selfHref = true) :
    ∃ t doc', marshalDocument doc fields selfHref = .ok (t, doc') ∧
      ∃ d, unmarshalDocumentBytes D σ t.render = .ok d ∧
        DataBack σ fields doc.relData doc.data d.data ∧
        Forall2 (ResBack σ fields doc.relData) (sortById doc.included) d.included ∧
        d.errors = [] ∧ d.dmeta = doc.dmeta := by
  obtain ⟨t, doc', hm, ht, e⟩ :=
    C02B_marshal_bytes D TimeOk hD σ hσ doc hdom hr hdata hmc hn fields selfHref hl hu
  exact ⟨t, doc', hm, e ▸ C02_roundtrip (codecsOf D TimeOk hD) σ hσ doc hdom hr fields selfHref t ht⟩

/-- `C02_data_kind` from the bytes: the same kind of primary data. -/
theorem C02B_data_kind_bytes (D : Delegated) (TimeOk : Time → Prop) (hD : DelegatedOk D TimeOk)
    (σ : SSchema) (hσ : σ.WF) (doc : Document)
    (hdom : DocDom (codecsOf D TimeOk hD) σ doc) (hr : doc.errors = []) (hdata : doc.data ≠ .other)
    (hmc : doc.metaCanon D.numCanon = true)
    (hn : doc.numsOk) (fields : GoMap (List GoString)) (selfHref : GoString)
    (hl : doc.depthOk selfHref = true) (hu : doc.utf8Ok selfHref = true) :
    ∃ t doc', marshalDocument doc fields selfHref = .ok (t, doc') ∧
    ∃ d, unmarshalDocumentBytes D σ t.render = .ok d ∧ d.errors = [] ∧
      (doc.data = .none → d.data = .none) ∧
      (∀ r, doc.data = .res r → ∃ x, d.data = .res x ∧ ResBack σ fields doc.relData r x) ∧
      (∀ tn ms, doc.data = .col tn ms → ∃ xs, d.data = .col xs ∧ xs.length = ms.length ∧
        Forall2 (ResBack σ fields doc.relData) ms xs) ∧
      (∀ id typ, doc.data = .ident id typ → ∃ x, d.data = .res x ∧ IdentBack σ id typ x) ∧
      (∀ b l, doc.data = .idents b l → ∃ xs, d.data = .col xs ∧ xs.length = l.length ∧
        Forall2 (fun p x => IdentBack σ p.1 p.2 x) l xs) := by
  obtain ⟨t, doc', hm, ht, e⟩ :=
    C02B_marshal_bytes D TimeOk hD σ hσ doc hdom hr hdata hmc hn fields selfHref hl hu
  exact ⟨t, doc', hm, e ▸ C02_data_kind (codecsOf D TimeOk hD) σ hσ doc hdom hr fields selfHref t ht⟩

/-- `C02_included` from the bytes: the included resources come back, in the order written. -/
theorem C02B_included_bytes (D : Delegated) (TimeOk : Time → Prop) (hD : DelegatedOk D TimeOk)
    (σ : SSchema) (hσ : σ.WF) (doc : Document)
    (hdom : DocDom (codecsOf D TimeOk hD) σ doc) (hr : doc.errors = []) (hdata : doc.data ≠ .other)
    (hmc : doc.metaCanon D.numCanon = true)
    (hn : doc.numsOk) (fields : GoMap (List GoString)) (selfHref : GoString)
    (hl : doc.depthOk selfHref = true) (hu : doc.utf8Ok selfHref = true) :
    ∃ t doc', marshalDocument doc fields selfHref = .ok (t, doc') ∧
    ∃ d, unmarshalDocumentBytes D σ t.render = .ok d ∧
      d.included.length = doc.included.length ∧
      Forall2 (ResBack σ fields doc.relData) (sortById doc.included) d.included := by
  obtain ⟨t, doc', hm, d, h1, -, h3, -, -⟩ :=
    C02B_roundtrip_bytes D TimeOk hD σ hσ doc hdom hr hdata hmc hn fields selfHref hl hu
  exact ⟨t, doc', hm, d, h1, by rw [← h3.length_eq, (sortById_perm _).length_eq], h3⟩

/-- `C02_errors_model` from the bytes: a document carrying errors comes back from the BYTES with
the same error objects in the same order, without data and included resources, and with its meta. -/
theorem C02B_errors_bytes (D : Delegated) (TimeOk : Time → Prop) (hD : DelegatedOk D TimeOk)
    (σ : SSchema) (doc : Document) (hkw : ∀ r ∈ docResources doc, r.keyedWf)
    (hdata : doc.data ≠ .other) (he : doc.errors ≠ [])
    (hs : ∀ e ∈ doc.errors, Spec.linksSorted e) (hln : doc.errLinksOk = true)
    (hmc : doc.metaCanon D.numCanon = true)
    (hn : doc.numsOk) (fields : GoMap (List GoString)) (selfHref : GoString)
    (hl : doc.depthOk selfHref = true) (hu : doc.utf8Ok selfHref = true) :
    ∃ t doc', marshalDocument doc fields selfHref = .ok (t, doc') ∧
      unmarshalDocumentBytes D σ t.render =
        .ok { data := .none, included := [], errors := doc.errors, dmeta := doc.dmeta } := by
  obtain ⟨t, doc', hm, h⟩ :=
    C02_errors_model (codecsOf D TimeOk hD) σ doc hkw hdata fields selfHref he hs
  exact ⟨t, doc', hm,
    (C02B_bytes_eq_tree D TimeOk hD σ doc hkw hmc hln hn fields selfHref hl hu t doc' hm).trans h⟩

/-- `C02_meta` from the bytes: whatever else the document holds, if the bytes of the marshaled
document are accepted, the top-level meta members are the document's. -/
theorem C02B_meta_bytes (D : Delegated) (TimeOk : Time → Prop) (hD : DelegatedOk D TimeOk)
    (σ : SSchema) (doc : Document) (hkw : ∀ r ∈ docResources doc, r.keyedWf)
    (hln : doc.errLinksOk = true) (hmc : doc.metaCanon D.numCanon = true)
    (hn : doc.numsOk) (fields : GoMap (List GoString)) (selfHref : GoString)
    (hl : doc.depthOk selfHref = true) (hu : doc.utf8Ok selfHref = true)
    (t : Json) (doc' : Document) (hm : marshalDocument doc fields selfHref = .ok (t, doc'))
    (d : UDoc) (h : unmarshalDocumentBytes D σ t.render = .ok d) :
    d.dmeta = doc.dmeta := by
  obtain ⟨ht, -⟩ := C02B_shape D.numCanon doc hkw hmc hln fields selfHref t doc' hm
  rw [C02B_bytes_eq_tree D TimeOk hD σ doc hkw hmc hln hn fields selfHref hl hu t doc' hm] at h
  exact C02_meta (codecsOf D TimeOk hD) σ doc fields selfHref t ht d h

/-- Why `Document.metaCanon` asks for ascending keys: the decoder lists the meta map by key, so a
model `Meta` list in another order does not come back as the same LIST (it is the same map). -/
theorem C02B_meta_order_needed :
    (mergeMeta (fun l => some l) [] (toC (.obj [([98], .null), ([97], .null)]))).map
      (fun l => l.map (·.1)) = some [[97], [98]] := by decide +kernel

/-! ### Non-vacuity -/

/-- a collection of two resources - the soft one with the ID "é" and the string with a quote, a
control byte, `<`, U+2028 and U+1F600 (`C01B_exR`), and a struct-backed one -, the first one
included as well, a link object with meta, and top-level meta (a non-ASCII string, a nested
object with ascending keys, no number: canonical for every `D.numCanon`) -/
def C02B_exDoc : Document :=
  { data := .col [] [C01B_exR [116], C01_exR [119]], included := [C01B_exR [116]],
    relData := [([116], [[109]])],
    links := [([110], { href := [47, 0xC3, 0xA9], lmeta := [([107], .num [49])] })],
    dmeta := [([97], .str [0xC3, 0xA9]), ([98], .obj [([120], .null), ([121], .arr [.bool true])])] }

/-- it is in the domain of the byte-level theorems, by evaluation (no number in its meta, so for
every `D.numCanon`) … -/
theorem C02B_exDoc_ok (nc : GoString → Option GoString) :
    C02B_exDoc.metaCanon nc = true ∧ C02B_exDoc.numsOk ∧ C02B_exDoc.depthOk [47] = true ∧
      C02B_exDoc.utf8Ok [47] = true :=
  ⟨rfl, by decide +kernel, by decide +kernel, by decide +kernel⟩

/-- … and in C02's, with the resources of C01 and C01B -/
theorem C02B_exDoc_dom (c : Spec.Codecs) : DocDom c C01_exσ C02B_exDoc := by
  refine ⟨fun r hr => ?_, fun id typ e => (nomatch e), fun b l e => (nomatch e)⟩
  simp only [docResources, docPrimary, C02B_exDoc, List.mem_append, List.mem_cons,
    List.not_mem_nil, or_false] at hr
  rcases hr with (rfl | rfl) | rfl
  · exact ⟨⟨C01_exT, false⟩, List.mem_cons_self, C01B_exR_dom _ _ (.inl rfl)⟩
  · exact ⟨⟨C01_exW, true⟩, List.mem_cons_of_mem _ List.mem_cons_self, C01_exR_dom _ _ (.inr rfl)⟩
  · exact ⟨⟨C01_exT, false⟩, List.mem_cons_self, C01B_exR_dom _ _ (.inl rfl)⟩

/-- `C02B_roundtrip_bytes` and `C02B_data_kind_bytes` apply to it, with every delegated decoder
meeting `DelegatedOk`: both members and the included resource come back from the BYTES. -/
example (D : Delegated) (TimeOk : Time → Prop) (hD : DelegatedOk D TimeOk) :
    let fields : GoMap (List GoString) := [([116], [[97], [115], [109]])]
    ∃ t doc' d xs, marshalDocument C02B_exDoc fields [47] = .ok (t, doc') ∧
      unmarshalDocumentBytes D C01_exσ t.render = .ok d ∧
      d.data = .col xs ∧ xs.length = 2 ∧ d.included.length = 1 ∧ d.errors = [] ∧
      d.dmeta = C02B_exDoc.dmeta := by
  intro fields
  obtain ⟨hmc, hn, hl, hu⟩ := C02B_exDoc_ok D.numCanon
  have hdom := C02B_exDoc_dom (codecsOf D TimeOk hD)
  obtain ⟨t, doc', hm, d, h1, h2, -, -, h3, -, -⟩ :=
    C02B_data_kind_bytes D TimeOk hD C01_exσ C01_exσ_wf C02B_exDoc hdom rfl
      (fun e => nomatch e) hmc hn fields [47] hl hu
  obtain ⟨xs, hx, hlen, -⟩ := h3 [] _ rfl
  obtain ⟨t', doc'', hm', d', h1', hi, -⟩ :=
    C02B_included_bytes D TimeOk hD C01_exσ C01_exσ_wf C02B_exDoc hdom rfl
      (fun e => nomatch e) hmc hn fields [47] hl hu
  rw [hm] at hm'; cases hm'
  rw [h1] at h1'; cases h1'
  obtain ⟨t2, doc2, hm2, d2, h12, -, -, -, hmeta⟩ :=
    C02B_roundtrip_bytes D TimeOk hD C01_exσ C01_exσ_wf C02B_exDoc hdom rfl
      (fun e => nomatch e) hmc hn fields [47] hl hu
  rw [hm] at hm2; cases hm2
  rw [h1] at h12; cases h12
  exact ⟨t, doc', d, xs, hm, h1, hx, hlen, hi, h2, hmeta⟩

/-- an error object with every member (a non-ASCII title; links keys "a" < "b"; a number in its
meta) and an empty one -/
def C02B_exErr : ErrorObj := { C02_exErr with title := [0xC3, 0xA9] }

/-- an error document (data and meta set as well: the data is not written; the meta holds a
number) -/
def C02B_exErrDoc : Document :=
  { data := .ident [49] [116], errors := [C02B_exErr, {}], dmeta := [([109], .num [49])] }

/-- `C02B_errors_bytes` applies to it, for every delegated decoder meeting `DelegatedOk` that
prints the float64 of the literal `1` as `1`: both error objects and the meta come back from the
BYTES. -/
example (D : Delegated) (TimeOk : Time → Prop) (hD : DelegatedOk D TimeOk)
    (hnc : D.numCanon [49] = some [49]) :
    ∃ t doc', marshalDocument C02B_exErrDoc [] [47] = .ok (t, doc') ∧
      unmarshalDocumentBytes D C01_exσ t.render =
        .ok { data := .none, included := [], errors := [C02B_exErr, {}],
              dmeta := [([109], .num [49])] } := by
  have hs : ∀ e ∈ C02B_exErrDoc.errors, Spec.linksSorted e := by
    refine List.forall_mem_cons.2 ⟨?_, List.forall_mem_singleton.2 List.Pairwise.nil⟩
    unfold Spec.linksSorted; decide +kernel
  have hmc : C02B_exErrDoc.metaCanon D.numCanon = true := by
    simp [Document.metaCanon, C02B_exErrDoc, C02B_exErr, C02_exErr, metaCanon, metaCanonMembers,
      keysAsc, hnc]
  exact C02B_errors_bytes D TimeOk hD C01_exσ C02B_exErrDoc (fun r hr => nomatch hr)
    (fun e => nomatch e) (fun e => nomatch e) hs (by decide +kernel) hmc (by decide +kernel) [] [47]
    (by decide +kernel) (by decide +kernel)

/-- an error document as `marshalDocument` writes it (members sorted), with the non-ASCII title -/
def C02B_exErrTree : Json :=
  .obj [(K.errors, .arr [.obj [(K.kmeta, .obj [([109], .num [49])]), (K.title, .str [0xC3, 0xA9])],
          .obj []]),
        (K.jsonapi, .obj [(K.version, .str K.v10)]),
        (K.links, .obj [(K.self, .str [47])]),
        (K.kmeta, .obj [([109], .num [49])])]

set_option maxRecDepth 40000 in
/-- Computed with a concrete decoder (`C05B_exD`: numbers printed as written): the tree has the
shape, and its rendered BYTES are parsed and decoded into the two error objects and the meta. -/
example :
    DocTreeShape C05B_exD.numCanon C02B_exErrTree = true ∧
    (match unmarshalDocumentBytes C05B_exD C01_exσ C02B_exErrTree.render with
      | .ok d => d.errors.length == 2 && (d.errors.map (·.title) == [[0xC3, 0xA9], []]) &&
          (d.errors.map (fun e => e.emeta.map (·.1)) == [[[109]], []]) &&
          (d.dmeta.map (·.1) == [[109]])
      | _ => false) = true := by decide +kernel

theorem C02B_exErrTree_ok :
    DocTreeShape (C01B_exD default).numCanon C02B_exErrTree = true ∧
      C02B_exErrTree.numsOk = true ∧ strsAll utf8Valid C02B_exErrTree = true ∧
      depth C02B_exErrTree ≤ maxDepth := by decide +kernel

example := docDecode_render_skeleton (C01B_exD default) _ (C01B_exD_ok default) C02B_exErrTree
  C02B_exErrTree_ok.1 C02B_exErrTree_ok.2.1 C02B_exErrTree_ok.2.2.1 C02B_exErrTree_ok.2.2.2

example := C02B_bytes_eq_tree_shape (C01B_exD default) _ (C01B_exD_ok default) C01_exσ
  C02B_exErrTree C02B_exErrTree_ok.1 C02B_exErrTree_ok.2.1 C02B_exErrTree_ok.2.2.1
  C02B_exErrTree_ok.2.2.2

/-- `C02B_shape`, `C02B_bytes_eq_tree` and `C02B_meta_bytes` apply to what the model's
`marshalDocument` writes for the collection document with the escape-worthy string. -/
example (D : Delegated) (TimeOk : Time → Prop) (hD : DelegatedOk D TimeOk) :
    let fields : GoMap (List GoString) := [([116], [[97], [115], [109]])]
    ∃ t doc', marshalDocument C02B_exDoc fields [47] = .ok (t, doc') ∧
      DocTreeShape D.numCanon t = true ∧ t.numsOk = true ∧ strsAll utf8Valid t = true ∧
      unmarshalDocumentBytes D C01_exσ t.render =
        unmarshalDocument C01_exσ (some (Spec.docSkeletonOf (codecsOf D TimeOk hD) t)) ∧
      ∀ d, unmarshalDocumentBytes D C01_exσ t.render = .ok d → d.dmeta = C02B_exDoc.dmeta := by
  intro fields
  obtain ⟨hmc, hn, hl, hu⟩ := C02B_exDoc_ok D.numCanon
  have hkw := keyed_of_dom (C02B_exDoc_dom (codecsOf D TimeOk hD))
  obtain ⟨t, doc', hm, -⟩ := C02_roundtrip_model (codecsOf D TimeOk hD) C01_exσ C01_exσ_wf
    C02B_exDoc (C02B_exDoc_dom _) rfl (fun e => nomatch e) fields [47]
  obtain ⟨-, h1, h2, -, h4⟩ := C02B_shape D.numCanon C02B_exDoc hkw hmc rfl fields [47] t doc' hm
  exact ⟨t, doc', hm, h1, h2 hn, h4 hu,
    C02B_bytes_eq_tree D TimeOk hD C01_exσ C02B_exDoc hkw hmc rfl hn fields [47] hl hu t doc' hm,
    C02B_meta_bytes D TimeOk hD C01_exσ C02B_exDoc hkw rfl hmc hn fields [47] hl hu t doc' hm⟩

end Jsonapi

section Axioms
open Jsonapi
#print axioms C02B_abstr_invisible
#print axioms docDecode_render_skeleton
#print axioms C02B_bytes_eq_tree_shape
#print axioms C02B_shape
#print axioms C02B_bytes_eq_tree
#print axioms C02B_roundtrip_bytes
#print axioms C02B_data_kind_bytes
#print axioms C02B_included_bytes
#print axioms C02B_errors_bytes
#print axioms C02B_meta_bytes
#print axioms C02B_meta_order_needed
#print axioms DocbL.decodeErr_toC
#print axioms DocbL.decodeErrors_toC
#print axioms DocbL.mergeMeta_toC
#print axioms DocbL.decodeDoc_toC
#print axioms DocbL.documentTree_shape
end Axioms
