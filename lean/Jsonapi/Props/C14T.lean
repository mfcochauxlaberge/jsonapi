/-
C14T — "no call has panicked" about the TRANSLATED editing API.

`C14_inv` (Props/C14.lean) proves "no call has panicked" of the hand-written model's `step`.
Props/GenC14b.lean proves that the functions translated from schema.go / type.go
(`Gen.Schema_AddType`, … - the receiver threaded through as a value, the returned error a
`Res Unit`) ARE the model's functions. Here the two are composed, so that the clause is a
statement about the translated code:

* one corollary per method that returns an error, `C14T_no_panic_<Method>`: the translated
  function never returns `.panic` - for EVERY receiver and argument (for `AddTwoWayRel`, whose
  equality with the model needs unique type names, the general statement is proved on the
  translated function directly, `C14T_no_panic_AddTwoWayRel`; the corollary of the equality is
  `C14T_no_panic_AddTwoWayRel_of_eq`);
* `RemoveType`, `RemoveAttr`, `RemoveRel` (schema and type level) return no error: their
  translations are total functions into `Schema` / `Typ` with no `Res` at all - there is no
  panic outcome to exclude; `C14T.genStep` pairs them with `.ok ()` as C14's `step` does.
-/
import Jsonapi.Props.C14
import Jsonapi.Props.GenC14b
namespace Jsonapi
open Schema GoMap

/-! ### One corollary per method -/

theorem C14T_no_panic_Type_AddAttr (t : Typ) (a : Attr) : (Gen.Type_AddAttr t a).2 ≠ .panic := by
  rw [Gen_Type_AddAttr_eq]; exact Typ.addAttr_no_panic t a

theorem C14T_no_panic_Type_AddRel (t : Typ) (r : Rel) : (Gen.Type_AddRel t r).2 ≠ .panic := by
  rw [Gen_Type_AddRel_eq]; exact Typ.addRel_no_panic t r

theorem C14T_no_panic_AddType (s : Schema) (t : Typ) : (Gen.Schema_AddType s t).2 ≠ .panic := by
  rw [Gen_Schema_AddType_eq]; exact step_no_panic s (.addType t)

theorem C14T_no_panic_AddAttr (s : Schema) (n : GoString) (a : Attr) :
    (Gen.Schema_AddAttr s n a).2 ≠ .panic := by
  rw [Gen_Schema_AddAttr_eq]; exact step_no_panic s (.addAttr n a)

theorem C14T_no_panic_AddRel (s : Schema) (n : GoString) (r : Rel) :
    (Gen.Schema_AddRel s n r).2 ≠ .panic := by
  rw [Gen_Schema_AddRel_eq]; exact step_no_panic s (.addRel n r)

/-- `AddTwoWayRel` on a schema with unique type names: the corollary of the equality. -/
theorem C14T_no_panic_AddTwoWayRel_of_eq (s : Schema) (hnd : (s.types.map (·.name)).Nodup)
    (r : Rel) : (Gen.Schema_AddTwoWayRel s r).2 ≠ .panic := by
  rw [Gen_Schema_AddTwoWayRel_eq s hnd]; exact step_no_panic s (.addTwoWayRel r)

/-- `AddTwoWayRel` on EVERY schema (also those with repeated type names, on which the translated
function and the model differ): the error returned is the one a `Type.AddRel` call returned,
`nil`, or an ordinary error. -/
theorem C14T_no_panic_AddTwoWayRel (s : Schema) (r : Rel) :
    (Gen.Schema_AddTwoWayRel s r).2 ≠ .panic := by
  rw [Gen_Schema_AddTwoWayRel_at]; exact GenC14b.twoWayAt_no_panic Typ.addRel_no_panic _ _ _ _ _ _

/-- The removals return no error; their translations are the model's total functions. -/
theorem C14T_removals_total (s : Schema) (n a : GoString) (t : Typ) :
    Gen.Schema_RemoveType s n = s.removeType n ∧ Gen.Schema_RemoveAttr s n a = s.removeAttr n a ∧
    Gen.Schema_RemoveRel s n a = s.removeRel n a ∧ Gen.Type_RemoveAttr t a = t.removeAttr a ∧
    Gen.Type_RemoveRel t a = t.removeRel a :=
  ⟨Gen_Schema_RemoveType_eq s n, Gen_Schema_RemoveAttr_eq s n a, Gen_Schema_RemoveRel_eq s n a,
   Gen_Type_RemoveAttr_eq t a, Gen_Type_RemoveRel_eq t a⟩

/-! ### A whole history on the translated functions -/

namespace C14T

/-- One call of the editing API on the TRANSLATED functions (`step` of Props/C14.lean with
every model function replaced by its translation). -/
def genStep (s : Schema) : Op → Schema × Res Unit
  | .addType t => Gen.Schema_AddType s t
  | .removeType n => (Gen.Schema_RemoveType s n, .ok ())
  | .addAttr n a => Gen.Schema_AddAttr s n a
  | .removeAttr n a => (Gen.Schema_RemoveAttr s n a, .ok ())
  | .addRel n r => Gen.Schema_AddRel s n r
  | .removeRel n a => (Gen.Schema_RemoveRel s n a, .ok ())
  | .addTwoWayRel r => Gen.Schema_AddTwoWayRel s r

/-- a history replayed on the translated functions, from the empty schema -/
def genRun (ops : List Op) : Schema := ops.foldl (fun s op => (genStep s op).1) Schema.empty

end C14T

open C14T

/-- Every op, every schema: the translated call does not panic. -/
theorem C14T_genStep_no_panic (s : Schema) (op : Op) : (genStep s op).2 ≠ .panic := by
  cases op with
  | addType t => exact C14T_no_panic_AddType s t
  | removeType n => simp [genStep]
  | addAttr n a => exact C14T_no_panic_AddAttr s n a
  | removeAttr n a => simp [genStep]
  | addRel n r => exact C14T_no_panic_AddRel s n r
  | removeRel n a => simp [genStep]
  | addTwoWayRel r => exact C14T_no_panic_AddTwoWayRel s r

/-- On a schema with unique type names (in particular under C14's invariant) one translated
call is the model's `step`: same schema after the call, same result class. -/
theorem C14T_genStep_eq (s : Schema) (hnd : (s.types.map (·.name)).Nodup) (op : Op) :
    genStep s op = step s op := by
  cases op with
  | addType t => exact Gen_Schema_AddType_eq s t
  | removeType n => simp only [genStep, step, Gen_Schema_RemoveType_eq]
  | addAttr n a => exact Gen_Schema_AddAttr_eq s n a
  | removeAttr n a => simp only [genStep, step, Gen_Schema_RemoveAttr_eq]
  | addRel n r => exact Gen_Schema_AddRel_eq s n r
  | removeRel n a => simp only [genStep, step, Gen_Schema_RemoveRel_eq]
  | addTwoWayRel r => exact Gen_Schema_AddTwoWayRel_eq s hnd r

theorem C14T.foldl_eq (ops : List Op) (hops : ∀ op ∈ ops, op.ok) (s : Schema) (hs : Inv s) :
    ops.foldl (fun s op => (genStep s op).1) s = ops.foldl (fun s op => (step s op).1) s := by
  induction ops generalizing s with
  | nil => rfl
  | cons op ops ih =>
    simp only [List.foldl_cons]
    rw [C14T_genStep_eq s hs.1 op]
    exact ih (fun o ho => hops o (List.mem_cons_of_mem _ ho)) _
      (step_inv s hs op (hops op List.mem_cons_self))

/-- A history replayed on the translated functions reaches the model's state. -/
theorem C14T_genRun_eq (ops : List Op) (hops : ∀ op ∈ ops, op.ok) : genRun ops = run ops :=
  C14T.foldl_eq ops hops _ inv_empty

/-- **C14's first clause for the translated API.** After any history of the seven editing calls
(types handed to `AddType` well-formed) replayed on the TRANSLATED functions from the empty
schema: the schema they have built satisfies C14's invariant, it is the model's, and no call of
the history has panicked - each call being, moreover, the model's `step` on the model's state. -/
theorem C14T_history (ops : List Op) (hops : ∀ op ∈ ops, op.ok) :
    Inv (genRun ops) ∧ genRun ops = run ops ∧
    ∀ (pre : List Op) (op : Op) (post : List Op), ops = pre ++ op :: post →
      (genStep (genRun pre) op).2 ≠ .panic ∧ genStep (genRun pre) op = step (run pre) op := by
  refine ⟨?_, C14T_genRun_eq ops hops, ?_⟩
  · rw [C14T_genRun_eq ops hops]; exact (C14_inv ops hops).1
  · intro pre op post e
    refine ⟨C14T_genStep_no_panic _ op, ?_⟩
    have hpre : ∀ o ∈ pre, o.ok := fun o ho => hops o (by rw [e]; exact List.mem_append_left _ ho)
    rw [C14T_genRun_eq pre hpre]
    exact C14T_genStep_eq _ (C14_inv pre hpre).1.1 op

/-- Non-vacuity: AddType users, AddType posts, AddTwoWayRel users.posts <-> posts.author, then a
second AddType users (refused) on the translated functions: result classes ok, ok, ok, err and
two types with one relationship each. -/
example :
    let u : Typ := { name := gs "users", attrs := [], rels := [] }
    let p : Typ := { name := gs "posts", attrs := [], rels := [] }
    let r : Rel := { fromType := gs "users", fromName := gs "posts", toOne := false,
                     toType := gs "posts", toName := gs "author", fromOne := true }
    let ops : List Op := [.addType u, .addType p, .addTwoWayRel r]
    (genStep (genRun []) (.addType u)).2 = .ok () ∧
    (genStep (genRun [.addType u, .addType p]) (.addTwoWayRel r)).2 = .ok () ∧
    (genStep (genRun ops) (.addType u)).2 = .err ∧
    (genRun ops).types.map (fun t => t.rels.length) = [1, 1] := by
  decide +kernel

end Jsonapi

section Axioms
open Jsonapi
#print axioms C14T_no_panic_Type_AddAttr
#print axioms C14T_no_panic_Type_AddRel
#print axioms C14T_no_panic_AddType
#print axioms C14T_no_panic_AddAttr
#print axioms C14T_no_panic_AddRel
#print axioms C14T_no_panic_AddTwoWayRel_of_eq
#print axioms C14T_no_panic_AddTwoWayRel
#print axioms C14T_removals_total
#print axioms C14T_genStep_no_panic
#print axioms C14T_genStep_eq
#print axioms C14T_genRun_eq
#print axioms C14T_history
end Axioms
