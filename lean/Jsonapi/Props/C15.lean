/-
C15 — Schema.Check finds every dangling or unreciprocated relationship.
-/
import Jsonapi.Proofs.SchemaLemmas
import Jsonapi.Generated.Facts
namespace Jsonapi
open Schema

/-- The property's reading of "offending", written without looking at `Check`. -/
def offending (σ : Schema) (t : Typ) (r : Rel) : Prop :=
  ¬ σ.hasType r.toType ∨
  (r.toName ≠ [] ∧
    (r.fromType ≠ t.name ∨
     ¬ ∃ ι ∈ (σ.getType r.toType).rels.vals,
        ι.fromName = r.toName ∧ ι.toName = r.fromName ∧ ι.toType = t.name))

/-- Type names are non-empty (part of C14's invariant). -/
def NamesNonEmpty (σ : Schema) : Prop := ∀ t ∈ σ.types, t.name ≠ []

theorem NamesNonEmpty.hasType_nil {σ : Schema} (h : NamesNonEmpty σ) : σ.hasType [] = false := by
  rw [← Bool.not_eq_true, hasType_iff]
  exact fun hm => by obtain ⟨t, ht, e⟩ := List.mem_map.1 hm; exact h t ht e

theorem checkRel_pos_iff (σ : Schema) (h : NamesNonEmpty σ) (t : Typ) (r : Rel) :
    0 < checkRel σ t r ↔ offending σ t r := by
  unfold checkRel offending
  rw [Nat.add_pos_iff_pos_or_pos, checkTarget_pos_iff, checkInverse_pos_iff, h.hasType_nil]
  simp

/-- `Check` returns no error exactly when no relationship is offending. -/
theorem C15_sound_complete (σ : Schema) (h : NamesNonEmpty σ) :
    σ.check = [] ↔ ∀ t ∈ σ.types, ∀ r ∈ t.rels.vals, ¬ offending σ t r := by
  simp only [check_nil_iff, ← checkRel_pos_iff σ h, Nat.pos_iff_ne_zero, Decidable.not_not]

/-- At least one error is reported for each offending relationship. -/
theorem C15_each (σ : Schema) (h : NamesNonEmpty σ) (t : Typ) (ht : t ∈ σ.types)
    (r : Rel) (hr : r ∈ t.rels.vals) (hoff : offending σ t r) :
    ∃ e ∈ σ.check, e.1 = t.name ∧ e.2.1 = r.fromName ∧ 1 ≤ e.2.2 := by
  have hpos := (checkRel_pos_iff σ h t r).2 hoff
  obtain ⟨p, hp, rfl⟩ := List.mem_map.1 hr
  refine ⟨(t.name, p.2.fromName, checkRel σ t p.2), ?_, rfl, rfl, hpos⟩
  exact List.mem_flatMap.2 ⟨t, ht, List.mem_filterMap.2 ⟨p, hp, if_neg (Nat.pos_iff_ne_zero.1 hpos)⟩⟩

/-- `Check` is a function of the schema only (it returns no new schema: the model of
`Check` cannot modify it), and on the Go side the extractor reports that neither
`Check` nor the lookup it calls assigns through the receiver. -/
theorem C15_pure_fact :
    Facts.writesThrough.lookup "Schema.Check" = some false ∧
    Facts.writesThrough.lookup "Schema.GetType" = some false := by decide +kernel

/-- No step of `check` is partial: it is a total function (there is no `Res.panic`
outcome to exclude). Stated as: it always returns a list. -/
theorem C15_total (σ : Schema) : ∃ l, σ.check = l := ⟨_, rfl⟩

/-! Non-vacuity: a mis-typed inverse is offending and reported. -/
example :
    let a : Typ := { name := gs "a", attrs := [], rels := [(gs "x", { fromType := gs "a", fromName := gs "x", toOne := true, toType := gs "b", toName := gs "y", fromOne := true })] }
    let b : Typ := { name := gs "b", attrs := [], rels := [(gs "y", { fromType := gs "b", fromName := gs "y", toOne := true, toType := gs "b", toName := gs "x", fromOne := true })] }
    let σ : Schema := { types := [a, b] }
    σ.checkCount = 2 := by decide +kernel

/-! ### Independence of map iteration order

`Check` ranges over each type's `Rels` map, and `GetType(...).Rels` is ranged over
again for the inverse test. Go randomises map iteration order; the model's
association lists fix one order. Two schemas are "the same up to map order" when
they have the same types in the same slice order, each with the same name and the
same attribute / relationship maps listed in possibly different orders. -/

def SameUpToMapOrder (σ σ' : Schema) : Prop :=
  Forall2 (fun t t' => t.name = t'.name ∧ t.attrs.Perm t'.attrs ∧ t.rels.Perm t'.rels)
    σ.types σ'.types

/-- The outcome of `Check` does not depend on map iteration order: the reported
errors are the same multiset, their count is the same, and "no error" is the same. -/
theorem C15_order_independent (σ σ' : Schema) (h : SameUpToMapOrder σ σ') :
    (check σ).Perm (check σ') ∧ checkCount σ = checkCount σ' ∧
      (check σ = [] ↔ check σ' = []) := by
  have hp : (check σ).Perm (check σ') := C15L.check_perm h
  refine ⟨hp, hp.foldl_eq' (fun _ _ _ _ _ => by omega) 0, ?_, ?_⟩
  · intro e; rw [e] at hp; exact hp.symm.eq_nil
  · intro e; rw [e] at hp; exact hp.eq_nil

/-! Non-vacuity: a two-type schema whose `Rels` maps are listed in two different
orders; the hypothesis holds, the two `check` lists differ as lists (so the `Perm`
is not an equality in disguise), and both report the same three errors. -/
example :
    let r1 : Rel := { fromType := gs "a", fromName := gs "x", toOne := true, toType := gs "b", toName := gs "y", fromOne := true }
    let r2 : Rel := { fromType := gs "a", fromName := gs "z", toOne := false, toType := gs "c", toName := [], fromOne := false }
    let r3 : Rel := { fromType := gs "b", fromName := gs "y", toOne := true, toType := gs "b", toName := gs "x", fromOne := true }
    let r4 : Rel := { fromType := gs "b", fromName := gs "w", toOne := true, toType := gs "a", toName := [], fromOne := false }
    let a  : Typ := { name := gs "a", attrs := [], rels := [(gs "x", r1), (gs "z", r2)] }
    let a' : Typ := { name := gs "a", attrs := [], rels := [(gs "z", r2), (gs "x", r1)] }
    let b  : Typ := { name := gs "b", attrs := [], rels := [(gs "y", r3), (gs "w", r4)] }
    let b' : Typ := { name := gs "b", attrs := [], rels := [(gs "w", r4), (gs "y", r3)] }
    let σ  : Schema := { types := [a, b] }
    let σ' : Schema := { types := [a', b'] }
    SameUpToMapOrder σ σ' ∧ σ.check ≠ σ'.check ∧ σ.check ≠ [] ∧
      σ.checkCount = 3 ∧ σ'.checkCount = 3 := by
  intro r1 r2 r3 r4 a a' b b' σ σ'
  refine ⟨?_, by decide +kernel⟩
  exact Forall2.cons ⟨rfl, List.Perm.refl _, List.Perm.swap _ _ _⟩
    (Forall2.cons ⟨rfl, List.Perm.refl _, List.Perm.swap _ _ _⟩ Forall2.nil)

#print axioms C15_sound_complete
#print axioms C15_each
#print axioms C15_pure_fact
#print axioms C15_total
#print axioms C15_order_independent
end Jsonapi
