/-
C20 — a struct type accepted by Check can be wrapped, built, read and written without
panicking, and the built type is exactly what the tags declare; a rejected one is refused.
-/
import Jsonapi.Proofs.WrapperLemmas
namespace Jsonapi

/-- If Check rejects the struct, BuildType returns an error and Wrap panics. -/
theorem C20_reject (d : StructDecl) (h : checkStruct d = false) :
    buildType d = .err ∧ ∀ vals, wrap d vals = .panic := by
  simp [buildType, wrap, h]

/-- If Check accepts the struct, BuildType and Wrap succeed (the relationship loop never
indexes out of range) and agree on name, attributes and relationships. -/
theorem C20_accept_build (d : StructDecl) (h : checkStruct d = true) :
    ∃ τ, buildType d = .ok τ ∧ ∀ vals, ∃ w, wrap d vals = .ok w ∧ w.decl = d ∧ w.vals = vals ∧
      w.typ = τ.name ∧ w.attrs = τ.attrs ∧ w.rels = τ.rels :=
  ⟨_, buildType_ok h, fun vals => ⟨_, wrap_ok h vals, rfl, rfl, rfl, rfl, rfl⟩⟩

/-- The built type carries the ID tag's name and exactly the tagged attributes and
relationships, with the kind, nullability, cardinality, target and inverse declared. -/
theorem C20_type_exact (d : StructDecl) (h : checkStruct d = true) (τ : Typ)
    (hb : buildType d = .ok τ) :
    (∃ idf ∈ d, idf.name = sID ∧ τ.name = idf.api) ∧
    (∀ f ∈ d, f.name ≠ sID → f.isAttr = true → ∃ k n, f.ty = .attr k n ∧
      τ.attrs.get? f.json = some { name := f.json, ty := k.code, nullable := n }) ∧
    (∀ key a, τ.attrs.get? key = some a → ∃ f ∈ d, f.isAttr = true ∧ f.json = key) ∧
    (∀ f ∈ d, f.name ≠ sID → f.isRelTagged = true → ∃ target inv,
      (splitComma f.api)[1]? = some target ∧
      inv = (if (splitComma f.api).length = 3 then ((splitComma f.api)[2]?).getD [] else []) ∧
      τ.rels.get? f.json = some
        { fromType := τ.name, fromName := f.json, toOne := decide (f.ty ≠ .strs),
          toType := target, toName := inv, fromOne := false }) ∧
    (∀ key r, τ.rels.get? key = some r → ∃ f ∈ d, f.isRelTagged = true ∧ f.json = key) := by
  have c := checkFacts h
  rw [buildType_ok h, Res.ok.injEq] at hb
  subst hb
  refine ⟨c.typeName, ?_, ?_, ?_, ?_⟩
  · intro f hf hne ha
    obtain ⟨k, n, hk⟩ := c.attrs f hf ha
    refine ⟨k, n, hk, ?_⟩
    show (structAttrs d).get? f.json = _
    rw [c.attrs_get? hf hne ha]
    simp [attrOf, hk]
  · intro key a hg
    obtain ⟨f, hf, ha, hx⟩ := structAttrs_mem (GoMap.mem_of_get? hg)
    exact ⟨f, hf, ha, (Prod.mk.inj hx).1.symm⟩
  · intro f hf hne hr
    have hlen := (c.rels f hf hr).1
    refine ⟨(splitComma f.api)[1], _, List.getElem?_eq_getElem (by omega), rfl, ?_⟩
    show (relsOf d).get? f.json = _
    rw [c.rels_get? hf hne hr]
    simp [relOf, List.getElem?_eq_getElem (show 1 < (splitComma f.api).length by omega)]
  · intro key r hg
    obtain ⟨f, hf, hr, hx⟩ := relsOf_mem (GoMap.mem_of_get? hg)
    exact ⟨f, hf, hr, (Prod.mk.inj hx).1.symm⟩

/-- With Go's single `ID` field, an attribute or relationship field is never the ID field
(so the `f.name ≠ sID` side conditions of `C20_type_exact` and `C20_accept_safe` are
automatically met by every tagged field). -/
theorem C20_fields_not_ID (d : StructDecl) (h : checkStruct d = true) (hs : SingleID d) :
    ∀ f ∈ d, (f.isAttr = true ∨ f.isRelTagged = true) → f.name ≠ sID :=
  fun _ hf hfld => (checkFacts h).field_not_ID hs hf hfld

/-- A freshly created instance (all fields zero) is well typed. -/
theorem C20_zero_WT (d : StructDecl) (h : checkStruct d = true) :
    ∃ w, wrap d (Wrapped.zeroVals d) = .ok w ∧ w.WT :=
  ⟨_, wrap_mkW h _, WT_zero d⟩

/-- On a well-typed wrapped value of an accepted struct nothing panics: (a) Get on every
attribute / relationship name, with the dynamic type the library asserts for relationships;
(b) Get "id"; (c) Set of every declared field with a value of the field's type, or with nil,
which is then read back and disturbs no other name; (d) Set "id"; (e) New; (f) Copy. -/
theorem C20_accept_safe (d : StructDecl) (h : checkStruct d = true) (hs : SingleID d)
    (vals : List GoVal) (w : Wrapped) (hw : wrap d vals = .ok w) (hwt : w.WT) :
    -- (a)
    (∀ key ∈ w.attrs.keys ++ w.rels.keys, ∃ v, w.get key = .ok v) ∧
    (∀ key r, w.rels.get? key = some r → ∃ v, w.get key = .ok v ∧
      (if r.toOne = true then ∃ id, v = .val .string (.s id) else ∃ l, v = .strs l)) ∧
    -- (b)
    w.get idName = .ok (.val .string (.s w.getID)) ∧
    -- (c)
    (∀ f ∈ d, f.name ≠ sID → (f.isAttr = true ∨ f.isRelTagged = true) →
      (∀ v, f.ty.accepts v = true → v.wellFormed = true →
        ∃ w', w.set f.json v = .ok w' ∧ wrap d w'.vals = .ok w' ∧ w'.WT ∧
          w'.get f.json = .ok (match v with | .ptr _ none => .nil | v => v) ∧
          ∀ key, key ≠ f.json → w'.get key = w.get key) ∧
      (∃ w', w.set f.json .nil = .ok w' ∧ wrap d w'.vals = .ok w' ∧ w'.WT ∧
          w'.get f.json = .ok (match f.ty.zero with | .ptr _ none => .nil | z => z) ∧
          (∀ k, f.ty = .attr k true → w'.get f.json = .ok .nil) ∧
          ∀ key, key ≠ f.json → w'.get key = w.get key)) ∧
    -- (d)
    (∀ v, ∃ w', w.set idName v = .ok w' ∧ wrap d w'.vals = .ok w' ∧ w'.WT ∧
      w'.getID = (match v with | .val .string (.s id) => id | _ => [])) ∧
    -- (e)
    (∃ n, w.new = .ok n ∧ n.WT) ∧
    -- (f)
    (∃ c, w.copy = .ok c ∧ c.WT) := by
  have c := checkFacts h
  have e := eq_mkW_of_wrap h hw
  subst e
  have hread : ∀ u : GoVal, (match u with | .ptr _ none => GoVal.nil | v => v) = u.read := by
    intro u
    cases u with
    | ptr k p => cases p <;> rfl
    | val k p => rfl
    | strs l => rfl
    | nil => rfl
    | other n => rfl
  refine ⟨fun key hk => safe_get c hs hwt hk, fun key r hr => safe_get_rel c hs hwt hr,
    by simp [Wrapped.get], ?_, ?_, ?_, ?_⟩
  · intro f hf hne hfld
    obtain ⟨h1, vs, h2, h3, h4, h5⟩ := safe_set c hwt hf hne hfld
    refine ⟨?_, _, h2, wrap_mkW h _, h3, by rw [hread]; exact h4, ?_, h5⟩
    · intro v hv hwf
      obtain ⟨vs, g1, g2, g3, g4⟩ := h1 v hv hwf
      exact ⟨_, g1, wrap_mkW h _, g2, by rw [hread]; exact g3, g4⟩
    · intro k hk
      rw [h4, hk, zero_read_nullable]
  · intro v
    obtain ⟨vs, h1, h2, h3⟩ := safe_setID c hwt v
    exact ⟨_, h1, wrap_mkW h _, h2, h3⟩
  · exact ⟨_, wrap_mkW h _, WT_zero d⟩
  · obtain ⟨vs, h1, h2⟩ := copy_mkW h hs hwt
    exact ⟨_, h1, h2⟩

/-! ### Non-vacuity: a concrete accepted struct

```go
type Article struct {
    ID       string   `json:"id" api:"articles"`
    Title    string   `json:"title" api:"attr"`
    Subtitle *string  `json:"subtitle" api:"attr"`
    Author   string   `json:"author" api:"rel,people"`
    Comments []string `json:"comments" api:"rel,comments,article"`
}
```
-/
def exampleDecl : StructDecl :=
  [ { name := sID, ty := .attr .string false, json := idName, api := gs "articles" },
    { name := gs "Title", ty := .attr .string false, json := gs "title", api := sAttr },
    { name := gs "Subtitle", ty := .attr .string true, json := gs "subtitle", api := sAttr },
    { name := gs "Author", ty := .attr .string false, json := gs "author", api := gs "rel,people" },
    { name := gs "Comments", ty := .strs, json := gs "comments", api := gs "rel,comments,article" } ]

theorem exampleDecl_check : checkStruct exampleDecl = true := by decide +kernel
theorem exampleDecl_singleID : SingleID exampleDecl := by unfold SingleID; decide +kernel
theorem exampleDecl_buildType : buildType exampleDecl = .ok
    { name := gs "articles",
      attrs := [ (gs "title", { name := gs "title", ty := 1, nullable := false }),
                 (gs "subtitle", { name := gs "subtitle", ty := 1, nullable := true }) ],
      rels := [ (gs "author", { fromType := gs "articles", fromName := gs "author", toOne := true,
                                toType := gs "people", toName := [], fromOne := false }),
                (gs "comments", { fromType := gs "articles", fromName := gs "comments",
                                  toOne := false, toType := gs "comments",
                                  toName := gs "article", fromOne := false }) ] } := by
  rw [buildType_ok exampleDecl_check]; decide +kernel

example : checkStruct exampleDecl = true := exampleDecl_check
example : SingleID exampleDecl := exampleDecl_singleID
example : buildType exampleDecl = .ok
    { name := gs "articles",
      attrs := [ (gs "title", { name := gs "title", ty := 1, nullable := false }),
                 (gs "subtitle", { name := gs "subtitle", ty := 1, nullable := true }) ],
      rels := [ (gs "author", { fromType := gs "articles", fromName := gs "author", toOne := true,
                                toType := gs "people", toName := [], fromOne := false }),
                (gs "comments", { fromType := gs "articles", fromName := gs "comments",
                                  toOne := false, toType := gs "comments",
                                  toName := gs "article", fromOne := false }) ] } := exampleDecl_buildType

#print axioms C20_reject
#print axioms C20_accept_build
#print axioms C20_type_exact
#print axioms C20_fields_not_ID
#print axioms C20_zero_WT
#print axioms C20_accept_safe
end Jsonapi
