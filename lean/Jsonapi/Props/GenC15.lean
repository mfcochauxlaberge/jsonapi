/-
For the schema lookups (C12's read-only queries, C14's "lookups agree with the list of
types", C15's `GetType` as the missing-type signal): `Schema.HasType` and `Schema.GetType`,
as translated from schema.go (Generated/Funcs.lean), are the model's.
-/
import Jsonapi.Generated.Funcs
import Jsonapi.Model.Schema
namespace Jsonapi

theorem Gen_Schema_HasType_eq (s : Schema) (n : GoString) : Gen.Schema_HasType s n = s.hasType n := by
  unfold Gen.Schema_HasType Schema.hasType
  cases s.types.any (fun t => decide (t.name = n)) <;> rfl

theorem Gen_Schema_GetType_eq (s : Schema) (n : GoString) : Gen.Schema_GetType s n = s.getType n := rfl

end Jsonapi

section Axioms
open Jsonapi
#print axioms Gen_Schema_HasType_eq
#print axioms Gen_Schema_GetType_eq
end Axioms
