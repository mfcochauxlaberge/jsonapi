/-
C17S — a SoftResource whose type is edited while it holds values behaves as a plain map
from the current type's field names to values.

Under ANY sequence of `Set(k, v)`, `AddAttr(a)`, `AddRel(r)`, `RemoveField(f)`, `SetType(t')`
the model `Soft` (soft_resource.go: lazy `check()` that zero-fills the fields without a value
and prunes the values of names that are no field only when there are more values than fields;
type edits that leave stale values behind until the next `check()`) refines the plain map
`Spec.SoftSt` of Spec/SoftEdit.lean, whose step is written without `check`: a field gets its
zero value when it (re)appears; a `Set` of an acceptable value replaces, any other `Set` is
ignored; `AddAttr`/`AddRel` of a taken name is a no-op; `RemoveField` drops name and value;
`SetType t'` keeps the value of every name that is a field of both the old and the new type
and gives every other field of `t'` its zero value. The Go-side oracle of the same statement
is the `expect` map of harness/suite_resource.go ("a soft resource whose type is edited while
it holds values").

Domain (`SoftOp.ok`, evaluated for the type current when the operation is issued):
* the start type is well-formed (`TypWF`) and none of its fields is called "id" or ""
  (`Spec.namesOk`, as in C17);
* `AddAttr a` / `AddRel r`: the name is not "id";
* `SetType t'`: `t'` is keyed (`TypKeyed`: map key = stored name, attribute and relationship
  names disjoint - the part of `TypWF` that `check()`'s counting argument needs; what the
  real code does outside is told below), none of its fields is called "id", and a field
  name kept by SetType keeps its definition (`Compat`, the C19 domain decision);
* `Set` with any key and any value (ill-typed ones are ignored) and `RemoveField` of any name
  (a name that is no field included) are unrestricted.
Outside the domain the real code is no plain map (run on the real SoftResource): after
SetType to a type whose map key "x" holds an attribute named "y", `Set("x", v)` is lost at the
next `check()` and both names read nil; after SetType to a type where "a" is an attribute and a
relationship, `fields()` counts "a" twice, the stale value of a dropped field "b" survives the
pruning test and a later `AddAttr(b int)` reads the old string; an attribute called "id" can
never be read (`Get("id")` is the ID) and `Set("id", 5)` resets the ID to "".
What is NOT assumed: that the start resource's stored values are keyed by fields of its type
(`check()` prunes the others before anything can see them: `C17S_refines` holds without it);
`Compat` is not needed for the refinement of reads either (a kept name keeps its stored value
whatever its new definition) - it is what makes every value read well-typed for the current
definition of its field (`C17S_typed`).
-/
import Jsonapi.Proofs.SoftEditLemmas
namespace Jsonapi
open Spec GoMap

/-! ### 1. Refinement -/

/-- One operation in the domain, from related states: related again. -/
theorem C17S_step (s : Soft) (σ : Spec.SoftSt) (h : SoftAbs s σ) (op : SoftOp) (hop : op.ok σ.typ) :
    SoftAbs (s.apply op) (σ.step op) :=
  h.step hop

/-- What the relation says about reads: the resource and the plain map agree on every name;
every field of the current type reads exactly the map's value for it; every other name
but "id" reads nil and is no key of the map; "id" reads the ID; the type (name, attribute
and relationship definitions, hence the field list) is the map's, also as seen through the
Resource interface. -/
theorem C17S_reads (s : Soft) (σ : Spec.SoftSt) (h : SoftAbs s σ) :
    (∀ f, s.get f = σ.get f) ∧
    (∀ f, isField σ.typ f = true → σ.vals.get? f = some (s.get f)) ∧
    (∀ f, f ≠ idName → isField σ.typ f = false → s.get f = .nil ∧ σ.vals.get? f = none) ∧
    s.get idName = .val .string (.s σ.id) ∧
    s.typ = σ.typ ∧ s.view.typeName = σ.typ.name ∧ s.view.attrs = σ.typ.attrs ∧
    s.view.rels = σ.typ.rels ∧ s.view.vals.keys = σ.typ.attrs.keys ++ σ.typ.rels.keys := by
  refine ⟨h.get, ?_, ?_, ?_, h.typ, ?_, ?_, ?_, ?_⟩
  · intro f hf
    have hid : f ≠ idName := fun e => by rw [e, h.noId] at hf; cases hf
    rw [h.get f]
    unfold Spec.SoftSt.get
    rw [if_neg hid, h.vals f, if_pos hf]
    rfl
  · intro f hid hf
    have hv : σ.vals.get? f = none := by rw [h.vals f, hf]; rfl
    refine ⟨?_, hv⟩
    rw [h.get f]
    unfold Spec.SoftSt.get
    rw [if_neg hid, hv]
    rfl
  · rw [Soft.get_id, h.id]
  · show s.typ.name = σ.typ.name
    rw [h.typ]
  · show s.typ.attrs = σ.typ.attrs
    rw [h.typ]
  · show s.typ.rels = σ.typ.rels
    rw [h.typ]
  · rw [← h.typ]
    exact keys_map_mk _ _

/-- Any operation list in the domain, from related states: the final states are related
(so everything `C17S_reads` says holds in every reachable state). -/
theorem C17S_refines_from (s : Soft) (σ : Spec.SoftSt) (h : SoftAbs s σ) (ops : List SoftOp)
    (hok : SoftHistOk σ ops) :
    SoftAbs (s.run ops) (σ.run ops) :=
  h.run hok

/-- A resource as it is found, of a keyed type without a field called "id", against the
plain map that gives every field its stored value, else its zero value. No condition on the
names the resource stores values under. -/
theorem C17S_init (s : Soft) (hk : TypKeyed s.typ) (hid : isField s.typ idName = false) :
    SoftAbs s (Spec.SoftSt.ofSoft s) :=
  SoftAbs.ofSoft s hk hid

/-- The refinement theorem. For every start resource of a well-formed type whose field
names are ok (C17's hypotheses; whatever values it stores) and every operation list in the
domain: after the run, `Get` of every field of the current type is the plain map's value,
every other name but "id" reads nil, the type name and the field list are the plain map's,
and the invariant `SoftAbs` holds again - so the statement covers every reachable state. -/
theorem C17S_refines (s0 : Soft) (ht : TypWF s0.typ) (hn : Spec.namesOk s0.typ = true)
    (ops : List SoftOp) (hok : SoftHistOk (Spec.SoftSt.ofSoft s0) ops) :
    (∀ f, isField ((Spec.SoftSt.ofSoft s0).run ops).typ f = true →
      ((Spec.SoftSt.ofSoft s0).run ops).vals.get? f = some ((s0.run ops).get f)) ∧
    (∀ f, f ≠ idName → isField ((Spec.SoftSt.ofSoft s0).run ops).typ f = false →
      (s0.run ops).get f = .nil ∧ ((Spec.SoftSt.ofSoft s0).run ops).vals.get? f = none) ∧
    (s0.run ops).get idName = .val .string (.s ((Spec.SoftSt.ofSoft s0).run ops).id) ∧
    (s0.run ops).typ = ((Spec.SoftSt.ofSoft s0).run ops).typ ∧
    (s0.run ops).view.typeName = ((Spec.SoftSt.ofSoft s0).run ops).typ.name ∧
    (s0.run ops).view.vals.keys =
      ((Spec.SoftSt.ofSoft s0).run ops).typ.attrs.keys ++ ((Spec.SoftSt.ofSoft s0).run ops).typ.rels.keys ∧
    SoftAbs (s0.run ops) ((Spec.SoftSt.ofSoft s0).run ops) := by
  have h := C17S_refines_from s0 _ (C17S_init s0 ht.keyed (isField_id_of_namesOk hn)) ops hok
  obtain ⟨_, r2, r3, r4, r5, r6, _, _, r9⟩ := C17S_reads _ _ h
  exact ⟨r2, r3, r4, r5, r6, r9, h⟩

/-- Every value of the plain map (hence every value read from a field, `C17S_reads`) is
acceptable for the current definition of its field, or is that definition's zero value, in
every reachable state: this is what `Compat` ("a name kept by SetType keeps its definition")
buys. The start state of a resource that stores nothing satisfies it (`SoftTyped.ofSoft_empty`). -/
theorem C17S_typed (s : Soft) (σ : Spec.SoftSt) (h : SoftAbs s σ) (hty : SoftTyped σ)
    (ops : List SoftOp) (hok : SoftHistOk σ ops) :
    ∀ f, isField (σ.run ops).typ f = true →
      accepts (σ.run ops).typ f ((s.run ops).get f) = true ∨
      (s.run ops).get f = fieldZero (σ.run ops).typ f := by
  intro f hf
  have h' := h.run hok
  have hv := (C17S_reads _ _ h').2.1 f hf
  exact SoftTyped.run h hty hok f _ hv

/-! ### 2. Corollaries, on the model alone

They hold for every resource whose type is keyed - by `C17S_refines_from` every reachable
state - and need no operation history. -/

/-- `AddAttr` of a free name: the new attribute reads its zero value, every other name
reads what it read before (and is a field iff it was). -/
theorem C17S_addAttr_zero (s : Soft) (hk : TypKeyed s.typ) (a : Attr) (hid : a.name ≠ idName)
    (hfresh : isField s.typ a.name = false) :
    isField (s.addAttr a).typ a.name = true ∧ (s.addAttr a).get a.name = a.zero ∧
    ∀ f, f ≠ a.name → isField (s.addAttr a).typ f = isField s.typ f ∧ (s.addAttr a).get f = s.get f := by
  obtain ⟨t, id, d⟩ := s
  rw [Soft.addAttr_eq hk, if_neg (Bool.eq_false_iff.1 hfresh)]
  have hk' := hk.setAttr hfresh
  refine ⟨isField_setAttr a, ?_, fun f hf => ?_⟩
  · exact (Soft.get_retyped_new hk hk' id d hfresh (isField_setAttr a) hid).trans (fieldZero_setAttr a)
  · have e := (SameDef.setAttr t hf).isField
    exact ⟨e, Soft.get_retyped_same hk hk' id d f e⟩

/-- `AddAttr` of a taken name (attribute or relationship): nothing happens. -/
theorem C17S_addAttr_taken (s : Soft) (hk : TypKeyed s.typ) (a : Attr)
    (htaken : isField s.typ a.name = true) :
    (s.addAttr a).typ = s.typ ∧ ∀ f, (s.addAttr a).get f = s.get f := by
  obtain ⟨t, id, d⟩ := s
  rw [Soft.addAttr_eq hk, if_pos htaken]
  exact ⟨rfl, fun f => Soft.get_retyped_same hk hk id d f rfl⟩

/-- `AddRel` of a free name: the new relationship reads its zero value ("" / empty list). -/
theorem C17S_addRel_zero (s : Soft) (hk : TypKeyed s.typ) (r : Rel) (hid : r.fromName ≠ idName)
    (hfresh : isField s.typ r.fromName = false) :
    isField (s.addRel r).typ r.fromName = true ∧ (s.addRel r).get r.fromName = r.zero ∧
    ∀ f, f ≠ r.fromName → isField (s.addRel r).typ f = isField s.typ f ∧ (s.addRel r).get f = s.get f := by
  obtain ⟨t, id, d⟩ := s
  rw [Soft.addRel_eq hk, if_neg (Bool.eq_false_iff.1 hfresh)]
  have hk' := hk.setRel hfresh
  refine ⟨isField_setRel r, ?_, fun f hf => ?_⟩
  · exact (Soft.get_retyped_new hk hk' id d hfresh (isField_setRel r) hid).trans
      (fieldZero_setRel r hfresh)
  · have e := (SameDef.setRel t hf).isField
    exact ⟨e, Soft.get_retyped_same hk hk' id d f e⟩

/-- `RemoveField`: the name is no field any more and reads nil; every other name reads what
it read before (and is a field iff it was). Also for a name that was no field. -/
theorem C17S_removeField (s : Soft) (hk : TypKeyed s.typ) (f0 : GoString) :
    isField (s.removeField f0).typ f0 = false ∧
    (f0 ≠ idName → (s.removeField f0).get f0 = .nil) ∧
    ∀ f, f ≠ f0 → isField (s.removeField f0).typ f = isField s.typ f ∧
      (s.removeField f0).get f = s.get f := by
  obtain ⟨t, id, d⟩ := s
  rw [Soft.removeField_eq]
  have hk' := hk.without f0
  have h0 : isField (t.without f0) f0 = false := by
    rw [isField_without, decide_eq_false (not_not_intro rfl), Bool.false_and]
  refine ⟨h0, fun hid => ?_, fun f hf => ?_⟩
  · rw [Soft.get_retyped hk hk', if_neg hid, h0]
    rfl
  · have e := (SameDef.without t hf).isField
    exact ⟨e, Soft.get_retyped_same hk hk' id d f e⟩

/-- `SetType`: a name that is a field of the old and of the new type keeps its value -
also across two `SetType` calls in a row with nothing reading the resource in between (the
second call's `check()` runs against the first call's type). -/
theorem C17S_setType_kept (s : Soft) (hk : TypKeyed s.typ) (t1 : Typ) (h1 : TypKeyed t1)
    (f : GoString) (hf : isField s.typ f = true) (hf1 : isField t1 f = true) :
    (s.setType t1).get f = s.get f ∧
    ∀ t2, TypKeyed t2 → isField t2 f = true → ((s.setType t1).setType t2).get f = s.get f := by
  obtain ⟨t, id, d⟩ := s
  have k1 := Soft.get_retyped_same hk h1 id d f (hf1.trans hf.symm)
  rw [Soft.setType_eq]
  refine ⟨k1, fun t2 h2 hf2 => ?_⟩
  rw [Soft.setType_eq, ← k1]
  exact Soft.get_retyped_same h1 h2 id _ f (hf2.trans hf1.symm)

/-- `SetType`: a field of the new type that was no field reads its zero value; and across
two `SetType` calls in a row, a field of the second type that is no field of the first reads
its zero value (whether or not the resource had a field of that name before the first). -/
theorem C17S_setType_fresh (s : Soft) (hk : TypKeyed s.typ) (t1 : Typ) (h1 : TypKeyed t1)
    (f : GoString) (hid : f ≠ idName) :
    (isField s.typ f = false → isField t1 f = true → (s.setType t1).get f = fieldZero t1 f) ∧
    (∀ t2, TypKeyed t2 → isField t1 f = false → isField t2 f = true →
      ((s.setType t1).setType t2).get f = fieldZero t2 f) := by
  obtain ⟨t, id, d⟩ := s
  refine ⟨fun hf hf1 => ?_, fun t2 h2 hf1 hf2 => ?_⟩
  · rw [Soft.setType_eq]; exact Soft.get_retyped_new hk h1 id d hf hf1 hid
  · rw [Soft.setType_eq, Soft.setType_eq]; exact Soft.get_retyped_new h1 h2 id _ hf1 hf2 hid

/-- `Set` on any keyed resource - in particular right after any type edit: an acceptable
value for a field is read back (`Spec.stored`: the value itself; the typed nil for an untyped
nil given to a nullable attribute) and every other name reads what it read before; a value
that is not acceptable changes no read. -/
theorem C17S_set_get (s : Soft) (hk : TypKeyed s.typ) (k : GoString) (v : GoVal) (hid : k ≠ idName) :
    (accepts s.typ k v = true →
      (s.set k v).get k = stored s.typ k v ∧ ∀ f, f ≠ k → (s.set k v).get f = s.get f) ∧
    (accepts s.typ k v = false → ∀ f, (s.set k v).get f = s.get f) ∧
    (s.set k v).typ = s.typ := by
  obtain ⟨t, id, d⟩ := s
  rw [Soft.set_eq t id d k v hid]
  refine ⟨?_, ?_, rfl⟩
  · intro hacc
    simp only [hacc, if_true]
    have hkf := accepts_isField hacc
    constructor
    · rw [Soft.get_eq hk, if_neg hid, if_pos hkf, get?_set_self]; rfl
    · intro f hf
      rw [Soft.get_eq hk, get?_set_ne _ _ _ _ hf, ← Soft.get_eq hk]
      exact Soft.get_retyped_same hk hk id d f rfl
  · intro hacc f
    simp only [hacc, Bool.false_eq_true, if_false]
    exact Soft.get_retyped_same hk hk id d f rfl

/-- `Set` after any operation of the domain, from any reachable state: the value is read
back iff the field's *current* definition accepts it. -/
theorem C17S_set_after_edit (s : Soft) (σ : Spec.SoftSt) (h : SoftAbs s σ) (op : SoftOp)
    (hop : op.ok σ.typ) (k : GoString) (v : GoVal) (hid : k ≠ idName) :
    (accepts (σ.step op).typ k v = true →
      ((s.apply op).set k v).get k = stored (σ.step op).typ k v ∧
      ∀ f, f ≠ k → ((s.apply op).set k v).get f = (s.apply op).get f) ∧
    (accepts (σ.step op).typ k v = false → ∀ f, ((s.apply op).set k v).get f = (s.apply op).get f) := by
  have h1 := h.step hop
  have hk : TypKeyed (s.apply op).typ := by rw [h1.typ]; exact h1.keyed
  obtain ⟨r1, r2, _⟩ := C17S_set_get (s.apply op) hk k v hid
  rw [h1.typ] at r1 r2
  exact ⟨r1, r2⟩

/-- The instance the oracle exercises most: a freshly added attribute, then a `Set` of a
value of its declared Go type: the value is read back, all other names are untouched. -/
theorem C17S_set_after_addAttr (s : Soft) (hk : TypKeyed s.typ) (a : Attr) (hid : a.name ≠ idName)
    (hfresh : isField s.typ a.name = false) (v : GoVal) (hv : v.attrType = (a.ty, a.nullable)) :
    ((s.addAttr a).set a.name v).get a.name = v ∧
    ∀ f, f ≠ a.name → ((s.addAttr a).set a.name v).get f = s.get f := by
  obtain ⟨_, _, hrest⟩ := C17S_addAttr_zero s hk a hid hfresh
  have hty : (s.addAttr a).typ = { s.typ with attrs := s.typ.attrs.set a.name a } := by
    obtain ⟨t, id, d⟩ := s
    simp only [] at hk hfresh
    rw [Soft.addAttr_eq hk]
    simp only [hfresh, Bool.false_eq_true, if_false]
  have hk' : TypKeyed (s.addAttr a).typ := by rw [hty]; exact hk.setAttr hfresh
  have hacc : accepts (s.addAttr a).typ a.name v = true := by
    rw [hty]; unfold accepts; simp only [get?_set_self, hv, decide_true, Bool.true_or]
  have hst : stored (s.addAttr a).typ a.name v = v := by
    rw [hty]; unfold stored; simp only [get?_set_self, hv, ne_eq, not_true_eq_false, decide_false,
      Bool.and_false, Bool.false_eq_true, if_false]
  obtain ⟨r1, _, _⟩ := C17S_set_get (s.addAttr a) hk' a.name v hid
  obtain ⟨g1, g2⟩ := r1 hacc
  exact ⟨g1.trans hst, fun f hf => (g2 f hf).trans (hrest f hf).2⟩

/-! ### 3. Non-vacuity: a concrete resource and operation list inside the domain -/

/-- Type "t" with an int attribute "a" and a string attribute "b". -/
def C17S_exT : Typ :=
  { name := [116],
    attrs := [([97], { name := [97], ty := 2, nullable := false }),
              ([98], { name := [98], ty := 1, nullable := false })],
    rels := [] }

/-- The new type: "a" kept with the same definition, "b" renamed to "c". -/
def C17S_exT' : Typ :=
  { name := [116],
    attrs := [([97], { name := [97], ty := 2, nullable := false }),
              ([99], { name := [99], ty := 1, nullable := false })],
    rels := [] }

def C17S_exS : Soft := { typ := C17S_exT, id := [], data := [] }

/-- a := 7, b := "x", an ill-typed Set (a := "x", ignored), SetType to the new type. (The
example below goes on with c := "y", RemoveField a and AddAttr a again: a reads zero, not 7.)
The real SoftResource gives the same reads on this list. -/
def C17S_exOps : List SoftOp :=
  [.set [97] (.val .int (.i 7)), .set [98] (.val .string (.s [120])), .set [97] (.val .string (.s [120])),
   .setType C17S_exT']

example :
    SoftHistOk (Spec.SoftSt.ofSoft C17S_exS) C17S_exOps ∧ Spec.namesOk C17S_exS.typ = true ∧
    -- after the run: the kept name reads its value, the renamed one its zero value, the old name nil
    (C17S_exS.run C17S_exOps).get [97] = .val .int (.i 7) ∧
    (C17S_exS.run C17S_exOps).get [99] = .val .string (.s []) ∧
    (C17S_exS.run C17S_exOps).get [98] = .nil ∧
    ((Spec.SoftSt.ofSoft C17S_exS).run C17S_exOps).vals =
      [([97], .val .int (.i 7)), ([99], .val .string (.s []))] ∧
    -- the stale value of "b" is still in the model's data at this point (no check() ran since)
    (C17S_exS.run C17S_exOps).data.get? [98] = some (.val .string (.s [120])) ∧
    -- going on: c := "y"; RemoveField a; AddAttr a (same definition): a reads zero, not 7
    SoftHistOk (Spec.SoftSt.ofSoft C17S_exS)
      (C17S_exOps ++ [.set [99] (.val .string (.s [121])), .removeField [97],
        .addAttr { name := [97], ty := 2, nullable := false }]) ∧
    ((C17S_exS.run (C17S_exOps ++ [.set [99] (.val .string (.s [121])), .removeField [97],
        .addAttr { name := [97], ty := 2, nullable := false }])).get [97] = .val .int (.i 0)) ∧
    ((C17S_exS.run (C17S_exOps ++ [.set [99] (.val .string (.s [121])), .removeField [97],
        .addAttr { name := [97], ty := 2, nullable := false }])).get [99] = .val .string (.s [121])) := by
  decide +kernel

theorem C17S_exT_wf : TypWF C17S_exT :=
  by decide +kernel

example := C17S_refines C17S_exS C17S_exT_wf (by decide +kernel) C17S_exOps (by decide +kernel)
example := C17S_typed C17S_exS _ (C17S_init C17S_exS C17S_exT_wf.keyed (by decide +kernel))
  (SoftTyped.ofSoft_empty _ _) C17S_exOps (by decide +kernel)

end Jsonapi

section Axioms
open Jsonapi
#print axioms C17S_step
#print axioms C17S_reads
#print axioms C17S_refines_from
#print axioms C17S_init
#print axioms C17S_refines
#print axioms C17S_typed
#print axioms C17S_addAttr_zero
#print axioms C17S_addAttr_taken
#print axioms C17S_addRel_zero
#print axioms C17S_removeField
#print axioms C17S_setType_kept
#print axioms C17S_setType_fresh
#print axioms C17S_set_get
#print axioms C17S_set_after_edit
#print axioms C17S_set_after_addAttr
#print axioms C17S_exT_wf
end Axioms
