/-
C08 — String() parses back.

"For every successfully parsed URL, String() returns a URL that parses against the same
schema, and parsing it recovers the same path fragments, resource type and ID,
relationship, field selection, sorting rules, page parameters (of collection URLs) and
filter label or filter tree, so that its String() is the same text again. Two raw URLs
that differ only in the order of differently named query parameters, the order of names
inside fields and include lists, or in empty list items yield the same String()."

`url.Parse` + `Query()` on the emitted text are `Spec.parseRaw` (net/url on the grammar
`String()` emits). The JSON codec of the filter parameter is delegated: `CodecLaws` states
what is assumed of it.

Known, unrepaired defect (pinned by the Go tests): for a type without any field `String()`
emits `fields%5B<t>%`, which does not parse back; `NoEmptySelection` excludes it and
`C08_statement_false` shows the exclusion is needed.
-/
import Jsonapi.Proofs.UrlReparseLemmas
import Jsonapi.Proofs.UrlStringLemmas
import Jsonapi.Proofs.UrlPermLemmas3
namespace Jsonapi
open UrlL

/-- `url.QueryUnescape ∘ url.QueryEscape` and `url.PathUnescape ∘ url.PathEscape` are the
identity on all byte strings, and the escaped texts contain none of the bytes that
structure a URL: no `& = ? #` in a query component, no `/ ? #` in a path segment. -/
theorem C08_unescape_escape (s : GoString) :
    Spec.unescape true (queryEscape s) = some s ∧ Spec.unescape false (pathEscape s) = some s ∧
    (∀ c ∈ queryEscape s, c ≠ 38 ∧ c ≠ 61 ∧ c ≠ 63 ∧ c ≠ 35) ∧
    (∀ c ∈ pathEscape s, c ≠ 47 ∧ c ≠ 63 ∧ c ≠ 35) :=
  ⟨Esc.unescape_queryEscape s, Esc.unescape_pathEscape s, Esc.queryEscape_no_struct s,
    Esc.pathEscape_no_struct s⟩

/-- Parsing `u.String()` gives the path `"/" + join(fragments, "/")` and exactly the emitted
parameters, one value each (`Spec.emittedValues`). `_hfr` (what `parseFragments` guarantees)
is not used by the modelled `url.Parse`; it is kept because the model of `url.Parse` was
validated only on such paths. -/
theorem C08_parse_string (u : URL) (env : StringEnv) (hne : NoEmptySelection u)
    (_hfr : u.fragments ≠ [] ∧ ∀ f ∈ u.fragments, f ≠ [])
    (hfk : u.params.fields.keys.Nodup) (hpk : u.isCol = true → u.params.page.keys.Nodup) :
    Spec.parseRaw (u.string env) = some (Spec.emittedPath u, Spec.emittedValues u env) :=
  Esc.parse_string u env hne hfk hpk

/-! ### 10. re-parsing -/

/-- What is assumed of the delegated JSON codec: `labelBody l` is `json.Marshal(l)` without
the quotes, `labelDec v` is `json.Unmarshal("\"" + v + "\"")` into a string, `filterDec v`
is `json.Unmarshal(v)` into a `Filter` re-marshaled to its canonical text; `Canon f`: `f` is
the canonical text of a filter. -/
structure CodecLaws (labelDec filterDec : GoString → Option GoString)
    (labelBody : GoString → GoString) (Canon : GoString → Prop) : Prop where
  label_rt : ∀ l, labelDec (labelBody l) = some l
  label_ne : ∀ l, l ≠ [] → labelBody l ≠ []
  filter_rt : ∀ f, Canon f → filterDec f = some f
  canon_head : ∀ f, Canon f → f.head? = some 123

/-- the decode results for the `filter` parameter of a values map -/
def c08_reparseFd (labelDec filterDec : GoString → Option GoString)
    (values : GoMap (List GoString)) : FilterDec :=
  { label := labelDec (firstVal ((values.get? sFilter).getD [])),
    filter := filterDec (firstVal ((values.get? sFilter).getD [])) }

/-- the environment of `String()`: the JSON body of the URL's own filter label -/
def c08_env (labelBody : GoString → GoString) (u : URL) : StringEnv :=
  { labelBody := labelBody u.params.filterLabel }

theorem c08_emitted_filter (u : URL) (env : StringEnv)
    (h : u.params.filter ≠ none ∨ u.params.filterLabel ≠ []) :
    (Spec.emittedValues u env).get? sFilter = some [Spec.emittedFilterValue u env] := by
  rw [Esc.emittedValues_eq, List.append_assoc, List.append_assoc, GoMap.get?_append_of_not_mem]
  · unfold Esc.filterVals Spec.emittedFilterValue
    cases hf : u.params.filter with
    | some f => simp [GoMap.get?]
    | none => simp [GoMap.get?, h.resolve_left (fun hn => hn hf)]
  · unfold Esc.fieldVals GoMap.keys
    rw [List.map_map]
    intro hm
    obtain ⟨t, _, e⟩ := List.mem_map.1 hm
    cases (congrArg Esc.fam e : 0 = 1)

/-- The re-parse statement, parametrised by the exclusion imposed on the URL. -/
def C08_reparse_statement (excl : URL → Prop) : Prop :=
  ∀ (σ : Schema) (path : GoString) (values : GoMap (List GoString)) (fd : FilterDec) (u : URL)
    (labelDec filterDec : GoString → Option GoString) (labelBody : GoString → GoString)
    (Canon : GoString → Prop),
    Inv σ → NamesOK σ → CodecLaws labelDec filterDec labelBody Canon →
    newURLFrom σ (some (path, values, fd)) = .ok u → values.keys.Nodup → excl u →
    (∀ f, u.params.filter = some f → Canon f) →
    (u.params.filterLabel ≠ [] → (labelBody u.params.filterLabel).head? ≠ some 123) →
    ∃ u',
      Spec.parseRaw (u.string (c08_env labelBody u)) =
        some (Spec.emittedPath u, Spec.emittedValues u (c08_env labelBody u)) ∧
      newURLFrom σ (some (Spec.emittedPath u, Spec.emittedValues u (c08_env labelBody u),
        c08_reparseFd labelDec filterDec (Spec.emittedValues u (c08_env labelBody u)))) = .ok u' ∧
      u'.fragments = u.fragments ∧ u'.resType = u.resType ∧ u'.resID = u.resID ∧
      u'.rel = u.rel ∧ u'.isCol = u.isCol ∧
      (∀ t, (u'.params.fields.get? t).map Typ.sortStrings =
            (u.params.fields.get? t).map Typ.sortStrings) ∧
      u'.params.sortingRules = u.params.sortingRules ∧
      (u.isCol = true → ∀ k, u'.params.page.get? k = u.params.page.get? k) ∧
      u'.params.filterLabel = u.params.filterLabel ∧ u'.params.filter = u.params.filter ∧
      u'.string (c08_env labelBody u') = u.string (c08_env labelBody u)

/-- The re-parse with the codec laws as they are used: the decoder of the filter object on canonical
text, and the label decoder on the label body AS `String()` WRITES IT (a leading `{` rewritten). -/
theorem C08_reparse_of (σ : Schema) (path : GoString) (values : GoMap (List GoString)) (fd : FilterDec)
    (u : URL) (labelDec filterDec : GoString → Option GoString) (labelBody : GoString → GoString)
    (Canon : GoString → Prop) (hσ : Inv σ) (hn : NamesOK σ)
    (canon_head : ∀ f, Canon f → f.head? = some 123) (filter_rt : ∀ f, Canon f → filterDec f = some f)
    (label_ne : ∀ l, l ≠ [] → labelBody l ≠ [])
    (label_rt : u.params.filterLabel ≠ [] →
      labelDec (rewriteBrace (labelBody u.params.filterLabel)) = some u.params.filterLabel)
    (h : newURLFrom σ (some (path, values, fd)) = .ok u) (hvnd : values.keys.Nodup)
    (hne : NoEmptySelection u) (hcanon : ∀ f, u.params.filter = some f → Canon f) :
    ∃ u',
      Spec.parseRaw (u.string (c08_env labelBody u)) =
        some (Spec.emittedPath u, Spec.emittedValues u (c08_env labelBody u)) ∧
      newURLFrom σ (some (Spec.emittedPath u, Spec.emittedValues u (c08_env labelBody u),
        c08_reparseFd labelDec filterDec (Spec.emittedValues u (c08_env labelBody u)))) = .ok u' ∧
      u'.fragments = u.fragments ∧ u'.resType = u.resType ∧ u'.resID = u.resID ∧
      u'.rel = u.rel ∧ u'.isCol = u.isCol ∧
      (∀ t, (u'.params.fields.get? t).map Typ.sortStrings =
            (u.params.fields.get? t).map Typ.sortStrings) ∧
      u'.params.sortingRules = u.params.sortingRules ∧
      (u.isCol = true → ∀ k, u'.params.page.get? k = u.params.page.get? k) ∧
      u'.params.filterLabel = u.params.filterLabel ∧ u'.params.filter = u.params.filter ∧
      u'.string (c08_env labelBody u') = u.string (c08_env labelBody u) := by
  -- the maps of `u` have unique keys: `newURLFrom_perm` on the identity permutation
  have hu : Perm.UEq u u := by
    have := Perm.newURLFrom_perm σ path values values fd (.refl _) hvnd
    rwa [h] at this
  have hfld := hu.params.fieldsNodup₁
  have hpk := hu.params.pageNodup₁
  -- what the decoders are applied to when `String()` is parsed again: the emitted filter value
  have hfd : u.params.filter ≠ none ∨ u.params.filterLabel ≠ [] →
      c08_reparseFd labelDec filterDec (Spec.emittedValues u (c08_env labelBody u)) =
        { label := labelDec (Spec.emittedFilterValue u (c08_env labelBody u)),
          filter := filterDec (Spec.emittedFilterValue u (c08_env labelBody u)) } := by
    intro hx
    unfold c08_reparseFd
    rw [c08_emitted_filter u _ hx]
    rfl
  obtain ⟨u', h', r1, r2, r3, r4, r5, r6, r7, r8, r9, r10, r11, r12, _⟩ :=
    reparse_core hσ hn path values fd u h hvnd hne (c08_env labelBody u)
      (c08_reparseFd labelDec filterDec (Spec.emittedValues u (c08_env labelBody u)))
      (fun f hf => ⟨canon_head f (hcanon f hf), by
        rw [hfd (.inl (hf ▸ nofun))]
        simp only [Spec.emittedFilterValue, hf]
        exact filter_rt f (hcanon f hf)⟩)
      (fun hf hl => by
        rw [hfd (.inr hl)]
        simp only [Spec.emittedFilterValue, hf, hl, ne_eq, not_false_eq_true, if_true]
        exact ⟨rewriteBrace_ne_nil _ (label_ne _ hl), rewriteBrace_head _, label_rt hl⟩)
  have r6' : ∀ t, (u'.params.fields.get? t).map Typ.sortStrings =
      (u.params.fields.get? t).map Typ.sortStrings := fun t => by
    rw [r6 t]
    cases u.params.fields.get? t <;> simp [DetL.sortStrings_idem]
  refine ⟨u', Esc.parse_string u _ hne hfld (fun _ => hpk), h', r1, r2, r3, r4, r5, r6', r8, r9, r11,
    r12, ?_⟩
  rw [show c08_env labelBody u' = c08_env labelBody u by unfold c08_env; rw [r11]]
  exact Perm.string_canonical u' u _ r1 r5 r11 r12 r8 r6' r7 hfld (fun hc => r9 (r5 ▸ hc))
    (fun _ => r10) (fun _ => hpk)

/-- 10 (and the fixed point). For a URL returned by `NewURLFromRaw` whose selections are all
non-empty, `String()` parses to exactly the emitted parameters, `NewURLFromRaw` accepts them
and recovers fragments, resource type and ID, relationship, collection flag, the field
selection (as sets: `String()` sorts each list), the sorting rules, the page parameters of
collection URLs, the filter label and the filter; and `String()` of the result is the same
text.

Hypotheses beyond the informal statement, each forced by the proof (see the report):
`NamesOK σ` (no comma in field names, no attribute name starting with '-'), unique
parameter names in the original values map (a Go map), the codec laws, canonical filter
text, and a label whose JSON body does not start with '{' (this last hypothesis is removed in
Props/C08G.lean, `C08G_reparse`: `String()` rewrites such a body's first byte to its JSON
escape, `rewriteBrace`, which the label decoder reads back). -/
theorem C08_reparse : C08_reparse_statement NoEmptySelection := by
  intro σ path values fd u labelDec filterDec labelBody Canon hσ hn laws h hvnd hne hcanon hbrace
  -- under `hbrace` the rewrite of url.go leaves the body alone
  exact C08_reparse_of σ path values fd u labelDec filterDec labelBody Canon hσ hn laws.canon_head
    laws.filter_rt laws.label_ne
    (fun hl => by rw [rewriteBrace_of_head _ (hbrace hl)]; exact laws.label_rt _) h hvnd hne hcanon

/-! ### the known defect: a type without any field -/

/-- C08 as worded, without the exclusion of empty selections. -/
def C08_statement : Prop := C08_reparse_statement (fun _ => True)

def c08_tBs : Typ := { name := [98, 115], attrs := [], rels := [] }          -- "bs"
def c08_σ : Schema := { types := [c08_tBs] }
def c08_fd : FilterDec := { label := none, filter := none }
def c08_path : GoString := [47, 98, 115]                                      -- "/bs"
/-- `NewURLFromRaw(schema, "/bs")` -/
def c08_u : URL :=
  { fragments := [[98, 115]], isCol := true, resType := [98, 115], resID := [], rel := default,
    params := { fields := [([98, 115], [])], filterLabel := [], filter := none,
                sortingRules := [idName], page := [], incl := [] } }

theorem c08_σ_inv : Inv c08_σ := by decide +kernel
theorem c08_σ_names : NamesOK c08_σ := by decide +kernel
theorem c08_witness_eval : newURLFrom c08_σ (some (c08_path, [], c08_fd)) = .ok c08_u :=
  eval_no_incl c08_σ c08_path [] c08_fd _ _ _ rfl rfl rfl (by decide +kernel) rfl

/-- `String()` of that URL is `/bs?fields%5Bbs%&sort=id` … -/
theorem C08_known_nofields_string (env : StringEnv) :
    c08_u.string env = gs "/bs?fields%5Bbs%&sort=id" :=
  (eq_gs (by decide +kernel) : c08_u.string { labelBody := [] } = _)

/-- … which `url.Parse` + `Query()` read without the `fields[bs]` parameter (the pair
`fields%5Bbs%` has an invalid escape and is dropped). -/
theorem C08_known_nofields_counterexample (env : StringEnv) :
    Spec.parseRaw (c08_u.string env) = some (gs "/bs", [(sSort, [idName])]) ∧
    (Spec.emittedValues c08_u env).get? (Spec.fieldsName [98, 115]) = some [[]] :=
  (by decide +kernel : Spec.parseRaw (c08_u.string { labelBody := [] }) = _ ∧
    (Spec.emittedValues c08_u { labelBody := [] }).get? _ = _)

/-- Without `NoEmptySelection` the statement is false. -/
theorem C08_statement_false : ¬ C08_statement := by
  intro H
  have laws : CodecLaws (fun v => some v) (fun v => some v) (fun l => l)
      (fun f => f.head? = some 123) :=
    ⟨fun _ => rfl, fun _ h => h, fun _ _ => rfl, fun _ h => h⟩
  obtain ⟨u', hparse, _⟩ := H c08_σ c08_path [] c08_fd c08_u _ _ _ _ c08_σ_inv c08_σ_names laws
    c08_witness_eval List.nodup_nil trivial (by intro f hf; cases hf) (by intro h; exact absurd rfl h)
  rw [(C08_known_nofields_counterexample _).1] at hparse
  have h2 := (C08_known_nofields_counterexample (c08_env (fun l => l) c08_u)).2
  rw [← (Prod.mk.inj (Option.some.inj hparse)).2] at h2
  exact absurd h2 (by decide +kernel)

/-- a type with one attribute: the hypotheses of `C08_reparse` are satisfiable and the
exclusion holds -/
def c08_tAs : Typ :=
  { name := [97, 115], attrs := [([120], { name := [120], ty := 1, nullable := false })], rels := [] }

/-- The defect is not only a malformed parameter: with the types "as" (attribute "x") and
"bs" (no field), the URL for `/as?fields[bs]=` has the String()
`/as?fields%5Bas%5D=x&fields%5Bbs%&sort=x%2Cid`; parsing that text gives a URL without the
entry for "bs", whose String() is a different text. -/
theorem C08_known_nofields_not_fixpoint :
    ∃ u u' pv, newURLFrom { types := [c08_tAs, c08_tBs] }
        (some ([47, 97, 115], [(Spec.fieldsName [98, 115], [[]])], c08_fd)) = .ok u ∧
      u.string { labelBody := [] } = gs "/as?fields%5Bas%5D=x&fields%5Bbs%&sort=x%2Cid" ∧
      u.params.fields.get? [98, 115] = some [] ∧
      Spec.parseRaw (u.string { labelBody := [] }) = some pv ∧
      newURLFrom { types := [c08_tAs, c08_tBs] } (some (pv.1, pv.2, c08_fd)) = .ok u' ∧
      u'.params.fields.get? [98, 115] = none ∧
      u'.string { labelBody := [] } = gs "/as?fields%5Bas%5D=x&sort=x%2Cid" :=
  ⟨_, _, ([47, 97, 115], [(Spec.fieldsName [97, 115], [[120]]), (sSort, [[120, 44, 105, 100]])]),
    eval_no_incl _ _ _ _ _ _ _ rfl rfl rfl (by decide +kernel) rfl,
    eq_gs (by decide +kernel), by decide +kernel, by decide +kernel,
    eval_no_incl _ _ _ _ _ _ _ rfl rfl rfl (by decide +kernel) rfl,
    by decide +kernel, eq_gs (by decide +kernel)⟩

/-! ### why the extra hypotheses of `C08_reparse` are needed -/

/-- `NamesOK` (no comma): with the attributes "a,b" and "c", `/t` has the String()
`/t?fields%5Bt%5D=a%2Cb%2Cc&sort=a%2Cb%2Cc%2Cid`, which parses to the selection `c` and the
rules `c, id, "a,b"`: another URL with another String(). -/
def c08_tComma : Typ :=
  { name := [116],
    attrs := [([97, 44, 98], { name := [97, 44, 98], ty := 1, nullable := false }),
              ([99], { name := [99], ty := 1, nullable := false })], rels := [] }

theorem C08_comma_counterexample :
    ∃ u u' pv, newURLFrom { types := [c08_tComma] } (some ([47, 116], [], c08_fd)) = .ok u ∧
      u.string { labelBody := [] } = gs "/t?fields%5Bt%5D=a%2Cb%2Cc&sort=a%2Cb%2Cc%2Cid" ∧
      Spec.parseRaw (u.string { labelBody := [] }) = some pv ∧
      newURLFrom { types := [c08_tComma] } (some (pv.1, pv.2, c08_fd)) = .ok u' ∧
      u'.params.sortingRules ≠ u.params.sortingRules ∧
      u'.string { labelBody := [] } = gs "/t?fields%5Bt%5D=c&sort=c%2Cid%2Ca%2Cb" :=
  ⟨_, _, ([47, 116], [(Spec.fieldsName [116], [[97, 44, 98, 44, 99]]),
      (sSort, [[97, 44, 98, 44, 99, 44, 105, 100]])]),
    eval_no_incl _ _ _ _ _ _ _ rfl rfl rfl (by decide +kernel) rfl,
    eq_gs (by decide +kernel), by decide +kernel,
    eval_no_incl _ _ _ _ _ _ _ rfl rfl rfl (by decide +kernel) rfl,
    by decide +kernel, eq_gs (by decide +kernel)⟩

/-- `NamesOK` (no leading '-'): with the single attribute "-x", `/t` has the sorting rules
`-x, id`; re-parsing `sort=-x%2Cid` reads "-x" as "descending by x", drops it as invalid and
appends the attribute again: `id, -x`. -/
def c08_tDash : Typ :=
  { name := [116], attrs := [([45, 120], { name := [45, 120], ty := 1, nullable := false })],
    rels := [] }

theorem C08_dash_counterexample :
    ∃ u u' pv, newURLFrom { types := [c08_tDash] } (some ([47, 116], [], c08_fd)) = .ok u ∧
      u.params.sortingRules = [[45, 120], idName] ∧
      Spec.parseRaw (u.string { labelBody := [] }) = some pv ∧
      newURLFrom { types := [c08_tDash] } (some (pv.1, pv.2, c08_fd)) = .ok u' ∧
      u'.params.sortingRules = [idName, [45, 120]] :=
  ⟨_, _, ([47, 116], [(Spec.fieldsName [116], [[45, 120]]), (sSort, [[45, 120, 44, 105, 100]])]),
    eval_no_incl _ _ _ _ _ _ _ rfl rfl rfl (by decide +kernel) rfl,
    by decide +kernel, by decide +kernel,
    eval_no_incl _ _ _ _ _ _ _ rfl rfl rfl (by decide +kernel) rfl, by decide +kernel⟩

/-- Why `String()` rewrites a leading `{` of the label body (url.go; `rewriteBrace` in the
model). The filter value backslash-u007ba is read as the label `{a` (`json.Unmarshal` of the
quoted value), whose JSON body is `{a`; `String()` emits `filter=%5Cu007ba`. Had it emitted
the body as it is (`filter=%7Ba`), the value would start with '{' on re-parsing, be taken for
a filter object and be rejected (`filterDec` fails on `{a`), whatever the label decoder says.
(`C08_reparse` avoids the case by its hypothesis `hbrace`; the re-parse theorems without that
hypothesis, which use the rewrite, are in Props/C08G.lean.) -/
theorem C08_label_brace_counterexample :
    ∃ u, newURLFrom { types := [c08_tAs] }
        (some ([47, 97, 115], [(sFilter, [[92, 117, 48, 48, 55, 98, 97]])],
          { label := some [123, 97], filter := none })) = .ok u ∧
      u.params.filterLabel = [123, 97] ∧
      u.string { labelBody := [123, 97] } =
        gs "/as?fields%5Bas%5D=x&filter=%5Cu007ba&sort=x%2Cid" ∧
      Spec.parseRaw (gs "/as?fields%5Bas%5D=x&filter=%7Ba&sort=x%2Cid") =
        some (gs "/as", [(Spec.fieldsName [97, 115], [[120]]), (sFilter, [[123, 97]]),
          (sSort, [[120, 44, 105, 100]])]) ∧
      ∀ l, newURLFrom { types := [c08_tAs] }
        (some (gs "/as", [(Spec.fieldsName [97, 115], [[120]]), (sFilter, [[123, 97]]),
          (sSort, [[120, 44, 105, 100]])], { label := l, filter := none })) = .err := by
  refine ⟨_, eval_no_incl _ _ _ _ _ _ _ rfl rfl rfl (by decide +kernel) rfl, rfl,
    eq_gs (by decide +kernel), ?_, fun l => ?_⟩
  · rw [gs_ofList, gs_ofList]; decide +kernel
  · -- the filter value starts with '{' and `filter := none`: `NewSimpleURL` fails
    have : newSimpleURL (gs "/as") [(Spec.fieldsName [97, 115], [[120]]), (sFilter, [[123, 97]]),
        (sSort, [[120, 44, 105, 100]])] { label := l, filter := none } = .err := rfl
    unfold newURLFrom
    simp only [this]

/-! ### 11. `String()` is canonical -/

/-- `String()` reads the field and page maps only through lookups on their sorted keys,
and each field list only through its sorted copy. -/
theorem C08_canonical (u₁ u₂ : URL) (env : StringEnv)
    (hfr : u₁.fragments = u₂.fragments) (hcol : u₁.isCol = u₂.isCol)
    (hfl : u₁.params.filterLabel = u₂.params.filterLabel) (hf : u₁.params.filter = u₂.params.filter)
    (hs : u₁.params.sortingRules = u₂.params.sortingRules)
    (hfields : ∀ t, (u₁.params.fields.get? t).map Typ.sortStrings =
      (u₂.params.fields.get? t).map Typ.sortStrings)
    (hk₁ : u₁.params.fields.keys.Nodup) (hk₂ : u₂.params.fields.keys.Nodup)
    (hpage : u₁.isCol = true → ∀ k, u₁.params.page.get? k = u₂.params.page.get? k)
    (hpk₁ : u₁.isCol = true → u₁.params.page.keys.Nodup)
    (hpk₂ : u₁.isCol = true → u₂.params.page.keys.Nodup) :
    u₁.string env = u₂.string env :=
  Perm.string_canonical u₁ u₂ env hfr hcol hfl hf hs hfields hk₁ hk₂ hpage hpk₁ hpk₂

/-- Empty list items vanish: a comma-separated list parses to the items of its two halves. -/
theorem C08_empty_items (a b : GoString) :
    parseCommaList (a ++ [44] ++ b) = parseCommaList a ++ parseCommaList b :=
  Num.parseCommaList_append a b

/-- Reordering the names of a `fields[t]` value permutes the selection (and does not change
whether it is rejected for duplicates). -/
theorem C08_fields_perm (typ : Typ) (l l' : List GoString) (h : l.Perm l') :
    (Perm.sel typ l).Perm (Perm.sel typ l') ∧
    (((Perm.sel typ l).eraseDups.length ≠ (Perm.sel typ l).length) ↔
      ((Perm.sel typ l').eraseDups.length ≠ (Perm.sel typ l').length)) :=
  Perm.sel_perm typ h

/-- Reordering the requested inclusions does not change the pruned (sorted first) list. -/
theorem C08_include_perm (l l' : List GoString) (h : l.Perm l') :
    pruneIncludes (Typ.sortStrings l) = pruneIncludes (Typ.sortStrings l') :=
  Perm.prune_sort_perm l l' h

/-- The second sentence: two values maps that differ in the order of the (uniquely named)
parameters, in the order of the names inside a `fields[..]` value or inside the `include`
values, or in empty list items (`Perm.E` compares the parsed item lists up to permutation)
are both accepted or both rejected, and give the same `String()`. -/
theorem C08_order_value_independent (σ : Schema) (p : GoString)
    (values₁ values' values₂ : GoMap (List GoString)) (fd : FilterDec)
    (hp : values₁.Perm values') (hE : Forall2 Perm.E values' values₂) (hnd : values₁.keys.Nodup) :
    (newURLFrom σ (some (p, values₁, fd))).isOk = (newURLFrom σ (some (p, values₂, fd))).isOk ∧
    ∀ u₁ u₂, newURLFrom σ (some (p, values₁, fd)) = .ok u₁ →
      newURLFrom σ (some (p, values₂, fd)) = .ok u₂ → ∀ env, u₁.string env = u₂.string env := by
  refine ⟨Perm.order_value_independent_isOk σ p values₁ values' values₂ fd hp hE hnd, ?_⟩
  intro u₁ u₂ h₁ h₂
  exact Perm.UEqP_string_eq (Perm.order_value_independent σ p values₁ values' values₂ fd hp hE hnd u₁ u₂ h₁ h₂)

/-! ### non-vacuity -/

example : (newURLFrom { types := [c08_tAs] } (some ([47, 97, 115], [], c08_fd))).isOk = true := by
  decide +kernel

example : Spec.parseRaw (gs "/as?fields%5Bas%5D=x&sort=x%2Cid") =
    some (gs "/as", [(Spec.fieldsName [97, 115], [[120]]), (sSort, [[120, 44, 105, 100]])]) := by
  rw [gs_ofList, gs_ofList]; decide +kernel

#print axioms C08_unescape_escape
#print axioms C08_parse_string
#print axioms C08_reparse
#print axioms C08_known_nofields_counterexample
#print axioms C08_known_nofields_string
#print axioms C08_statement_false
#print axioms C08_known_nofields_not_fixpoint
#print axioms C08_comma_counterexample
#print axioms C08_dash_counterexample
#print axioms C08_label_brace_counterexample
#print axioms C08_canonical
#print axioms C08_empty_items
#print axioms C08_fields_perm
#print axioms C08_include_perm
#print axioms C08_order_value_independent

end Jsonapi
