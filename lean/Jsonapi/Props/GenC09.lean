/-
T1b for C09: `sortedResources.Less` (range.go) translated from the source on this
run - the loop over the sorting rules with its `-` prefixes, the `id` rule, the 25-case type switch
over the Go types of attribute values with the type assertions on the second value, the nil
ordering of pointers, the byte loop of `[]byte`, `continue` on ties - is the model's `less`
(Model/Range.lean) for every rule list and every pair of resources whose attribute values are
images of Go values. The resource access `s.col[i]` is the list read (out of range: panic), the
call `getAttrVal` is a parameter of the translated function, instantiated here with the model's.
The known finding C09-sort-uint64-family shows in the translation as in the model: `uint64`,
`*uint64` and `*[]byte` have no arm in the generated `match`, values of these types compare as ties
(`Gen_sortedResources_Less_uint64_tie`).
-/
import Jsonapi.Proofs.GenC09Lemmas
namespace Jsonapi
set_option linter.unusedSimpArgs false
set_option linter.unusedVariables false

/-- range.go `sortedResources.Less`, for every rule list, every two positions in range, every
answer `same'` to the comparisons of two non-nil pointers, and attribute values that are images
of Go values (`GoVal.WF`). -/
theorem Gen_sortedResources_Less_eq (same' : Nat → List Nat → Bool) (s : Gen.sortedResources) (i j : Nat) (a b : ResView)
    (hi : s.col[i]? = some a) (hj : s.col[j]? = some b)
    (hwa : ∀ name, (getAttrVal a name).WF) (hwb : ∀ name, (getAttrVal b name).WF) :
    Gen.sortedResources_Less s (i : Int) (j : Int) getAttrVal same' = less s.rules a b := by
  unfold Gen.sortedResources_Less
  rw [less_fold a b]
  · rw [less_eq_lessOpt]; cases lessOpt a b s.rules <;> rfl
  · intro v p; rfl
  · intro r n
    have hi' : (if (0 : Int) ≤ (i : Int) then s.col[Int.toNat (i : Int)]? else none) = some a := by
      simp [hi]
    have hj' : (if (0 : Int) ≤ (j : Int) then s.col[Int.toNat (j : Int)]? else none) = some b := by
      simp [hj]
    rw [hi', hj']
    dsimp only
    rw [splitRule_eq, ruleOutcome]
    rcases splitRule r with ⟨inverse, name⟩
    dsimp only
    by_cases hid : name = idName
    · rw [if_pos (decide_eq_true (show name = [105, 100] from hid)), if_pos hid, decide_ne_bool]
    · have hid' : ¬ name = [105, 100] := hid
      rw [if_neg (fun h => hid' (of_decide_eq_true h)), if_neg hid]
      have wv := hwa name
      have wv2 := hwb name
      generalize getAttrVal a name = v at wv ⊢
      generalize getAttrVal b name = v2 at wv2 ⊢
      cases v with
      | val k p =>
        cases k
        case uint64 => rw [lessVal_val_gen]; rfl
        all_goals
          conv => lhs; whnf
          rw [lessVal_val_outcome _ _ _ _ rfl]
          revert v2 p
          refine ValArm.eq (c := (kindCmp _).c) (r := lessR _ inverse) (pn := some .panic) ?_
            (kindCmp _).readBy (fun p p' => (lessPay inverse p p').outcome) (lessR_eq _ inverse)
          refine ⟨fun a b => ?_, fun a v hv => ?_⟩
          · first
            | rfl
            | (dsimp only [kindCmp, lessR, bytesLess]
               rw [lexFirst_fold inverse _ _ _ (fun i => by simp only [decide_ne_bool]) (fun v i => rfl)]
               rfl)
          · eval_other_forms
      | ptr k p =>
        cases k
        case uint64 => rw [lessVal_ptr_gen]; rfl
        case bytes => rw [lessVal_ptr_gen]; rfl
        all_goals
          conv => lhs; whnf
          rw [lessVal_ptr_outcome _ _ _ _ rfl]
          revert v2 p
          refine PtrArm.eq_of_assert (c := (kindCmp _).c)
            (r := fun s a b => if (s && decide (a = b)) then none else lessR _ inverse a b) ?_
            (kindCmp _).readBy (fun p p' => (lessPay inverse p p').outcome) (lessR_eq_ptr _ inverse)
          refine ⟨rfl, fun _ => rfl, fun _ => rfl, fun _ _ => ⟨_, rfl⟩, fun v hv => ?_, fun a v hv => ?_⟩ <;>
            eval_other_forms
      | strs l => rw [lessVal_strs]; rfl
      | nil => rw [lessVal_nil]; rfl
      | other t => rw [lessVal_other]; rfl


/-- Outside the collection the code indexes `s.col` and panics - but only when there is a rule:
with no rule it returns false without touching the slice. -/
theorem Gen_sortedResources_Less_no_rules (same' : Nat → List Nat → Bool) (col : List ResView) (i j : Int)
    (g : ResView → GoString → GoVal) :
    Gen.sortedResources_Less { rules := [], col := col } i j g same' = .ok false := by
  rfl

/-- The known finding C09-sort-uint64-family as the translated code shows it: two resources whose
`uint64` attribute holds 1 and 2 are not ordered either way (the type switch has no case for the
type, the loop goes on to the next rule and falls off its end). -/
theorem Gen_sortedResources_Less_uint64_tie (same' : Nat → List Nat → Bool) (a b : ResView) (name : GoString)
    (hn : splitRule name = (false, name)) (hid : name ≠ idName) :
    let g : ResView → GoString → GoVal := fun r _ => .val .uint64 (.i (Int.ofNat (r.id.length + 1)))
    Gen.sortedResources_Less { rules := [name], col := [{ a with id := [] }, { b with id := [0] }] } 0 1 g same' = .ok false ∧
    Gen.sortedResources_Less { rules := [name], col := [{ a with id := [] }, { b with id := [0] }] } 1 0 g same' = .ok false := by
  have hid' : ¬ name = [105, 100] := hid
  have hs := splitRule_eq name
  rw [hn] at hs
  constructor <;>
  · simp only [Gen.sortedResources_Less, List.zipIdx_cons, List.zipIdx_nil, List.foldl_cons, List.foldl_nil, hs]
    simp [hid']

end Jsonapi

section Axioms
open Jsonapi
#print axioms Gen_sortedResources_Less_eq
#print axioms Gen_sortedResources_Less_no_rules
#print axioms Gen_sortedResources_Less_uint64_tie
end Axioms
