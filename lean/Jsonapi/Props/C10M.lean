/-
C10 (continued) — the algebraic laws of the property, transferred from the specification
(`Props/C10.lean`) to the MODEL of filter.go: `checkVal` (one comparison) and `isAllowed`
(one leaf / one `and`/`or` node of a filter tree); and what equality of two to-many ID
lists is: the two lists are permutations of each other.
-/
import Jsonapi.Props.C10
import Jsonapi.Proofs.DetLemmas
namespace Jsonapi
open Spec

/-! ### Equality of two to-many ID lists is "permutation of each other" -/

/-- The specification's equality of two ID lists (same length and equal once sorted) holds
iff the lists are permutations of each other (same IDs with the same multiplicities). -/
theorem C10_valEq_ids_iff_perm (a b : List GoString) :
    Spec.valEq (.ids a) (.ids b) = true ↔ a.Perm b := by
  simp only [valEq, Bool.decide_and, Bool.and_eq_true, decide_eq_true_eq]
  constructor
  · rintro ⟨_, h⟩
    exact (DetL.sortStrings_perm a).symm.trans (h ▸ DetL.sortStrings_perm b)
  · intro h
    exact ⟨h.length_eq, DetL.sortStrings_eq_of_perm h⟩

/-- The same, as "equal after sorting" (the length test is implied). -/
theorem C10_valEq_ids_iff_sort (a b : List GoString) :
    Spec.valEq (.ids a) (.ids b) = true ↔ Typ.sortStrings a = Typ.sortStrings b := by
  rw [C10_valEq_ids_iff_perm]
  constructor
  · exact DetL.sortStrings_eq_of_perm
  · intro h
    exact (DetL.sortStrings_perm a).symm.trans (h ▸ DetL.sortStrings_perm b)

/-- Equality of ID lists is not equality as sets: multiplicities count. -/
theorem C10_valEq_ids_not_set_counterexample :
    (∀ x, x ∈ [[97], [97], [98]] ↔ x ∈ [[97], [98], [98]]) ∧
    Spec.valEq (.ids [[97], [97], [98]]) (.ids [[97], [98], [98]]) = false ∧
    checkVal Op.eq (.strs [[97], [97], [98]]) (.strs [[97], [98], [98]]) = .ok false := by
  refine ⟨?_, by decide +kernel, by decide +kernel⟩
  intro x
  simp only [List.mem_cons, List.not_mem_nil, or_false]
  constructor
  · rintro (h | h | h) <;> simp [h]
  · rintro (h | h | h) <;> simp [h]

/-- The model (filter.go `checkSlice`, reached through `checkVal`'s `[]string` case): `=`
between two ID lists holds iff they are permutations of each other, `!=` iff they are not,
and every other operator is false. -/
theorem C10_model_ids_iff_perm (op : GoString) (a b : List GoString) :
    checkVal op (.strs a) (.strs b) =
      .ok (if op = Op.eq then decide (a.Perm b)
           else if op = Op.ne then !decide (a.Perm b) else false) := by
  rw [checkVal_strs]
  have h : (decide (a.length = b.length ∧ Typ.sortStrings a = Typ.sortStrings b)) =
      decide (a.Perm b) := by
    have := C10_valEq_ids_iff_perm a b
    simp only [valEq, decide_eq_true_eq] at this
    exact decide_eq_decide.2 this
  unfold checkSlice
  simp only [h]

/-- …so the verdict on two ID lists does not depend on the order in which either lists
its IDs. -/
theorem C10_model_ids_perm_invariant (op : GoString) (a a' b b' : List GoString)
    (ha : a.Perm a') (hb : b.Perm b') :
    checkVal op (.strs a) (.strs b) = checkVal op (.strs a') (.strs b') := by
  rw [C10_model_ids_iff_perm, C10_model_ids_iff_perm]
  have : decide (a.Perm b) = decide (a'.Perm b') :=
    decide_eq_decide.2 ⟨fun h => ha.symm.trans (h.trans hb), fun h => ha.trans (h.trans hb.symm)⟩
  rw [this]

example : [[121], [122], [121]].Perm [[121], [121], [122]] ∧
    checkVal Op.eq (.strs [[121], [122], [121]]) (.strs [[121], [121], [122]]) = .ok true := by
  decide +kernel

/-! ### One comparison: the model's `checkVal` -/

/-- The pairs (resource value, filter value) `checkVal` is specified on: two ID lists, two
values of one kind, or two pointers of one kind (either may be the nil pointer); payloads
have the shape and range of the kind. This is exactly "both have the Go type of one
attribute declaration", or both are to-many values. -/
def C10_comparable (v c : GoVal) : Bool :=
  match v, c with
  | .strs _, .strs _ => true
  | .val k p, .val k' p' => k = k' && k.payOk p && k.payOk p'
  | .ptr k p, .ptr k' p' => k = k' && p.all k.payOk && p'.all k.payOk
  | _, _ => false

/-- A nil as the library reads it: the typed nil pointer or the untyped nil. -/
def C10_isNil : GoVal → Bool
  | .ptr _ none => true
  | .nil => true
  | _ => false

/-- The payloads of the kinds with an order: all but booleans. -/
def C10_payOrdered : Pay → Bool
  | .b _ => false
  | _ => true

/-- Both values are non-nil and of a kind with an order (not booleans, not ID lists). -/
def C10_ordered (v c : GoVal) : Bool :=
  match sval v, sval c with
  | .pay a, .pay b => C10_payOrdered a && C10_payOrdered b
  | _, _ => false

theorem C10_comparable_of_hasAttrType {v c : GoVal} {k : Kind} {n : Bool}
    (hv : v.hasAttrType k n = true) (hc : c.hasAttrType k n = true) :
    C10_comparable v c = true := by
  rcases hasAttrType_iff.1 hv with ⟨hn, p, rfl, hp⟩ | ⟨hn, p, rfl, hp⟩ <;>
    rcases hasAttrType_iff.1 hc with ⟨hn', q, rfl, hq⟩ | ⟨hn', q, rfl, hq⟩
  · simp [C10_comparable, hp, hq]
  · cases hn.symm.trans hn'
  · cases hn.symm.trans hn'
  · cases p <;> cases q <;> simp_all [C10_comparable]

/-- Conversely a comparable pair is two ID lists or has the Go type of one declaration. -/
theorem C10_comparable_iff (v c : GoVal) :
    C10_comparable v c = true ↔
      ((∃ a b, v = .strs a ∧ c = .strs b) ∨
       ∃ k n, v.hasAttrType k n = true ∧ c.hasAttrType k n = true) := by
  constructor
  · intro h
    cases v <;> cases c <;> simp only [C10_comparable, Bool.false_eq_true, Bool.and_eq_true,
      decide_eq_true_eq] at h
    · obtain ⟨⟨rfl, h1⟩, h2⟩ := h
      exact .inr ⟨_, false, hasAttrType_iff.2 (.inl ⟨rfl, _, rfl, h1⟩),
        hasAttrType_iff.2 (.inl ⟨rfl, _, rfl, h2⟩)⟩
    · obtain ⟨⟨rfl, h1⟩, h2⟩ := h
      exact .inr ⟨_, true, hasAttrType_iff.2 (.inr ⟨rfl, _, rfl, fun x e => by simpa [e] using h1⟩),
        hasAttrType_iff.2 (.inr ⟨rfl, _, rfl, fun x e => by simpa [e] using h2⟩)⟩
    · exact .inl ⟨_, _, rfl, rfl⟩
  · rintro (⟨a, b, rfl, rfl⟩ | ⟨k, n, hv, hc⟩)
    · rfl
    · exact C10_comparable_of_hasAttrType hv hc

/-- `checkVal` on a comparable pair returns the comparison read as logic (`C10_eval` for
one comparison, on `checkVal` itself). -/
theorem C10_model_checkVal (op : GoString) (v c : GoVal) (h : C10_comparable v c = true) :
    checkVal op v c = .ok (Spec.evalCmp op (sval v) (sval c)) := by
  exact checkVal_comparable op ((C10_comparable_iff v c).1 h)

theorem C10_ord_isSome {k : Kind} {p p' : Pay} (h : k.payOk p = true) (h' : k.payOk p' = true) :
    (Spec.ord p p').isSome = (C10_payOrdered p && C10_payOrdered p') := by
  cases p <;> cases p' <;> first | rfl | cases cls_eq_of_payOk h h'

theorem C10_valOrdered_eq (v c : GoVal) (h : C10_comparable v c = true) :
    Spec.valOrdered (sval v) (sval c) = C10_ordered v c := by
  cases v <;> cases c <;> simp only [C10_comparable, Bool.false_eq_true] at h
  · simp only [Bool.and_eq_true, decide_eq_true_eq] at h
    simp only [C10_ordered, sval, valOrdered]
    exact C10_ord_isSome h.1.2 h.2
  · rename_i k p k' p'
    cases p <;> cases p' <;> try rfl
    simp only [Bool.and_eq_true, decide_eq_true_eq, Option.all_some] at h
    simp only [C10_ordered, sval, valOrdered]
    exact C10_ord_isSome h.1.2 h.2
  · rfl

theorem C10_valLt_ordered (v c : SVal) (h : Spec.valLt v c = true) :
    Spec.valOrdered v c = true ∧ Spec.valOrdered c v = true :=
  valLt_ordered h

theorem C10_evalCmp_not_ordered (op : GoString) (v c : SVal) (ho : Spec.valOrdered v c = false) :
    Spec.evalCmp op v c =
      (if op = Op.eq then Spec.valEq v c else if op = Op.ne then !Spec.valEq v c else false) :=
  evalCmp_unordered op ho

theorem C10_trichotomy_sval (v c : SVal) (h : Spec.valOrdered v c = true) :
    (Spec.evalCmp Op.lt v c = true ∧ Spec.evalCmp Op.eq v c = false ∧ Spec.evalCmp Op.gt v c = false) ∨
    (Spec.evalCmp Op.lt v c = false ∧ Spec.evalCmp Op.eq v c = true ∧ Spec.evalCmp Op.gt v c = false) ∨
    (Spec.evalCmp Op.lt v c = false ∧ Spec.evalCmp Op.eq v c = false ∧ Spec.evalCmp Op.gt v c = true) := by
  cases v <;> cases c <;> simp only [valOrdered, Bool.false_eq_true] at h
  exact C10_trichotomy _ _ h

/-- `=` and `!=` are complementary on the model: both return, with opposite verdicts. -/
theorem C10_model_complement (v c : GoVal) (h : C10_comparable v c = true) :
    ∃ b, checkVal Op.eq v c = .ok b ∧ checkVal Op.ne v c = .ok (!b) :=
  ⟨_, C10_model_checkVal Op.eq v c h, by rw [C10_model_checkVal Op.ne v c h, C10_complement]⟩

/-- `<=` is `<` or (ordered and `=`), `>=` is `>` or (ordered and `=`), on the model; and
`>` is `<` with the two values exchanged. -/
theorem C10_model_le_ge (v c : GoVal) (h : C10_comparable v c = true) :
    ∃ lt eq gt, checkVal Op.lt v c = .ok lt ∧ checkVal Op.eq v c = .ok eq ∧
      checkVal Op.gt v c = .ok gt ∧
      checkVal Op.le v c = .ok (lt || (C10_ordered v c && eq)) ∧
      checkVal Op.ge v c = .ok (gt || (C10_ordered v c && eq)) := by
  refine ⟨_, _, _, C10_model_checkVal Op.lt v c h, C10_model_checkVal Op.eq v c h,
    C10_model_checkVal Op.gt v c h, ?_, ?_⟩
  · rw [C10_model_checkVal Op.le v c h, (C10_le_ge _ _).1, C10_valOrdered_eq v c h]
  · rw [C10_model_checkVal Op.ge v c h, (C10_le_ge _ _).2, C10_valOrdered_eq v c h]

theorem C10_comparable_symm (v c : GoVal) (h : C10_comparable v c = true) :
    C10_comparable c v = true := by
  rw [C10_comparable_iff] at h ⊢
  exact h.imp (fun ⟨a, b, ha, hb⟩ => ⟨b, a, hb, ha⟩) (fun ⟨k, n, hv, hc⟩ => ⟨k, n, hc, hv⟩)

/-- `>` is `<` with the two values exchanged, on the model. -/
theorem C10_model_gt_swap (v c : GoVal) (h : C10_comparable v c = true) :
    checkVal Op.gt v c = checkVal Op.lt c v := by
  rw [C10_model_checkVal Op.gt v c h, C10_model_checkVal Op.lt c v (C10_comparable_symm v c h)]
  rfl

/-- Exactly one of the model's `<`, `=`, `>` holds between two non-nil values of an
ordered kind. -/
theorem C10_model_trichotomy (v c : GoVal) (h : C10_comparable v c = true)
    (ho : C10_ordered v c = true) :
    (checkVal Op.lt v c = .ok true ∧ checkVal Op.eq v c = .ok false ∧ checkVal Op.gt v c = .ok false) ∨
    (checkVal Op.lt v c = .ok false ∧ checkVal Op.eq v c = .ok true ∧ checkVal Op.gt v c = .ok false) ∨
    (checkVal Op.lt v c = .ok false ∧ checkVal Op.eq v c = .ok false ∧ checkVal Op.gt v c = .ok true) := by
  rw [C10_model_checkVal Op.lt v c h, C10_model_checkVal Op.eq v c h, C10_model_checkVal Op.gt v c h]
  rw [← C10_valOrdered_eq v c h] at ho
  simp only [Res.ok.injEq]
  exact C10_trichotomy_sval _ _ ho

/-- Without an order between the two values (one is nil, or they are booleans or ID
lists) the model allows only through `=` and `!=`. -/
theorem C10_model_unordered (op : GoString) (v c : GoVal) (h : C10_comparable v c = true)
    (ho : C10_ordered v c = false) (hop : op ≠ Op.eq) (hne : op ≠ Op.ne) :
    checkVal op v c = .ok false := by
  rw [← C10_valOrdered_eq v c h] at ho
  rw [C10_model_checkVal op v c h, C10_evalCmp_not_ordered op _ _ ho, if_neg hop, if_neg hne]

/-- A nil resource value equals only nil and is never ordered, on the model. -/
theorem C10_model_nil (op : GoString) (v c : GoVal) (h : C10_comparable v c = true)
    (hn : C10_isNil v = true) :
    checkVal op v c =
      .ok (if op = Op.eq then C10_isNil c else if op = Op.ne then !C10_isNil c else false) := by
  rw [C10_model_checkVal op v c h]
  cases v <;> simp only [C10_isNil, Bool.false_eq_true] at hn
  · rename_i k p
    cases p <;> simp only [Bool.false_eq_true] at hn
    cases c <;> simp only [C10_comparable, Bool.false_eq_true] at h
    rename_i k' q
    simp only [sval]
    rw [C10_nil]
    cases q <;> rfl
  · simp only [C10_comparable, Bool.false_eq_true] at h

/-- A nil filter value equals only nil and is never ordered, on the model. -/
theorem C10_model_nil_right (op : GoString) (v c : GoVal) (h : C10_comparable v c = true)
    (hn : C10_isNil c = true) :
    checkVal op v c =
      .ok (if op = Op.eq then C10_isNil v else if op = Op.ne then !C10_isNil v else false) := by
  rw [C10_model_checkVal op v c h]
  cases c <;> simp only [C10_isNil, Bool.false_eq_true] at hn
  · rename_i k p
    cases p <;> simp only [Bool.false_eq_true] at hn
    cases v <;> simp only [C10_comparable, Bool.false_eq_true] at h
    rename_i k' q
    simp only [sval]
    rw [C10_nil_right]
    cases q <;> rfl
  · cases v <;> simp only [C10_comparable, Bool.false_eq_true] at h

/-- Booleans have no order on the model. -/
theorem C10_model_unordered_bool (op : GoString) (a b : Bool) (hop : op ≠ Op.eq) (hne : op ≠ Op.ne) :
    checkVal op (.val .bool (.b a)) (.val .bool (.b b)) = .ok false ∧
    checkVal op (.ptr .bool (some (.b a))) (.ptr .bool (some (.b b))) = .ok false :=
  ⟨C10_model_unordered op _ _ rfl rfl hop hne, C10_model_unordered op _ _ rfl rfl hop hne⟩

/-- To-many ID lists have no order on the model. -/
theorem C10_model_unordered_ids (op : GoString) (a b : List GoString)
    (hop : op ≠ Op.eq) (hne : op ≠ Op.ne) : checkVal op (.strs a) (.strs b) = .ok false :=
  C10_model_unordered op _ _ rfl rfl hop hne

/-- An unknown operator allows nothing, on the model. -/
theorem C10_model_unknown_op (op : GoString) (v c : GoVal) (h : C10_comparable v c = true)
    (hop : op ∉ [Op.eq, Op.ne, Op.lt, Op.le, Op.gt, Op.ge]) : checkVal op v c = .ok false := by
  rw [C10_model_checkVal op v c h, C10_unknown_op op _ _ hop]

/-! ### One leaf of a filter tree: the model's `isAllowed` -/

/-- What `getAttrVal` does to the value read from the resource: nothing, or it turns the
untyped nil into a typed nil pointer. -/
theorem C10_getAttrVal_cases (r : ResView) (field : GoString) :
    getAttrVal r field = r.get field ∨
      (r.get field = .nil ∧ ∃ k, getAttrVal r field = .ptr k none) :=
  getAttrVal_cases r field

theorem C10_leafWellTyped_cmp (r : ResView) (field op op' : GoString) (val : GoVal)
    (h : op ∉ [Op.and_, Op.or_, Op.in_, Op.has]) (h' : op' ∉ [Op.and_, Op.or_, Op.in_, Op.has]) :
    leafWellTyped r field op val = leafWellTyped r field op' val := by
  simp only [List.mem_cons, List.not_mem_nil, or_false, not_or] at h h'
  unfold leafWellTyped
  simp only [h.1, h.2.1, h.2.2.1, h.2.2.2, h'.1, h'.2.1, h'.2.2.1, h'.2.2.2, ne_eq,
    not_false_eq_true, decide_true, if_false]

/-- A well-typed comparison leaf on a well-formed resource is one call of `checkVal` on a
comparable pair: the field's value (an untyped nil read from a nullable attribute made a
typed nil pointer) and the filter's value. -/
theorem C10_leaf_checkVal (r : ResView) (hr : r.wf = true) (field : GoString) (val : GoVal)
    (hf : leafWellTyped r field Op.eq val = true) :
    ∃ v, fieldVal r field = .ok v ∧ C10_comparable v val = true ∧
      (v = r.get field ∨ (r.get field = .nil ∧ ∃ k, v = .ptr k none)) ∧
      ∀ op, op ∉ [Op.and_, Op.or_, Op.in_, Op.has] →
        isAllowed r (.leaf field op val) = checkVal op v val := by
  obtain ⟨v, hfv, _, hd, hc⟩ := leaf_view hr hf
  rw [if_neg (by decide), if_neg (by decide)] at hc
  refine ⟨v, hfv, (C10_comparable_iff v val).2 hc, hd, fun op hop => ?_⟩
  simp only [List.mem_cons, List.not_mem_nil, or_false, not_or] at hop
  rw [isAllowed, hfv]
  simp only [hop.1, hop.2.1, hop.2.2.1, hop.2.2.2, or_self, if_false]

theorem C10_cmp_ops :
    Op.eq ∉ [Op.and_, Op.or_, Op.in_, Op.has] ∧ Op.ne ∉ [Op.and_, Op.or_, Op.in_, Op.has] ∧
    Op.lt ∉ [Op.and_, Op.or_, Op.in_, Op.has] ∧ Op.le ∉ [Op.and_, Op.or_, Op.in_, Op.has] ∧
    Op.gt ∉ [Op.and_, Op.or_, Op.in_, Op.has] ∧ Op.ge ∉ [Op.and_, Op.or_, Op.in_, Op.has] := by
  decide

theorem C10_isNil_fieldVal {v w : GoVal} (h : v = w ∨ (w = .nil ∧ ∃ k, v = .ptr k none)) :
    C10_isNil v = C10_isNil w ∧ ∀ c, C10_ordered v c = C10_ordered w c := by
  rcases h with rfl | ⟨rfl, k, rfl⟩
  · exact ⟨rfl, fun _ => rfl⟩
  · exact ⟨rfl, fun _ => rfl⟩

/-- `=` and `!=` leaves are complementary on the model's `isAllowed`. -/
theorem C10_isAllowed_complement (r : ResView) (hr : r.wf = true) (field : GoString) (val : GoVal)
    (hf : leafWellTyped r field Op.eq val = true) :
    ∃ b, isAllowed r (.leaf field Op.eq val) = .ok b ∧
         isAllowed r (.leaf field Op.ne val) = .ok (!b) := by
  obtain ⟨v, _, hc, _, hop⟩ := C10_leaf_checkVal r hr field val hf
  rw [hop _ C10_cmp_ops.1, hop _ C10_cmp_ops.2.1]
  exact C10_model_complement v val hc

/-- `<=` / `>=` leaves decompose into `<` / `>` or (ordered and `=`) on `isAllowed`. -/
theorem C10_isAllowed_le_ge (r : ResView) (hr : r.wf = true) (field : GoString) (val : GoVal)
    (hf : leafWellTyped r field Op.eq val = true) :
    ∃ lt eq gt, isAllowed r (.leaf field Op.lt val) = .ok lt ∧
      isAllowed r (.leaf field Op.eq val) = .ok eq ∧
      isAllowed r (.leaf field Op.gt val) = .ok gt ∧
      isAllowed r (.leaf field Op.le val) = .ok (lt || (C10_ordered (r.get field) val && eq)) ∧
      isAllowed r (.leaf field Op.ge val) = .ok (gt || (C10_ordered (r.get field) val && eq)) := by
  obtain ⟨v, _, hc, hd, hop⟩ := C10_leaf_checkVal r hr field val hf
  rw [hop _ C10_cmp_ops.1, hop _ C10_cmp_ops.2.2.1, hop _ C10_cmp_ops.2.2.2.1,
    hop _ C10_cmp_ops.2.2.2.2.1, hop _ C10_cmp_ops.2.2.2.2.2, ← (C10_isNil_fieldVal hd).2]
  exact C10_model_le_ge v val hc

/-- Exactly one of the `<`, `=`, `>` leaves is allowed when the field's value and the
filter's value are non-nil and of an ordered kind. -/
theorem C10_isAllowed_trichotomy (r : ResView) (hr : r.wf = true) (field : GoString) (val : GoVal)
    (hf : leafWellTyped r field Op.eq val = true) (ho : C10_ordered (r.get field) val = true) :
    (isAllowed r (.leaf field Op.lt val) = .ok true ∧ isAllowed r (.leaf field Op.eq val) = .ok false ∧
      isAllowed r (.leaf field Op.gt val) = .ok false) ∨
    (isAllowed r (.leaf field Op.lt val) = .ok false ∧ isAllowed r (.leaf field Op.eq val) = .ok true ∧
      isAllowed r (.leaf field Op.gt val) = .ok false) ∨
    (isAllowed r (.leaf field Op.lt val) = .ok false ∧ isAllowed r (.leaf field Op.eq val) = .ok false ∧
      isAllowed r (.leaf field Op.gt val) = .ok true) := by
  obtain ⟨v, _, hc, hd, hop⟩ := C10_leaf_checkVal r hr field val hf
  rw [hop _ C10_cmp_ops.1, hop _ C10_cmp_ops.2.2.1, hop _ C10_cmp_ops.2.2.2.2.1]
  rw [← (C10_isNil_fieldVal hd).2] at ho
  exact C10_model_trichotomy v val hc ho

/-- A field read as nil (typed or untyped) equals only nil and is never ordered. -/
theorem C10_isAllowed_nil (r : ResView) (hr : r.wf = true) (field op : GoString) (val : GoVal)
    (hf : leafWellTyped r field Op.eq val = true) (hop : op ∉ [Op.and_, Op.or_, Op.in_, Op.has])
    (hn : C10_isNil (r.get field) = true) :
    isAllowed r (.leaf field op val) =
      .ok (if op = Op.eq then C10_isNil val else if op = Op.ne then !C10_isNil val else false) := by
  obtain ⟨v, _, hc, hd, h⟩ := C10_leaf_checkVal r hr field val hf
  rw [h _ hop]
  rw [← (C10_isNil_fieldVal hd).1] at hn
  exact C10_model_nil op v val hc hn

/-- A nil filter value is equal only to a field read as nil and is never ordered. -/
theorem C10_isAllowed_nil_right (r : ResView) (hr : r.wf = true) (field op : GoString) (val : GoVal)
    (hf : leafWellTyped r field Op.eq val = true) (hop : op ∉ [Op.and_, Op.or_, Op.in_, Op.has])
    (hn : C10_isNil val = true) :
    isAllowed r (.leaf field op val) =
      .ok (if op = Op.eq then C10_isNil (r.get field)
           else if op = Op.ne then !C10_isNil (r.get field) else false) := by
  obtain ⟨v, _, hc, hd, h⟩ := C10_leaf_checkVal r hr field val hf
  rw [h _ hop, ← (C10_isNil_fieldVal hd).1]
  exact C10_model_nil_right op v val hc hn

/-- Nil, booleans and to-many sets are never ordered: `<`, `<=`, `>`, `>=` (and any
unknown operator) allow nothing. -/
theorem C10_isAllowed_unordered (r : ResView) (hr : r.wf = true) (field op : GoString) (val : GoVal)
    (hf : leafWellTyped r field Op.eq val = true) (hop : op ∉ [Op.and_, Op.or_, Op.in_, Op.has])
    (ho : C10_ordered (r.get field) val = false) (heq : op ≠ Op.eq) (hne : op ≠ Op.ne) :
    isAllowed r (.leaf field op val) = .ok false := by
  obtain ⟨v, _, hc, hd, h⟩ := C10_leaf_checkVal r hr field val hf
  rw [h _ hop]
  rw [← (C10_isNil_fieldVal hd).2] at ho
  exact C10_model_unordered op v val hc ho heq hne

/-- An unknown operator allows nothing. -/
theorem C10_isAllowed_unknown_op (r : ResView) (hr : r.wf = true) (field op : GoString) (val : GoVal)
    (hf : leafWellTyped r field Op.eq val = true)
    (hop : op ∉ [Op.and_, Op.or_, Op.in_, Op.has, Op.eq, Op.ne, Op.lt, Op.le, Op.gt, Op.ge]) :
    isAllowed r (.leaf field op val) = .ok false := by
  obtain ⟨v, _, hc, _, h⟩ := C10_leaf_checkVal r hr field val hf
  obtain ⟨h1, h2⟩ := not_or.1 fun h => hop
    (List.mem_append.2 h : op ∈ [Op.and_, Op.or_, Op.in_, Op.has] ++ [Op.eq, Op.ne, Op.lt, Op.le, Op.gt, Op.ge])
  rw [h op h1]
  exact C10_model_unknown_op op v val hc h2

/-- `=` between a to-many relationship and an ID list holds iff the two are permutations
of each other. -/
theorem C10_isAllowed_ids_iff_perm (r : ResView) (hr : r.wf = true) (field : GoString)
    (a b : List GoString) (hg : r.get field = .strs a)
    (hf : leafWellTyped r field Op.eq (.strs b) = true) :
    isAllowed r (.leaf field Op.eq (.strs b)) = .ok (decide (a.Perm b)) ∧
    isAllowed r (.leaf field Op.ne (.strs b)) = .ok (!decide (a.Perm b)) := by
  obtain ⟨v, _, _, hd, h⟩ := C10_leaf_checkVal r hr field _ hf
  have hv : v = .strs a := by
    rcases hd with e | ⟨e, _⟩
    · rw [e, hg]
    · rw [hg] at e; exact absurd e (by simp)
  subst hv
  rw [h _ C10_cmp_ops.1, h _ C10_cmp_ops.2.1, C10_model_ids_iff_perm, C10_model_ids_iff_perm]
  exact ⟨rfl, rfl⟩

/-! ### `and` / `or` nodes and the membership tests, on `isAllowed` -/

theorem C10_wellTypedAll_mem (r : ResView) :
    ∀ fs : List Filter, wellTypedAll r fs = true → ∀ f ∈ fs, wellTyped r f = true
  | [], _, _, hm => absurd hm (by simp)
  | g :: gs, h, f, hm => by
    rw [wellTypedAll, Bool.and_eq_true] at h
    rcases List.mem_cons.1 hm with rfl | hm'
    · exact h.1
    · exact C10_wellTypedAll_mem r gs h.2 f hm'

theorem C10_evalAll_iff (r : ResView) :
    ∀ fs : List Filter, Spec.evalAll r fs = true ↔ ∀ f ∈ fs, Spec.eval r f = true
  | [] => by simp [evalAll_nil]
  | g :: gs => by
    rw [evalAll, Bool.and_eq_true, C10_evalAll_iff r gs]
    simp only [List.mem_cons, forall_eq_or_imp]

theorem C10_evalAny_iff (r : ResView) :
    ∀ fs : List Filter, Spec.evalAny r fs = true ↔ ∃ f ∈ fs, Spec.eval r f = true
  | [] => by simp [evalAny_nil]
  | g :: gs => by
    rw [evalAny, Bool.or_eq_true, C10_evalAny_iff r gs]
    simp only [List.mem_cons, exists_eq_or_imp]

/-- An `and` node returns, and allows iff every child allows (so it allows when empty). -/
theorem C10_isAllowed_and (r : ResView) (hr : r.wf = true) (fs : List Filter)
    (hf : wellTypedAll r fs = true) :
    ∃ b, isAllowed r (.node true fs) = .ok b ∧
      (b = true ↔ ∀ f ∈ fs, isAllowed r f = .ok true) := by
  refine ⟨Spec.evalAll r fs, by rw [isAllowed]; exact C10_evalAll r hr fs hf, ?_⟩
  rw [C10_evalAll_iff]
  exact forall₂_congr fun f hm => by
    rw [C10_eval r hr f (C10_wellTypedAll_mem r fs hf f hm), Res.ok.injEq]

/-- An `or` node returns, and allows iff some child allows (so it does not when empty). -/
theorem C10_isAllowed_or (r : ResView) (hr : r.wf = true) (fs : List Filter)
    (hf : wellTypedAll r fs = true) :
    ∃ b, isAllowed r (.node false fs) = .ok b ∧
      (b = true ↔ ∃ f ∈ fs, isAllowed r f = .ok true) := by
  refine ⟨Spec.evalAny r fs, by rw [isAllowed]; exact C10_evalAny r hr fs hf, ?_⟩
  rw [C10_evalAny_iff]
  exact exists_congr fun f => and_congr_right fun hm => by
    rw [C10_eval r hr f (C10_wellTypedAll_mem r fs hf f hm), Res.ok.injEq]

/-- The empty `and` allows, the empty `or` does not (no hypothesis). -/
theorem C10_isAllowed_empty (r : ResView) :
    isAllowed r (.node true []) = .ok true ∧ isAllowed r (.node false []) = .ok false :=
  ⟨rfl, rfl⟩

/-- `in` is a membership test: the field holds one ID (a to-one relationship or a
non-nullable string attribute), the filter a list, and the leaf allows iff the ID is in
the list. -/
theorem C10_isAllowed_in (r : ResView) (hr : r.wf = true) (field : GoString) (val : GoVal)
    (hf : leafWellTyped r field Op.in_ val = true) :
    ∃ id ids, r.get field = .val .string (.s id) ∧ val = .strs ids ∧
      isAllowed r (.leaf field Op.in_ val) = .ok (decide (id ∈ ids)) := by
  obtain ⟨_, hfv, _, hd, hc⟩ := leaf_view hr hf
  obtain ⟨id, ids, rfl, rfl⟩ := (if_pos rfl).mp hc
  refine ⟨id, ids, (hd.resolve_right fun ⟨_, _, e⟩ => nomatch e).symm, rfl, ?_⟩
  rw [isAllowed, hfv]
  simp [show ¬ (Op.in_ = Op.and_ ∨ Op.in_ = Op.or_) by decide]

/-- `has` is a membership test: the field is a to-many relationship, the filter holds one
ID, and the leaf allows iff the ID is among the relationship's IDs. -/
theorem C10_isAllowed_has (r : ResView) (hr : r.wf = true) (field : GoString) (val : GoVal)
    (hf : leafWellTyped r field Op.has val = true) :
    ∃ id ids, r.get field = .strs ids ∧ val = .val .string (.s id) ∧
      isAllowed r (.leaf field Op.has val) = .ok (decide (id ∈ ids)) := by
  obtain ⟨_, hfv, _, hd, hc⟩ := leaf_view hr hf
  obtain ⟨id, ids, rfl, rfl⟩ := (if_pos rfl).mp ((if_neg Op.has_ne_in).mp hc)
  refine ⟨id, ids, (hd.resolve_right fun ⟨_, _, e⟩ => nomatch e).symm, rfl, ?_⟩
  rw [isAllowed, hfv]
  simp [show ¬ (Op.has = Op.and_ ∨ Op.has = Op.or_) by decide, Op.has_ne_in]

/-! ### Non-vacuity: concrete instances meeting the hypotheses -/

/-- Comparable, ordered pairs of every ordered class; [2,1] vs [1,2] as byte strings is
exactly `>` on the model. -/
example :
    C10_comparable (.val .bytes (.bs (some [2, 1]))) (.val .bytes (.bs (some [1, 2]))) = true ∧
    C10_ordered (.val .bytes (.bs (some [2, 1]))) (.val .bytes (.bs (some [1, 2]))) = true ∧
    checkVal Op.lt (.val .bytes (.bs (some [2, 1]))) (.val .bytes (.bs (some [1, 2]))) = .ok false ∧
    checkVal Op.eq (.val .bytes (.bs (some [2, 1]))) (.val .bytes (.bs (some [1, 2]))) = .ok false ∧
    checkVal Op.gt (.val .bytes (.bs (some [2, 1]))) (.val .bytes (.bs (some [1, 2]))) = .ok true ∧
    C10_comparable (.ptr .int16 (some (.i (-3)))) (.ptr .int16 (some (.i 7))) = true ∧
    C10_ordered (.ptr .int16 (some (.i (-3)))) (.ptr .int16 (some (.i 7))) = true ∧
    C10_comparable (.val .string (.s [97])) (.val .string (.s [97, 98])) = true ∧
    C10_ordered (.val .string (.s [97])) (.val .string (.s [97, 98])) = true ∧
    C10_comparable (.val .time (.t ⟨5, 0, 3600⟩)) (.val .time (.t ⟨5, 0, 0⟩)) = true ∧
    C10_ordered (.val .time (.t ⟨5, 0, 3600⟩)) (.val .time (.t ⟨5, 0, 0⟩)) = true ∧
    checkVal Op.eq (.val .time (.t ⟨5, 0, 3600⟩)) (.val .time (.t ⟨5, 0, 0⟩)) = .ok true := by
  decide +kernel

/-- Comparable pairs without an order: a nil pointer on either side, booleans, ID lists;
a pair out of range or of two kinds is not comparable. -/
example :
    C10_comparable (.ptr .int16 none) (.ptr .int16 (some (.i 5))) = true ∧
    C10_isNil (.ptr .int16 none) = true ∧ C10_isNil (.ptr .int16 (some (.i 5))) = false ∧
    C10_ordered (.ptr .int16 none) (.ptr .int16 (some (.i 5))) = false ∧
    checkVal Op.ne (.ptr .int16 none) (.ptr .int16 (some (.i 5))) = .ok true ∧
    checkVal Op.le (.ptr .int16 none) (.ptr .int16 (some (.i 5))) = .ok false ∧
    checkVal Op.eq (.ptr .int16 none) (.ptr .int16 none) = .ok true ∧
    checkVal Op.ge (.ptr .int16 none) (.ptr .int16 none) = .ok false ∧
    C10_comparable (.val .bool (.b true)) (.val .bool (.b false)) = true ∧
    C10_ordered (.val .bool (.b true)) (.val .bool (.b false)) = false ∧
    C10_comparable (.strs [[121], [122]]) (.strs [[122], [121]]) = true ∧
    C10_ordered (.strs [[121], [122]]) (.strs [[122], [121]]) = false ∧
    C10_comparable (.val .int8 (.i 300)) (.val .int8 (.i 1)) = false ∧
    C10_comparable (.val .int8 (.i 3)) (.val .int16 (.i 3)) = false ∧
    [126] ∉ [Op.eq, Op.ne, Op.lt, Op.le, Op.gt, Op.ge] := by
  decide +kernel

/-- The resource of `Props/C10.lean`: its bytes attribute `a` against [1,2] is a well-typed
ordered comparison; its nullable attribute `n` reads as (untyped) nil; its to-many
relationship `m` = [y,z] against [z,y] is a well-typed unordered comparison of two
permutations; `o in […]` and `m has z` are well-typed membership tests. -/
example :
    C10_exampleRes.wf = true ∧
    leafWellTyped C10_exampleRes [97] Op.eq (.val .bytes (.bs (some [1, 2]))) = true ∧
    C10_ordered (C10_exampleRes.get [97]) (.val .bytes (.bs (some [1, 2]))) = true ∧
    isAllowed C10_exampleRes (.leaf [97] Op.gt (.val .bytes (.bs (some [1, 2])))) = .ok true ∧
    leafWellTyped C10_exampleRes [110] Op.eq (.ptr .int16 (some (.i 3))) = true ∧
    leafWellTyped C10_exampleRes [110] Op.eq (.ptr .int16 none) = true ∧
    C10_isNil (C10_exampleRes.get [110]) = true ∧ C10_isNil (.ptr .int16 none) = true ∧
    isAllowed C10_exampleRes (.leaf [110] Op.eq (.ptr .int16 none)) = .ok true ∧
    isAllowed C10_exampleRes (.leaf [110] Op.eq (.ptr .int16 (some (.i 3)))) = .ok false ∧
    isAllowed C10_exampleRes (.leaf [110] Op.le (.ptr .int16 (some (.i 3)))) = .ok false ∧
    leafWellTyped C10_exampleRes [109] Op.eq (.strs [[122], [121]]) = true ∧
    C10_exampleRes.get [109] = .strs [[121], [122]] ∧
    C10_ordered (C10_exampleRes.get [109]) (.strs [[122], [121]]) = false ∧
    isAllowed C10_exampleRes (.leaf [109] Op.eq (.strs [[122], [121]])) = .ok true ∧
    isAllowed C10_exampleRes (.leaf [109] Op.lt (.strs [[122], [121]])) = .ok false ∧
    [126] ∉ [Op.and_, Op.or_, Op.in_, Op.has, Op.eq, Op.ne, Op.lt, Op.le, Op.gt, Op.ge] ∧
    isAllowed C10_exampleRes (.leaf [97] [126] (.val .bytes (.bs (some [1, 2])))) = .ok false ∧
    Op.le ∉ [Op.and_, Op.or_, Op.in_, Op.has] ∧
    leafWellTyped C10_exampleRes [111] Op.in_ (.strs [[119], [120]]) = true ∧
    leafWellTyped C10_exampleRes [109] Op.has (.val .string (.s [122])) = true ∧
    wellTypedAll C10_exampleRes [.leaf [111] Op.in_ (.strs [[119], [120]]),
      .leaf [109] Op.has (.val .string (.s [122]))] = true := by
  decide +kernel

section Axioms
open Jsonapi
#print axioms C10_valEq_ids_iff_perm
#print axioms C10_valEq_ids_iff_sort
#print axioms C10_valEq_ids_not_set_counterexample
#print axioms C10_model_ids_iff_perm
#print axioms C10_model_ids_perm_invariant
#print axioms C10_comparable_of_hasAttrType
#print axioms C10_comparable_iff
#print axioms C10_model_checkVal
#print axioms C10_ord_isSome
#print axioms C10_valOrdered_eq
#print axioms C10_valLt_ordered
#print axioms C10_evalCmp_not_ordered
#print axioms C10_trichotomy_sval
#print axioms C10_model_complement
#print axioms C10_model_le_ge
#print axioms C10_comparable_symm
#print axioms C10_model_gt_swap
#print axioms C10_model_trichotomy
#print axioms C10_model_unordered
#print axioms C10_model_nil
#print axioms C10_model_nil_right
#print axioms C10_model_unordered_bool
#print axioms C10_model_unordered_ids
#print axioms C10_model_unknown_op
#print axioms C10_getAttrVal_cases
#print axioms C10_leafWellTyped_cmp
#print axioms C10_leaf_checkVal
#print axioms C10_cmp_ops
#print axioms C10_isNil_fieldVal
#print axioms C10_isAllowed_complement
#print axioms C10_isAllowed_le_ge
#print axioms C10_isAllowed_trichotomy
#print axioms C10_isAllowed_nil
#print axioms C10_isAllowed_nil_right
#print axioms C10_isAllowed_unordered
#print axioms C10_isAllowed_unknown_op
#print axioms C10_isAllowed_ids_iff_perm
#print axioms C10_wellTypedAll_mem
#print axioms C10_evalAll_iff
#print axioms C10_evalAny_iff
#print axioms C10_isAllowed_and
#print axioms C10_isAllowed_or
#print axioms C10_isAllowed_empty
#print axioms C10_isAllowed_in
#print axioms C10_isAllowed_has
end Axioms
end Jsonapi
