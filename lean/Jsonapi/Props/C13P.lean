/-
C13P — Partial unmarshaling: statements on top of Props/C13.lean and Props/C05B.lean.

`C13_partial_conforms`; `C13_no_others`; `C13B_present_iff_data` (from the payload BYTES: `present` of
`C13_fields` / `C13_values` is no free Boolean); and all of them on a struct-backed type.
-/
import Jsonapi.Props.C05B
namespace Jsonapi
open GoMap UnmL Spec

namespace C13P

/-! ### 1. The stored values of the partial resource are typed -/

theorem Soft.set_typ (s : Soft) (k : GoString) (v : GoVal) : (s.set k v).typ = s.typ := by
  fun_cases Soft.set s k v <;> rfl

theorem SoftTyped.extend {t1 t2 : Typ} (wf2 : TypWF t2) (sub : Sub t1 t2) {d : GoMap GoVal}
    (hk : ∀ x ∈ keys d, x ∈ t1.fieldKeys) (h : SoftTyped t1 d) : SoftTyped t2 d := by
  intro f a x ha hx
  have hf : f ∈ t1.fieldKeys := hk f (mem_keys_of_get? hx)
  rcases List.mem_append.1 hf with hfa | hfr
  · have hs : (t1.attrs.get? f).isSome = true := has_iff_mem_keys.2 hfa
    cases h1 : t1.attrs.get? f with
    | none => rw [h1] at hs; cases hs
    | some a1 =>
      have := sub.1 f a1 h1
      rw [ha] at this; cases this
      exact h f a x h1 hx
  · have hs : (t1.rels.get? f).isSome = true := has_iff_mem_keys.2 hfr
    cases h1 : t1.rels.get? f with
    | none => rw [h1] at hs; cases hs
    | some r1 =>
      have := sub.2 f r1 h1
      exact absurd (mem_keys_of_get? this) (wf2.disj f (mem_keys_of_get? ha))

def PInvT (t : Typ) (h : Hist) (s : Soft) : Prop := PInv t h s ∧ SoftTyped s.typ s.data

theorem PInvT.extend_set {h : Hist} {s : Soft} {t t2 : Typ} (inv : PInv t h s)
    (typed : SoftTyped s.typ s.data) (wf2 : TypWF t2) (sub12 : Sub s.typ t2) (k : GoString) (v : GoVal)
    (hflds : ∀ f, f ∈ t2.fieldKeys ↔ f ∈ s.typ.fieldKeys ∨ f = k) :
    SoftTyped (({ s with typ := t2 } : Soft).set k v).typ (({ s with typ := t2 } : Soft).set k v).data := by
  rw [Soft.set_typ]
  have hk : ∀ x ∈ keys s.data, x ∈ t2.fieldKeys := fun x hx => (hflds x).2 (.inl (inv.inv.keys x hx))
  exact SoftTyped.step wf2 (s := { s with typ := t2 }) rfl hk
    (SoftTyped.extend wf2 sub12 inv.inv.keys typed) k v

theorem pT_attr_fold {t : Typ} (ht : TypWF t) (hn : Spec.namesOk t = true) (l : GoMap RawVal)
    (h : Hist) (s : Soft) (inv : PInvT t h s) :
    (attrsOk t l = true → ∃ s', l.foldl (pAttrStep t) (.ok s) = .ok s' ∧
      PInvT t (h ++ l.filterMap (attrEntry t)) s') ∧
    (attrsOk t l = false → l.foldl (pAttrStep t) (.ok s) = .err) := by
  refine fold_inv (pAttrStep t) (fun _ => rfl) (PInvT t) (attrEntry t) (fun p => (attrEntry t p).isSome)
    ?_ ?_ ?_ l h s inv
  · intro h s b e inv _ he
    obtain ⟨inv, typed⟩ := inv
    obtain ⟨a, ha, hv, e1, e2⟩ := attrEntry_some ht he
    obtain ⟨_, _, k, hk⟩ := attr_of_get? ht ha
    obtain ⟨x1, x2, x3, x4, x5, x6⟩ := addAttr_ext inv.wf ht inv.sub ha
    have hid : a.name ≠ idName := by
      rw [e2]; exact (namesOk_mem hn (List.mem_append_left _ (mem_keys_of_get? ha))).1
    have hok := setOk_attr hid x5 hk (toType_hasAttrType a b.2 e.2 k hv hk)
    have := PInv.extend_set ht hn inv _ x1 (x2.trans inv.name) x3 x4 a.name e.2 x6 hok
    have ee : e = (a.name, e.2) := by rw [← e1.trans e2.symm]
    refine ⟨_, ?_, by rw [ee]; exact ⟨this, PInvT.extend_set inv typed x1 x4 a.name e.2 x6⟩⟩
    simp only [pAttrStep, ha, hv]
  · intro h a b _ hg he
    rw [he] at hg; cases hg
  · intro h a b _ hg
    simp only [pAttrStep]
    unfold attrEntry at hg
    cases ha : t.attrs.get? b.1 with
    | none => rfl
    | some at' =>
      simp only [ha] at hg
      simp only []
      cases hv : unmarshalToType at' b.2 with
      | ok v => simp only [hv] at hg; cases hg
      | err => rfl
      | panic => exact absurd hv (toType_no_panic _ _)

theorem pT_rel_fold {t : Typ} (ht : TypWF t) (hn : Spec.namesOk t = true) (l : GoMap RelRaw)
    (h : Hist) (s : Soft) (inv : PInvT t h s) :
    (relsOk t l = true → ∃ s', l.foldl (pRelStep t) (.ok s) = .ok s' ∧
      PInvT t (h ++ l.filterMap (relEntry t)) s') ∧
    (relsOk t l = false → l.foldl (pRelStep t) (.ok s) = .err) := by
  refine fold_inv (pRelStep t) (fun _ => rfl) (PInvT t) (relEntry t) (relOk t) ?_ ?_ ?_ l h s inv
  · intro h s b e inv hg he
    obtain ⟨inv, typed⟩ := inv
    obtain ⟨rel, hr, hv, e1, e2⟩ := relEntry_some ht he
    obtain ⟨x1, x2, x3, x4, x5, x6⟩ := addRel_ext inv.wf ht inv.sub hr
    have hid : rel.fromName ≠ idName := by
      rw [e2]; exact (namesOk_mem hn (List.mem_append_right _ (mem_keys_of_get? hr))).1
    have hok := setOk_rel x1 hid x5 (relValue_typed rel b.2 e.2 hv)
    have := PInv.extend_set ht hn inv _ x1 (x2.trans inv.name) x3 x4 rel.fromName e.2 x6 hok
    have ee : e = (rel.fromName, e.2) := by rw [← e1.trans e2.symm]
    have hbad : (relValue rel b.2).2 = false := by
      unfold relOk at hg; rw [hr] at hg; simpa using hg
    refine ⟨_, ?_, by rw [ee]; exact ⟨this, PInvT.extend_set inv typed x1 x4 rel.fromName e.2 x6⟩⟩
    simp only [pRelStep, hr]
    rw [show relValue rel b.2 = ((relValue rel b.2).1, (relValue rel b.2).2) from rfl, hv, hbad]
    simp only [Bool.false_eq_true, if_false]
  · intro h a b _ hg he
    unfold relOk at hg
    unfold relEntry at he
    cases hr : t.rels.get? b.1 with
    | none => rw [hr] at hg; cases hg
    | some rel =>
      rw [hr] at hg he
      have hbad : (relValue rel b.2).2 = false := by simpa using hg
      have hv : (relValue rel b.2).1 = none := by simpa using he
      simp only [pRelStep, hr]
      rw [show relValue rel b.2 = ((relValue rel b.2).1, (relValue rel b.2).2) from rfl, hv, hbad]
      simp
  · intro h a b inv hg
    unfold relOk at hg
    cases hr : t.rels.get? b.1 with
    | none => simp only [pRelStep, hr]
    | some rel =>
      rw [hr] at hg
      have hbad : (relValue rel b.2).2 = true := by simpa using hg
      simp only [pRelStep, hr]
      rw [show relValue rel b.2 = ((relValue rel b.2).1, (relValue rel b.2).2) from rfl, hbad]
      cases (relValue rel b.2).1 <;> simp

theorem partial_typed {σ : SSchema} (hσ : σ.WF) {sk : ResSke} {s : Soft}
    (h : unmarshalPartialResource σ sk = .ok s) :
    ∃ st, σ.getType sk.typ = some st ∧ PInv st.typ (fullHist st.typ sk) s ∧
      SoftTyped s.typ s.data := by
  obtain ⟨st, hg, okA, okR, hbody, pinv⟩ := ((partial_spec hσ sk).2 s).1 h
  obtain ⟨hm, _⟩ := getType_some hg
  obtain ⟨_, ht, hn, _⟩ := hσ.2 st hm
  refine ⟨st, hg, pinv, ?_⟩
  have i0 : PInvT st.typ [idEntry sk] (partInit st.typ sk) :=
    ⟨PInv.init st.typ sk, by intro f a x _ hx; simp [partInit, get?] at hx⟩
  obtain ⟨s2, e2, inv2⟩ := (pT_attr_fold ht hn sk.attrs _ _ i0).1 okA
  obtain ⟨s3, e3, inv3⟩ := (pT_rel_fold ht hn sk.rels _ s2 inv2).1 okR
  unfold partBody at hbody
  rw [e2, e3] at hbody
  cases hbody
  exact inv3.2

end C13P

/-! ### 2. (i) The partial resource conforms -/

open C13P in
/-- The resource returned by partial unmarshaling satisfies C05's conformance clauses
(`C05_conforms`) with respect to its own type, whose name is the schema type's and whose
definitions are the schema type's: every attribute of it holds a value of exactly the declared
Go type, or nil for a nullable one; a to-one relationship holds a string, a to-many one a
string list. `s.get` is `SoftResource.Get`; the view (`s.view`: what MarshalResource, Equal,
Range … read through the Resource interface) lists exactly that type's fields and reads the
same values. -/
theorem C13_partial_conforms (σ : SSchema) (hσ : σ.WF) (sk : ResSke) (s : Soft)
    (h : unmarshalPartialResource σ sk = .ok s) :
    ∃ st ∈ σ, st.typ.name = sk.typ ∧ s.typ.name = st.typ.name ∧
      (∀ key a, s.typ.attrs.get? key = some a → st.typ.attrs.get? key = some a ∧
        ∃ k, Kind.ofCode? a.ty = some k ∧
          ((s.get key).hasAttrType k a.nullable = true ∨ (a.nullable = true ∧ s.get key = .nil))) ∧
      (∀ key rel, s.typ.rels.get? key = some rel → st.typ.rels.get? key = some rel ∧
        if rel.toOne then ∃ id, s.get key = .val .string (.s id) else ∃ l, s.get key = .strs l) ∧
      s.view.typeName = st.typ.name ∧ s.view.attrs = s.typ.attrs ∧ s.view.rels = s.typ.rels ∧
      (∀ key ∈ s.typ.attrs.keys ++ s.typ.rels.keys, s.view.get key = s.get key) := by
  obtain ⟨st, hg, pinv, typed⟩ := partial_typed hσ h
  obtain ⟨hm, hname⟩ := getType_some hg
  obtain ⟨_, ht, hn, _⟩ := hσ.2 st hm
  have hn' := pinv.sub.namesOk_mono hn
  have ainv : AInv s.typ (fullHist st.typ sk) (.soft s) := ⟨pinv.inv, typed⟩
  obtain ⟨v, hv, e1, _, _, e4, e5⟩ := ainv.conforms pinv.wf hn' pinv.hok
  simp only [AnyRes.view?, Option.some.injEq] at hv
  subst hv
  have hview : ∀ key ∈ s.typ.attrs.keys ++ s.typ.rels.keys, s.view.get key = s.get key :=
    fun key hk => Soft.view_get pinv.wf s rfl pinv.inv.keys hk (namesOk_mem hn' hk).1
  refine ⟨st, hm, hname, pinv.name, ?_, ?_, e1.trans pinv.name, rfl, rfl, hview⟩
  · intro key a ha
    obtain ⟨k, hk, hty⟩ := e4 key a ha
    rw [hview key (List.mem_append_left _ (mem_keys_of_get? ha))] at hty
    exact ⟨pinv.sub.1 key a ha, k, hk, hty⟩
  · intro key rel hr
    have := e5 key rel hr
    rw [hview key (List.mem_append_right _ (mem_keys_of_get? hr))] at this
    exact ⟨pinv.sub.2 key rel hr, this⟩

/-! ### 3. (ii) No other fields -/

/-- A name outside the partial type - neither a member of the payload's `attributes` nor a
relationship of the payload whose object carries `data` - is not an attribute and not a
relationship of the partial resource (it is in neither `Attrs()` nor `Rels()`, also as the
view lists them) and `Get` returns nil for it, unless it is `id`, which reads the payload's
id. -/
theorem C13_no_others (σ : SSchema) (hσ : σ.WF) (sk : ResSke) (s : Soft)
    (hk : sk.attrs.keys.Nodup ∧ sk.rels.keys.Nodup)
    (h : unmarshalPartialResource σ sk = .ok s) (key : GoString)
    (hna : sk.attrs.has key = false)
    (hnr : ¬ ∃ v, sk.rels.get? key = some v ∧ v.present = true) :
    s.typ.attrs.has key = false ∧ s.typ.rels.has key = false ∧
    key ∉ s.view.attrs.keys ∧ key ∉ s.view.rels.keys ∧
    (key ≠ idName → s.get key = .nil) ∧
    s.get idName = .val .string (.s sk.id) := by
  obtain ⟨st, _, _, _, hid, fA, _, fR, _, _⟩ := C13_fields σ hσ sk s hk h
  have h1 : s.typ.attrs.has key = false :=
    Bool.eq_false_iff.2 fun hh => Bool.false_ne_true (hna.symm.trans ((fA key).1 hh))
  have h2 : s.typ.rels.has key = false := Bool.eq_false_iff.2 fun hh => hnr ((fR key).1 hh)
  refine ⟨h1, h2, fun hm => Bool.false_ne_true (h1.symm.trans (has_iff_mem_keys.2 hm)),
    fun hm => Bool.false_ne_true (h2.symm.trans (has_iff_mem_keys.2 hm)), fun hne => ?_, ?_⟩
  · unfold Soft.get Soft.check
    simp only [hne, if_false, h1, h2, Bool.false_eq_true]
  · unfold Soft.get Soft.check
    simp only [if_true, hid]

/-! ### 4. (iii) `present` is "the relationship object has a `data` member" -/

/-- The relationship object `v` (a value of the payload, as written) has a `data` member: an
object with a member whose decoded key names the field `Data` of `relationshipSkeleton` as
`encoding/json` matches it - `data` exactly, else case-folded (`Data`, `DATA`, …). The value of
the member is irrelevant: `null` counts. -/
def C13P.hasDataMember : CJson → Bool
  | .obj _ ms => ms.any (fun m => fieldIdx relFields (unquote m.2.1) = some 0)
  | _ => false

/-- `v` is a relationship object the payload `j` gives for the name `key`: the value of a
member named `key` of an object that is the value of a member of the top-level object matching
the field `relationships`. (Without repeated members there is at most one.) -/
def C13P.IsRelObject (j : CJson) (key : GoString) (v : CJson) : Prop :=
  ∃ ws ms, j = .obj ws ms ∧ ∃ m ∈ ms, fieldIdx resFields (unquote m.2.1) = some 3 ∧
    ∃ ws' rms, m.2.2.2.1 = .obj ws' rms ∧ ∃ rm ∈ rms, unquote rm.2.1 = key ∧ rm.2.2.2.1 = v

namespace C13P

theorem relMembers_isSome (ms : List CMember) (acc o : Option CJson) :
    relMembers acc ms = some o →
      o.isSome = (acc.isSome || ms.any (fun m => fieldIdx relFields (unquote m.2.1) = some 0)) := by
  fun_induction relMembers acc ms
  case case1 => rintro ⟨⟩; simp
  case case2 hfi ih => intro h; simp [ih h, hfi]
  case case3 hfi _ ih | case5 hfi _ ih => intro h; simp [ih h, hfi]
  case case7 h0 _ _ ih => intro h; rw [ih h, List.any_cons, decide_eq_false h0, Bool.false_or]
  all_goals nofun

theorem decodeRel_eq {v : CJson} {rv : RelRaw} : decodeRel v = some rv →
    ∃ o, rv = relRawOf o ∧ o.isSome = hasDataMember v := by
  fun_cases decodeRel v
  case case1 => rintro ⟨⟩; exact ⟨none, rfl, rfl⟩
  case case2 ws ms =>
    intro h
    obtain ⟨o, ho, rfl⟩ := Option.map_eq_some_iff.1 h
    exact ⟨o, rfl, (relMembers_isSome ms none o ho).trans (Bool.false_or _)⟩
  case case3 => nofun

theorem decodeRel_present {v : CJson} {rv : RelRaw} (h : decodeRel v = some rv) :
    rv.present = hasDataMember v := by
  obtain ⟨o, rfl, ho⟩ := decodeRel_eq h
  rw [← ho]
  cases o <;> rfl

theorem decodeRes_rels (D : Delegated) (j : CJson) (sk : ResSke) (h : decodeRes D j = some sk) :
    ∀ key rv, sk.rels.get? key = some rv →
      ∃ v, IsRelObject j key v ∧ decodeRel v = some rv ∧ rv.present = hasDataMember v := by
  cases j with
  | null => cases h; intro _ _ hg; cases hg
  | obj ws ms =>
    refine (DecL.resMembers_inv D ms (PA := fun _ => True) (PR := fun m => ∀ key rv,
        m.get? key = some rv →
          ∃ v, IsRelObject (.obj ws ms) key v ∧ decodeRel v = some rv ∧ rv.present = hasDataMember v)
      trivial (fun _ _ hg => nomatch hg) (fun _ _ _ _ _ _ _ _ => trivial) ?_ ms ResSke.zero sk (fun _ hm => hm) trivial
      (fun _ _ hg => nomatch hg) h).2
    intro cur m ws' rms out hm hfi hobj hc ho key rv hg
    rcases DecL.relsInto_get? rms cur out ho hg with hg | ⟨rm, hrm, hk, hd⟩
    · exact hc key rv hg
    · exact ⟨_, ⟨ws, ms, rfl, m, hm, hfi, ws', rms, hobj, rm, hrm, hk, rfl⟩, hd, decodeRel_present hd⟩
  | _ => cases h

end C13P

open C13P in
/-- **From the payload bytes:** for every byte string partial unmarshaling accepts, with `j` the
parsed payload and `sk` the decoded skeleton: each relationship entry of the skeleton is the
decode of a relationship object `v` of the payload under that name and its `present` flag - the
free Boolean of `C13_fields` / `C13_values` - is `hasDataMember v`; hence a relationship is in
the partial resource if and only if the relationship object the decoder kept for its name has
a `data` member (`null` included: `C13P.data_null_counts`). -/
theorem C13B_present_iff_data (D : Delegated) (σ : SSchema) (hσ : σ.WF) (bytes : GoString) (s : Soft)
    (h : unmarshalPartialResourceBytes D σ bytes = .ok s) :
    ∃ j sk, parseJsonC bytes = some j ∧ decodeRes D j = some sk ∧
      (∀ key rv, sk.rels.get? key = some rv →
        ∃ v, IsRelObject j key v ∧ decodeRel v = some rv ∧ rv.present = hasDataMember v) ∧
      (∀ key, s.typ.rels.has key = true ↔
        ∃ v rv, IsRelObject j key v ∧ decodeRel v = some rv ∧ sk.rels.get? key = some rv ∧
          hasDataMember v = true) := by
  obtain ⟨j, sk, hj, hsk, _, _, st, _, _, _, _, _, fR⟩ := C05B_partial_fields D σ hσ bytes s h
  have hr := decodeRes_rels D j sk hsk
  refine ⟨j, sk, hj, hsk, hr, ?_⟩
  intro key
  rw [fR key]
  constructor
  · rintro ⟨rv, hg, hp⟩
    obtain ⟨v, h1, h2, h3⟩ := hr key rv hg
    exact ⟨v, rv, h1, h2, hg, by rw [← h3]; exact hp⟩
  · rintro ⟨v, rv, _, h2, hg, hd⟩
    exact ⟨rv, hg, by rw [decodeRel_present h2]; exact hd⟩

namespace C13P

/-! ### 5. (iv) Non-vacuity, on a struct-backed type -/

/-- `{"id":"1","type":"w","attributes":{"a":-128},"relationships":{"o":{"data":{"id":"k","type":"u"}},"m":{}}}`
for the STRUCT-BACKED type "w" of `C05_exσ` (attribute a int8, to-one o, to-many m): m has no
data member. -/
def exSk : ResSke :=
  { id := [49], typ := [119],
    attrs := [([97], { bytes := [45, 49, 50, 56], decStr := none, decTime := none, decBytes := none })],
    rels := [([111], { present := true, isNull := false, decIdent := some ([107], [117]), decIdents := none }),
             ([109], { present := false, isNull := false, decIdent := none, decIdents := none })],
    smeta := default }

def exRelO : Rel :=
  { fromType := [116], fromName := [111], toOne := true, toType := [117], toName := [], fromOne := false }

theorem exSk_accepted : ∃ s, unmarshalPartialResource C05_exσ exSk = .ok s :=
  Res.exists_ok_of_isOk (by decide +kernel)

end C13P

open C13P in
/-- `C13_fields`, `C13_values`, `C13_partial_conforms` and `C13_no_others` instantiated on the
struct-backed type: the partial resource is named "w", has the payload's id, exactly the
attribute a (with the schema's definition) and the relationship o - not m, which has no data
member -, reads a = int8(-128), o = "k", m = nil, and a holds a value of its declared type. -/
example : ∃ s, unmarshalPartialResource C05_exσ exSk = .ok s ∧
    s.typ.name = [119] ∧ s.id = [49] ∧
    s.typ.attrs.has [97] = true ∧ s.typ.rels.has [111] = true ∧ s.typ.rels.has [109] = false ∧
    (∀ a, s.typ.attrs.get? [97] = some a → a = { name := [97], ty := 3, nullable := false }) ∧
    Spec.canon (s.get [97]) = .val .int8 (.i (-128)) ∧
    s.get [111] = .val .string (.s [107]) ∧ s.get [109] = .nil ∧
    (∀ a, s.typ.attrs.get? [97] = some a → ∃ k, Kind.ofCode? a.ty = some k ∧
      ((s.get [97]).hasAttrType k a.nullable = true ∨ (a.nullable = true ∧ s.get [97] = .nil))) := by
  obtain ⟨s, hs⟩ := exSk_accepted
  have hk : exSk.attrs.keys.Nodup ∧ exSk.rels.keys.Nodup := by decide +kernel
  -- the schema type is "w"
  have hW : ∀ st ∈ C05_exσ, st.typ.name = exSk.typ → st = { typ := C05_exW, backed := true } := by
    intro st hst hn
    simp only [C05_exσ, List.mem_cons, List.not_mem_nil, or_false] at hst
    rcases hst with rfl | rfl
    · exact absurd hn (by decide +kernel)
    · rfl
  obtain ⟨st, hst, hn, f1, f2, f3, f4, f5, _, _⟩ := C13_fields C05_exσ C05_exσ_wf exSk s hk hs
  have e := hW st hst hn; subst e
  obtain ⟨st', hst', hn', v1, v2⟩ := C13_values C05_exσ C05_exσ_wf exSk s hk hs
  have e := hW st' hst' hn'; subst e
  obtain ⟨st'', hst'', hn'', _, c1, _⟩ := C13_partial_conforms C05_exσ C05_exσ_wf exSk s hs
  have hno := C13_no_others C05_exσ C05_exσ_wf exSk s hk hs [109] (by decide +kernel)
    (by
      rintro ⟨v, hv, hp⟩
      have e : exSk.rels.get? [109] = some { present := false, isNull := false, decIdent := none, decIdents := none } := rfl
      rw [e] at hv; cases hv; cases hp)
  have hA : C05_exW.attrs.get? [97] = some { name := [97], ty := 3, nullable := false } := by decide +kernel
  refine ⟨s, hs, f1, f2, (f3 [97]).2 (by decide +kernel), (f5 [111]).2 ⟨_, rfl, rfl⟩, hno.2.1, ?_, ?_, ?_,
    hno.2.2.2.2.1 (by decide +kernel), fun a ha => (c1 [97] a ha).2⟩
  · intro a ha
    have := f4 [97] a ha
    rw [hA] at this
    cases this; rfl
  · obtain ⟨a, x, ha, hx, hc⟩ := v1 [97] _ rfl
    rw [hA] at ha
    cases ha
    rw [show unmarshalToType { name := [97], ty := 3, nullable := false }
        { bytes := [45, 49, 50, 56], decStr := none, decTime := none, decBytes := none } =
        .ok (.val .int8 (.i (-128))) from by decide +kernel] at hx
    cases hx
    exact hc
  · obtain ⟨rel, hr, hv⟩ := v2 [111] _ rfl rfl
    rw [show C05_exW.rels.get? [111] = some exRelO from by decide +kernel] at hr
    cases hr
    have : some (GoVal.val .string (.s [107])) = some (s.get [111]) := hv
    exact (Option.some.inj this).symm

namespace C13P

/-- `null` counts as a data member, a case variant of the name too; `links` alone does not:
`{"data":null}`, `{"DATA":[]}`, `{"links":{}}`, `{}` read from bytes. -/
theorem data_null_counts :
    (parseJsonC [123, 34, 100, 97, 116, 97, 34, 58, 110, 117, 108, 108, 125]).map hasDataMember = some true ∧
    (parseJsonC [123, 34, 68, 65, 84, 65, 34, 58, 91, 93, 125]).map hasDataMember = some true ∧
    (parseJsonC [123, 34, 108, 105, 110, 107, 115, 34, 58, 123, 125, 125]).map hasDataMember = some false ∧
    (parseJsonC [123, 125]).map hasDataMember = some false := by decide +kernel

/-- `{"type":"t","relationships":{"o":{"data":null},"m":{"links":{}}}}`: partial unmarshaling of
the BYTES keeps o (data null: the empty to-one) and not m. -/
def exBytes : GoString :=
  [123, 34, 116, 121, 112, 101, 34, 58, 34, 116, 34, 44, 34, 114, 101, 108, 97, 116, 105, 111, 110,
   115, 104, 105, 112, 115, 34, 58, 123, 34, 111, 34, 58, 123, 34, 100, 97, 116, 97, 34, 58, 110,
   117, 108, 108, 125, 44, 34, 109, 34, 58, 123, 34, 108, 105, 110, 107, 115, 34, 58, 123, 125,
   125, 125, 125]

set_option maxRecDepth 20000 in
example :
    (match unmarshalPartialResourceBytes C05B_exD C05_exσ exBytes with
      | .ok s => s.typ.rels.keys == [[111]] && s.get [111] == .val .string (.s []) && s.get [109] == .nil
      | _ => false) = true := by decide +kernel

end C13P

end Jsonapi

section Axioms
open Jsonapi
#print axioms C13_partial_conforms
#print axioms C13_no_others
#print axioms C13B_present_iff_data
#print axioms C13P.partial_typed
#print axioms C13P.decodeRel_present
#print axioms C13P.decodeRes_rels
#print axioms C13P.exSk_accepted
#print axioms C13P.data_null_counts
end Axioms
