/-
C16N — "… in an order that does not depend on how the schema was built", in ONE statement.

Props/C16.lean has the clause in two pieces: `C16_rels_perm` (the same types in the same order,
each relationship map iterated in any order) and `C16_rels_types_perm` (the types added in any
order, names distinct). Here it is one statement: two schemas whose type NAMES are the same up to
order and whose relationship maps are, type by type (same name), the same up to order give the
same `Rels()` - nothing is asked of the order in which the types were added, of the order of the
maps, nor of the attributes.
-/
import Jsonapi.Props.C16
namespace Jsonapi
open Schema

namespace C16N

theorem getType_named {l₁ : List Typ} (nd : (l₁.map (·.name)).Nodup) {n : GoString}
    (hn : n ∈ l₁.map (·.name)) :
    getType ⟨l₁⟩ n ∈ l₁ ∧ (getType ⟨l₁⟩ n).name = n := by
  obtain ⟨t, ht, rfl⟩ := List.mem_map.1 hn
  rw [getType_of_mem (σ := ⟨l₁⟩) nd ht]
  exact ⟨ht, rfl⟩

theorem reorder_perm (l₁ l₂ : List Typ) (nd : (l₁.map (·.name)).Nodup)
    (hT : (l₁.map (·.name)).Perm (l₂.map (·.name))) :
    l₁.Perm (l₂.map (fun t₂ => getType ⟨l₁⟩ t₂.name)) := by
  have e : l₁.map (getType ⟨l₁⟩ ∘ (·.name)) = l₁ :=
    (List.map_congr_left fun t ht => getType_of_mem (σ := ⟨l₁⟩) nd ht).trans (List.map_id l₁)
  have h := hT.map (getType ⟨l₁⟩)
  rwa [List.map_map, List.map_map, e] at h

end C16N

/-- **C16, "an order that does not depend on how the schema was built".** Two schemas with the
same type names up to order (`hT`), the names distinct (`nd`: C14's invariant), whose types of
one name hold the same relationship entries up to order (`hR`), list the same relationships in
the same order. -/
theorem C16N_rels_order (σ₁ σ₂ : Schema) (nd : (σ₁.types.map (·.name)).Nodup)
    (hT : (σ₁.types.map (·.name)).Perm (σ₂.types.map (·.name)))
    (hR : ∀ t₁ ∈ σ₁.types, ∀ t₂ ∈ σ₂.types, t₁.name = t₂.name → t₁.rels.Perm t₂.rels) :
    σ₁.relsSorted = σ₂.relsSorted := by
  -- `hR` makes the types of one name hold the same entries: `nd` is not used
  have _ := nd
  exact relsSorted_congr σ₁ σ₂ hT hR

/-- **The clause for coherent schemas.** `σ₁`, `σ₂` coherent (C14's invariant `Inv`, `Check`
reports nothing, every relationship's `FromType` is its owning type), the same type names up to
order, the same relationship entries type by type up to order: `Rels()` is the same list, and
its length - the number of one-way relationships plus the number of two-way pairs, a pair
counted at the end `Normalize` keeps - is the same number counted in either schema. -/
theorem C16N_rels_coherent_order (σ₁ σ₂ : Schema) (hI₁ : Inv σ₁) (hI₂ : Inv σ₂)
    (hc₁ : σ₁.check = []) (hc₂ : σ₂.check = [])
    (ho₁ : ∀ t ∈ σ₁.types, ∀ r ∈ t.rels.vals, r.fromType = t.name)
    (ho₂ : ∀ t ∈ σ₂.types, ∀ r ∈ t.rels.vals, r.fromType = t.name)
    (hT : (σ₁.types.map (·.name)).Perm (σ₂.types.map (·.name)))
    (hR : ∀ t₁ ∈ σ₁.types, ∀ t₂ ∈ σ₂.types, t₁.name = t₂.name → t₁.rels.Perm t₂.rels) :
    σ₁.relsSorted = σ₂.relsSorted ∧
    σ₁.relsSorted.length =
      σ₁.ends.countP (fun e => decide (e.2.toName = [])) +
      σ₁.ends.countP (fun e => decide (e.2.toName ≠ []) && decide (e.2.normalize = e.2)) ∧
    σ₁.relsSorted.length =
      σ₂.ends.countP (fun e => decide (e.2.toName = [])) +
      σ₂.ends.countP (fun e => decide (e.2.toName ≠ []) && decide (e.2.normalize = e.2)) := by
  have e := C16N_rels_order σ₁ σ₂ hI₁.1 hT hR
  refine ⟨e, (C16_rels_coherent σ₁ hI₁ hc₁ ho₁).2.2.2.2.2, ?_⟩
  rw [e]
  exact (C16_rels_coherent σ₂ hI₂ hc₂ ho₂).2.2.2.2.2

/-- `C16_usersPosts` built the other way round: posts added before users. -/
def C16N_postsUsers : Schema :=
  { types := [
      { name := gs "posts", attrs := [],
        rels := [(gs "author", { fromType := gs "posts", fromName := gs "author", toOne := true,
                                 toType := gs "users", toName := gs "posts", fromOne := false })] },
      { name := gs "users", attrs := [],
        rels := [(gs "posts", { fromType := gs "users", fromName := gs "posts", toOne := false,
                                toType := gs "posts", toName := gs "author", fromOne := false })] }] }

theorem C16N_postsUsers_coherent : Coherent C16N_postsUsers := by decide +kernel

theorem C16N_postsUsers_inv : Inv C16N_postsUsers := C16N_postsUsers_coherent.inv

/-- Non-vacuity: the users/posts schema built in both orders satisfies every hypothesis of
`C16N_rels_coherent_order`, so both list the pair once, as the same entry. -/
example : C16_usersPosts.relsSorted = C16N_postsUsers.relsSorted ∧
    C16_usersPosts.relsSorted.length = 1 ∧ C16N_postsUsers.relsSorted.length = 1 := by
  have h := C16N_rels_coherent_order C16_usersPosts C16N_postsUsers C16_usersPosts_inv
    C16N_postsUsers_inv C16_usersPosts_coherent.check C16N_postsUsers_coherent.check
    C16_usersPosts_coherent.owner C16N_postsUsers_coherent.owner (List.Perm.swap _ _ _)
    (by decide +kernel)
  have hl : C16_usersPosts.relsSorted.length = 1 := by rw [length_relsSorted]; decide +kernel
  exact ⟨h.1, hl, h.1 ▸ hl⟩

end Jsonapi

section Axioms
open Jsonapi
#print axioms C16N_rels_order
#print axioms C16N_rels_coherent_order
#print axioms C16N_postsUsers_inv
#print axioms C16N.reorder_perm
#print axioms C16N.getType_named
end Axioms
