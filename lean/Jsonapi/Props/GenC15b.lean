/-
T1b for `Schema.Check` (C15), `Schema.buildRels` / `Schema.Rels` (C16) and `Type.Copy`: the
definitions translated from schema.go / type.go on this run (Generated/Funcs.lean) are the
hand-written model's of Model/Schema.lean - for every input. Through these theorems the C15
theorems about `Schema.check` / `checkRel` and the C16 theorems about `relSet` / `relsSorted`
are theorems about the source as translated.

Reading conventions of the translator that these statements rest on (its header, paragraph
"Slices of errors, maps with struct keys, sort.Slice, locals of type Type"):

* `[]error` is `List (Res Unit)`: one element per appended error, every `fmt.Errorf(…)` is
  `Res.err`, the texts are not modelled. `Gen.Schema_Check s` is therefore the list of the
  errors in the order `Check` appends them; the model's `Schema.check` groups them by
  relationship - (type name, relationship name, number of errors), entries with no error
  dropped - and `checkCount` is their number. `Gen_Schema_Check_eq` is the per-relationship
  statement: the result is, type by type and relationship by relationship in iteration order,
  `checkRel s t r` errors (0, 1 or 2: `checkTarget` + `checkInverse`).
* `map[Rel]struct{}` is a list of `(Rel × Unit)` entries with distinct keys, in an order that
  stands for the iteration order; `rels[k] = struct{}{}` is `Gen.mapSet` (= `GoMap.set` for
  structure keys). The model's `relSet` is a duplicate-free list built in another order
  (`dedup` keeps last occurrences, the map keeps first insertions), so `buildRels` and `relSet`
  are equal as SETS: same members, both duplicate-free, hence permutations of each other.
* `for _, rel := range typ.Rels { … rel.FromOne = one … }` (`buildRels`): the range
  value variable is a copy of the element and the store changes that copy only. The translator
  (wp_s.go, "range copy") reads the loop as `var rel Rel; for _, rel' := range … { rel = rel'; … }`,
  so the translated loop carries the pair `(rel_, rels_)`; `GenC15b.foldl_snd` drops the first
  component, which every step sets anew. `found, one := false, true` is the two declarations in
  sequence; the inner loop is `GenC15b.foldl_found_one`: `found` = some relationship of the target
  type points back, `one` = all that do are to-one - the model's `Schema.complete`.
* `sort.Slice(rels, func(i, j) bool { return relLess(rels[i], rels[j]) })` is rendered as the
  model's `List.mergeSort` by `fun a b => !relLess b a`. This is exact because `relLess` is a
  strict total order on distinct relationships (`Gen_relLess_eq`, `Rel.le_antisymm'`, `le_total'`,
  `le_trans'`) and the elements are distinct: the sorted arrangement is then unique, whichever
  algorithm (and whichever map iteration order) produced the input. `Gen_Schema_Rels_eq` uses
  exactly that uniqueness to bridge the two different insertion orders.
* `Type.Copy`: the field NewFunc is not part of the model's `Typ`; `ctyp.NewFunc = t.NewFunc`
  has no effect on the modelled fields. A nil and an empty map are both `[]`, so the translated
  `Copy` speaks about the effective maps (`TypeV.eff`); the nil-ness bits of `TypeV.copy`
  (never nil) are a fact of the Go source the translation does not carry.
-/
import Jsonapi.Generated.Funcs
import Jsonapi.Model.Misc
import Jsonapi.Props.GenC15
import Jsonapi.Props.GenC16
import Jsonapi.Proofs.GenC15bLemmas
import Jsonapi.Proofs.SchemaLemmas
namespace Jsonapi
open Schema GoMap

/-! ### `Schema.Check` -/

/-- One relationship as `Check` goes through it: `a` the target type is missing, `b` no inverse
is named, `c` the relationship is declared from another type, `d` a relationship of the target
type points back. -/
private theorem check_step {β : Type} (e : β) (acc : List β) (a b c : Prop) [Decidable a] [Decidable b]
    [Decidable c] (d : Bool) :
    (if decide b then (if decide a then acc ++ [e] else acc)
      else if decide c then (if decide a then acc ++ [e] else acc) ++ [e]
      else if !d then (if decide a then acc ++ [e] else acc) ++ [e]
      else (if decide a then acc ++ [e] else acc))
    = acc ++ List.replicate ((if a then 1 else 0) + (if b then 0 else if c then 1 else if d then 0 else 1)) e := by
  by_cases a <;> by_cases b <;> by_cases c <;> cases d <;> simp [*, List.replicate]

/-- schema.go `Check`, relationship by relationship: the returned slice is the concatenation,
over the types in slice order and over each type's relationships in map iteration order, of
`checkRel` errors - one when the target type does not exist, plus one when a relationship that
names an inverse is declared from another type or is not reciprocated. -/
theorem Gen_Schema_Check_eq (s : Schema) :
    Gen.Schema_Check s = s.types.flatMap (fun t => t.rels.flatMap (fun p =>
      List.replicate (s.checkRel t p.2) (Res.err : Res Unit))) := by
  unfold Gen.Schema_Check
  refine (foldl_append_eq_flatMap _ _ _ ?_ _).trans (List.nil_append _)
  intro acc t _
  refine foldl_append_eq_flatMap _ _ _ ?_ _
  intro acc p _
  dsimp only
  rw [GenC15b.foldl_flag (fun e : GoString × Rel =>
    decide (p.2.fromName = e.2.toName) && decide (p.2.toName = e.2.fromName) && decide (e.2.toType = t.name))]
  refine (check_step _ acc _ _ _ _).trans ?_
  unfold checkRel checkTarget checkInverse
  simp only [Bool.false_or, Bool.decide_and, Bool.and_assoc, Gen_Schema_GetType_eq]
  rfl

/-- Every element of the returned slice is a non-nil error. -/
theorem Gen_Schema_Check_all_err (s : Schema) : ∀ e ∈ Gen.Schema_Check s, e = Res.err := by
  rw [Gen_Schema_Check_eq]
  intro e he
  obtain ⟨t, _, he⟩ := List.mem_flatMap.1 he
  obtain ⟨p, _, he⟩ := List.mem_flatMap.1 he
  exact (List.mem_replicate.1 he).2

/-- `len(s.Check())` is the model's `checkCount`. -/
theorem Gen_Schema_Check_length (s : Schema) : (Gen.Schema_Check s).length = s.checkCount := by
  rw [Gen_Schema_Check_eq, checkCount_eq_sum, List.length_flatMap]
  simp only [List.length_flatMap, List.length_replicate]

/-- `Check` returns no error exactly when the model's `check` reports none - the left side of
`C15_sound_complete`. -/
theorem Gen_Schema_Check_nil_iff (s : Schema) : Gen.Schema_Check s = [] ↔ s.check = [] := by
  rw [← List.length_eq_zero_iff, Gen_Schema_Check_length, checkCount_eq_sum, check_nil_iff]
  simp only [List.sum_eq_zero_iff_forall_eq_nat, List.mem_map, GoMap.vals, forall_exists_index, and_imp,
    forall_apply_eq_imp_iff₂]

/-! ### `Schema.buildRels` and `Schema.Rels` -/

/-- `buildRels` as one loop over the (type, relationship) pairs: each step adds the completed,
normalised relationship. The translated body carries the range variable `rel` as a local copy
(`foldl_snd`), its inner loop computes `found` / `one` (`foldl_found_one`), which are
"some relationship of the target type points back" and "all that do are to-one": the model's
`complete`. -/
private theorem buildRels_fold (s : Schema) :
    Gen.Schema_buildRels s =
      (s.types.flatMap (fun t => t.rels.map (fun p => (t, p.2)))).foldl
        (fun m e => Gen.mapSet m (s.complete e.1 e.2).normalize ()) [] := by
  unfold Gen.Schema_buildRels
  rw [List.foldl_flatMap]
  dsimp only
  congr 1; funext m t
  rw [List.foldl_map]
  show (Prod.snd (List.foldl _ _ _) : List (Rel × Unit)) = _
  refine GenC15b.foldl_snd _ _ ?_ _ _
  intro a b e
  dsimp only
  generalize hfo : List.foldl _ (false, true) _ = fo
  rw [GenC15b.foldl_found_one
    (fun e2 : GoString × Rel => decide (e2.2.fromName = e.2.toName) && decide (e2.2.toName = e.2.fromName) && decide (e2.2.toType = t.name))
    (fun e2 => e2.2.toOne) _ (by intro a b e2; dsimp only; first | done | rfl | (split <;> rfl))] at hfo
  subst hfo
  rw [Gen_Rel_Normalize_eq, Gen_Schema_GetType_eq, complete_eq s t e.2
    (fun e2 => decide (e2.2.fromName = e.2.toName) && decide (e2.2.toName = e.2.fromName) && decide (e2.2.toType = t.name))
    (fun p => by simp only [Bool.decide_and, Bool.and_assoc])]
  generalize (s.getType e.2.toType).rels.any _ = A
  generalize ((s.getType e.2.toType).rels.filter _).all _ = B
  by_cases h1 : e.2.toName = [] <;> cases A <;> simp [h1]

/-- A Go map holds each key once. -/
theorem Gen_Schema_buildRels_nodup (s : Schema) : ((Gen.Schema_buildRels s).map (·.1)).Nodup := by
  rw [buildRels_fold]
  exact (GenC15b.foldl_mapSet _ _ [] List.nodup_nil).1

/-- The keys of the map `buildRels` returns are exactly the members of the model's `relSet`:
the completed, normalised relationships of the schema's types. -/
theorem Gen_Schema_buildRels_mem (s : Schema) (x : Rel) :
    x ∈ (Gen.Schema_buildRels s).map (·.1) ↔ x ∈ s.relSet := by
  rw [buildRels_fold, (GenC15b.foldl_mapSet _ _ [] List.nodup_nil).2, mem_relSet]
  simp only [List.map_nil, List.not_mem_nil, false_or, List.mem_flatMap, GoMap.vals, List.mem_map]
  constructor
  · rintro ⟨e, ⟨t, ht, p, hp, rfl⟩, h⟩; exact ⟨t, ht, p.2, ⟨p, hp, rfl⟩, h⟩
  · rintro ⟨t, ht, r, ⟨p, hp, rfl⟩, h⟩; exact ⟨(t, p.2), ⟨t, ht, p, hp, rfl⟩, h⟩

/-- `buildRels` and the model's `relSet` are the same set: duplicate-free lists with the same
members, i.e. permutations of each other (the list order stands for the iteration order of the
map, which Go leaves open). -/
theorem Gen_Schema_buildRels_perm (s : Schema) : ((Gen.Schema_buildRels s).map (·.1)).Perm s.relSet :=
  (List.perm_ext_iff_of_nodup (Gen_Schema_buildRels_nodup s) (nodup_dedup _)).2 (Gen_Schema_buildRels_mem s)

/-- The comparison `Rels` sorts by is the model's `Rel.le`. -/
theorem Gen_Schema_Rels_order : (fun a b : Rel => !Gen.relLess b a) = Rel.le := by
  funext a b; rw [Gen_relLess_eq]; rfl

/-- The result does not depend on the order in which the map returned by `buildRels` is ranged
over: sorting ANY arrangement of its keys gives `relsSorted`. -/
theorem Gen_Schema_Rels_any_order (s : Schema) (l : List Rel)
    (h : l.Perm ((Gen.Schema_buildRels s).map (·.1))) :
    l.mergeSort (fun a b => !Gen.relLess b a) = s.relsSorted := by
  rw [Gen_Schema_Rels_order]
  exact Rel.mergeSort_le_eq_of_perm (h.trans (Gen_Schema_buildRels_perm s))

/-- schema.go `Rels` is the model's `relsSorted`. -/
theorem Gen_Schema_Rels_eq (s : Schema) : Gen.Schema_Rels s = s.relsSorted := by
  unfold Gen.Schema_Rels
  dsimp only
  rw [foldl_append_map, List.nil_append]
  exact Gen_Schema_Rels_any_order s _ (.refl _)

/-! ### `Type.Copy` -/

/-- type.go `Copy` on a type whose maps hold each key once (true of every Go map): the copy has
the source's name and the source's entries, in the order they were ranged over. -/
theorem Gen_Type_Copy_eq (t : Typ) (ha : t.attrs.keys.Nodup) (hr : t.rels.keys.Nodup) :
    Gen.Type_Copy t = t := by
  unfold Gen.Type_Copy
  have h1 : ∀ (l : GoMap Attr) (c : Typ),
      l.foldl (fun c e => { c with attrs := GoMap.set c.attrs e.1 e.2 }) c
        = { c with attrs := l.foldl (fun m e => GoMap.set m e.1 e.2) c.attrs } := by
    intro l; induction l with
    | nil => intro c; rfl
    | cons e l ih => intro c; rw [List.foldl_cons, ih]; rfl
  have h2 : ∀ (l : GoMap Rel) (c : Typ),
      l.foldl (fun c e => { c with rels := GoMap.set c.rels e.1 e.2 }) c
        = { c with rels := l.foldl (fun m e => GoMap.set m e.1 e.2) c.rels } := by
    intro l; induction l with
    | nil => intro c; rfl
    | cons e l ih => intro c; rw [List.foldl_cons, ih]; rfl
  simp only [h1, h2]
  rw [GenC15b.foldl_set_copy _ _ ha (fun _ _ => List.not_mem_nil),
    GenC15b.foldl_set_copy _ _ hr (fun _ _ => List.not_mem_nil)]
  rfl

/-- The same, against the model of `Type` values (Model/Misc.lean): what the translated `Copy`
makes of the effective maps of `t` is the `Typ` of the model's copy. -/
theorem Gen_Type_Copy_TypeV (t : TypeV) (h : t.WF) : Gen.Type_Copy t.eff = t.copy.typ := by
  rw [Gen_Type_Copy_eq t.eff h.1 h.2]; rfl

/-- The hypothesis is about the representation (an association list may repeat a key, a Go map
cannot), not about the code: on a list with a repeated key the copy keeps the last value. -/
theorem Gen_Type_Copy_needs_unique_keys :
    let a : Attr := { name := [97], ty := 1, nullable := false }
    let b : Attr := { name := [97], ty := 2, nullable := false }
    let t : Typ := { name := [116], attrs := [([97], a), ([97], b)], rels := [] }
    Gen.Type_Copy t ≠ t := by decide +kernel

end Jsonapi

section Axioms
open Jsonapi
#print axioms Gen_Schema_Check_eq
#print axioms Gen_Schema_Check_all_err
#print axioms Gen_Schema_Check_length
#print axioms Gen_Schema_Check_nil_iff
#print axioms Gen_Schema_buildRels_mem
#print axioms Gen_Schema_buildRels_nodup
#print axioms Gen_Schema_buildRels_perm
#print axioms Gen_Schema_Rels_order
#print axioms Gen_Schema_Rels_eq
#print axioms Gen_Schema_Rels_any_order
#print axioms Gen_Type_Copy_eq
#print axioms Gen_Type_Copy_TypeV
#print axioms Gen_Type_Copy_needs_unique_keys
end Axioms
