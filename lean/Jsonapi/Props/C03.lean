/-
C03 — shape of a marshaled document.

"A successful marshal returns a top level object with a jsonapi member and a self link,
never both data and errors, and included only alongside data. Every resource object has a
string type, a string id and a self link made of the document's path prefix, its type and
its id; every relationship object carries self and related links and, when present, data
that is null, one type/id identifier or an array of them. When included resources are added
through the document's Include operation, no type/ID pair appears twice across primary data
and included."

The clause "a successful marshal returns syntactically valid JSON" is `C03_valid_json` /
`C03_valid_json_model` / `C03_valid_json_resource`: the tree a successful marshal returns
renders (`Json.render`: the bytes `encoding/json` writes) to a text that the strict JSON
parser `Spec.parseJson` reads back as exactly that tree. The only hypothesis is on the JSON
values the caller hands over verbatim (meta objects, error sources): their number literals
must match the JSON number grammar (`Document.numsOk`).
-/
import Jsonapi.Proofs.MarshalJsonLemmas
import Jsonapi.Proofs.IncludeLemmas
import Jsonapi.Props.C04
namespace Jsonapi
open MarshalL

/-- 5. The top level of the specification's document tree. -/
theorem C03_toplevel (doc : Document) (fields : GoMap (List GoString)) (selfHref : GoString)
    (t : Json) (h : Spec.documentTree doc fields selfHref = some t) :
    t.isObj = true ∧ t.has K.jsonapi = true ∧
    (∃ l, t.get? K.links = some l ∧ l.get? K.self = some (.str selfHref)) ∧
    ¬ (t.has K.data = true ∧ t.has K.errors = true) ∧
    (t.has K.included = true → t.has K.data = true) :=
  toplevel_of_shape doc selfHref _ (docBody_keys doc fields) t (documentTree_some h)

/-- 5'. The same for the tree the model's `MarshalDocument` returns, stated on the domain of
C04 (the hypothesis is not used: 5''). -/
theorem C03_toplevel_model (doc : Document) (hdom : ∀ r ∈ docResources doc, r.keyedWf)
    (fields : GoMap (List GoString)) (selfHref : GoString) (t : Json) (doc' : Document)
    (h : marshalDocument doc fields selfHref = .ok (t, doc')) :
    t.isObj = true ∧ t.has K.jsonapi = true ∧
    (∃ l, t.get? K.links = some l ∧ l.get? K.self = some (.str selfHref)) ∧
    ¬ (t.has K.data = true ∧ t.has K.errors = true) ∧
    (t.has K.included = true → t.has K.data = true) :=
  toplevel_of_shape doc selfHref _ (bodyOf_keys ..) t (marshalDocument_ok.1 h).2.2.2.1

/-- 5''. Unconditionally: whatever document the model's `MarshalDocument` is given (resources
outside the domain of C04 included), a successful result has this top-level shape. -/
theorem C03_toplevel_model_any (doc : Document) (fields : GoMap (List GoString))
    (selfHref : GoString) (t : Json) (doc' : Document)
    (h : marshalDocument doc fields selfHref = .ok (t, doc')) :
    t.isObj = true ∧ t.has K.jsonapi = true ∧
    (∃ l, t.get? K.links = some l ∧ l.get? K.self = some (.str selfHref)) ∧
    ¬ (t.has K.data = true ∧ t.has K.errors = true) ∧
    (t.has K.included = true → t.has K.data = true) :=
  toplevel_of_shape doc selfHref _ (bodyOf_keys ..) t (marshalDocument_ok.1 h).2.2.2.1

/-- One member `(n, ro)` of a `relationships` object. -/
def RelObjShape (r : ResView) (prepath n : GoString) (ro : Json) : Prop :=
  ro.isObj = true ∧ ro.get? K.links = some (buildRelationshipLinks r prepath n) ∧
  (∀ d, ro.get? K.data = some d → IsLinkage d)

/-- The resource-object clauses of C03 for the object `j` written for the resource `r`. -/
def ResObjShape (prepath : GoString) (r : ResView) (j : Json) : Prop :=
  j.isObj = true ∧ j.get? K.type = some (.str r.typeName) ∧ j.get? K.id = some (.str r.id) ∧
  j.get? K.links = some (.obj [(K.self, .str (buildSelfLink r prepath))]) ∧
  (∀ rs n ro, j.get? K.relationships = some rs → rs.get? n = some ro → RelObjShape r prepath n ro)

/-- What `RelObjShape` says in the words of the property: an object that carries string `self`
and `related` links - prefix + type + "/" + id + "/relationships/" + name and … + "/" + name -
and, when present, data that is linkage. -/
theorem RelObjShape.spelled {r : ResView} {prepath n : GoString} {ro : Json}
    (h : RelObjShape r prepath n ro) :
    ro.isObj = true ∧
    (∃ l, ro.get? K.links = some l ∧
      l.get? K.self = some (.str (buildSelfLink r prepath ++ K.slashRelationships ++ n)) ∧
      l.get? K.related = some (.str (buildSelfLink r prepath ++ K.slash ++ n))) ∧
    (∀ d, ro.get? K.data = some d → IsLinkage d) :=
  ⟨h.1, ⟨_, h.2.1, relLinks_get_self .., relLinks_get_related ..⟩, h.2.2⟩

/-- … and `ResObjShape`: the self link is made of the path prefix, the type and the id. -/
theorem ResObjShape.spelled {prepath : GoString} {r : ResView} {j : Json}
    (h : ResObjShape prepath r j) :
    j.get? K.type = some (.str r.typeName) ∧ j.get? K.id = some (.str r.id) ∧
    (∃ l, j.get? K.links = some l ∧ l.get? K.self = some (.str (buildSelfLink r prepath))) ∧
    (r.id ≠ [] → r.typeName ≠ [] →
      buildSelfLink r prepath =
        (if prepath.getLast? = some 47 then prepath else prepath ++ [47]) ++
          r.typeName ++ [47] ++ r.id) ∧
    (∀ rs n ro, j.get? K.relationships = some rs → rs.get? n = some ro →
      ro.isObj = true ∧
      (∃ l s1 s2, ro.get? K.links = some l ∧ l.get? K.self = some (.str s1) ∧
        l.get? K.related = some (.str s2)) ∧
      (∀ d, ro.get? K.data = some d → IsLinkage d)) := by
  obtain ⟨_, h1, h2, h3, h4⟩ := h
  refine ⟨h1, h2, ⟨_, h3, by simp [Json.get?]⟩, ?_, ?_⟩
  · intro e1 e2
    simp [buildSelfLink, e1, e2, K.slash]
  · intro rs n ro hr hn
    obtain ⟨a, ⟨l, b1, b2, b3⟩, c⟩ := (h4 rs n ro hr hn).spelled
    exact ⟨a, ⟨l, _, _, b1, b2, b3⟩, c⟩

theorem relObject_shape (r : ResView) (prepath : GoString) (rel : Rel) (w : Bool) :
    RelObjShape r prepath rel.fromName (Spec.relObject r prepath rel w) :=
  ⟨relObject_isObj .., relObject_get_links ..,
    fun _ hd => (relObject_get_data_some hd).2 ▸ relDataJson_isLinkage r rel⟩

theorem resTop_shape (r : ResView) (prepath : GoString)
    (attrs rels : List (GoString × Json)) (rmeta : Meta)
    (hr : ∀ p ∈ rels, RelObjShape r prepath p.1 p.2) :
    ResObjShape prepath r (Json.obj (sortMembers (resTop r prepath attrs rels rmeta))) :=
  ⟨rfl, resTop_get_type .., resTop_get_id .., resTop_get_links ..,
    fun _ n ro h1 h2 => hr (n, ro) (rel_member (resTop_get_relationships ..) h1 h2)⟩

/-- 6. Every resource object: string type, string id, a self link made of the path prefix,
the type and the id; every member of "relationships" is an object with string self and
related links whose data, when present, is resource linkage. No hypothesis on the resource. -/
theorem C03_resource_object (r : ResView) (prepath : GoString) (fields : List GoString)
    (relData : GoMap (List GoString)) (rmeta : Meta) :
    (Spec.resourceObject r prepath fields relData rmeta).get? K.type = some (.str r.typeName) ∧
    (Spec.resourceObject r prepath fields relData rmeta).get? K.id = some (.str r.id) ∧
    (∃ l, (Spec.resourceObject r prepath fields relData rmeta).get? K.links = some l ∧
      l.get? K.self = some (.str (buildSelfLink r prepath))) ∧
    (r.id ≠ [] → r.typeName ≠ [] →
      buildSelfLink r prepath =
        (if prepath.getLast? = some 47 then prepath else prepath ++ [47]) ++
          r.typeName ++ [47] ++ r.id) ∧
    (∀ rs n ro, (Spec.resourceObject r prepath fields relData rmeta).get? K.relationships = some rs →
      rs.get? n = some ro →
      ro.isObj = true ∧
      (∃ l s1 s2, ro.get? K.links = some l ∧ l.get? K.self = some (.str s1) ∧
        l.get? K.related = some (.str s2)) ∧
      (∀ d, ro.get? K.data = some d → IsLinkage d)) :=
  (resTop_shape r prepath _ _ rmeta (fun _ hq =>
    let ⟨rel, _, e⟩ := List.mem_map.1 hq; e ▸ relObject_shape r prepath rel _)).spelled

/-! ### syntactic validity of the rendered document

`Document.numsOk` (Jsonapi/Proofs/MarshalJsonLemmas.lean): the document's meta, the meta of
each of its links and the source and meta of each of its errors — the JSON values the caller
supplies verbatim — contain only number literals of the JSON grammar. Resource objects carry
no meta inside a `Document` (`marshalDocument` and `Spec.documentTree` marshal every resource
with the default `rmeta := []`), so there is no condition on resources at all. -/

/-- 8. Valid JSON, specification tree: the bytes `encoding/json` writes for the document tree
parse, as strict compact JSON, to exactly that tree. -/
theorem C03_valid_json (doc : Document) (fields : GoMap (List GoString)) (selfHref : GoString)
    (t : Json) (hn : doc.numsOk) (h : Spec.documentTree doc fields selfHref = some t) :
    Spec.parseJson t.render = some t :=
  JsonL.parseJson_render t (MJsonL.documentTree_numsOk hn h)

/-- 8'. Valid JSON, model: whatever document the model's `MarshalDocument` is given (no
hypothesis on its resources: those outside the domain of C04 included), the tree of a
successful result renders to a text that parses to exactly that tree. -/
theorem C03_valid_json_model (doc : Document) (fields : GoMap (List GoString))
    (selfHref : GoString) (t : Json) (doc' : Document) (hn : doc.numsOk)
    (h : marshalDocument doc fields selfHref = .ok (t, doc')) :
    Spec.parseJson t.render = some t :=
  JsonL.parseJson_render t (MJsonL.marshalDocument_numsOk hn h)

/-- 8''. Valid JSON, one resource object with a meta object of well-formed numbers. No
hypothesis on the resource. -/
theorem C03_valid_json_resource (r : ResView) (prepath : GoString) (fields : List GoString)
    (relData : GoMap (List GoString)) (rmeta : Meta) (hm : Json.numsOkMembers rmeta) :
    Spec.parseJson (Spec.resourceObject r prepath fields relData rmeta).render =
      some (Spec.resourceObject r prepath fields relData rmeta) :=
  JsonL.parseJson_render _ (MJsonL.resourceObject_numsOk r prepath fields relData rmeta hm)

/-- The same for whatever the model's `MarshalResource` returns (any resource, meta of
well-formed numbers). -/
theorem C03_valid_json_resource_model (r : ResView) (prepath : GoString)
    (fields : List GoString) (relData : GoMap (List GoString)) (rmeta : Meta) (j : Json)
    (r' : ResView) (hm : Json.numsOkMembers rmeta)
    (h : marshalResource r prepath fields relData rmeta = .ok (j, r')) :
    Spec.parseJson j.render = some j :=
  JsonL.parseJson_render j (MJsonL.marshalResource_numsOk hm h)

/-- Two documents that marshal to the same bytes marshal to the same tree: the text
determines the tree. -/
theorem C03_render_determines_tree (doc1 doc2 : Document) (f1 f2 : GoMap (List GoString))
    (s1 s2 : GoString) (t1 t2 : Json) (d1 d2 : Document) (hn1 : doc1.numsOk) (hn2 : doc2.numsOk)
    (h1 : marshalDocument doc1 f1 s1 = .ok (t1, d1)) (h2 : marshalDocument doc2 f2 s2 = .ok (t2, d2))
    (hr : t1.render = t2.render) : t1 = t2 :=
  JsonL.render_injective t1 t2 (MJsonL.marshalDocument_numsOk hn1 h1)
    (MJsonL.marshalDocument_numsOk hn2 h2) hr

/-- The Include invariant in terms of (type, id) pairs: starting from any document whose
primary data and included resources have pairwise distinct (type, id) pairs (and whose
typed collection holds resources of its type), every history of Include calls — repeated
resources, resources of the primary data, every kind of primary data — leaves the pairs
distinct and the primary data untouched. -/
theorem C03_include_unique_pairs (ops : List ResView) (d0 : Document) (ht : TypedCol d0)
    (hnd : ((docPrimary d0 ++ d0.included).map resPair).Nodup) :
    ((docPrimary (ops.foldl Document.include d0) ++
        (ops.foldl Document.include d0).included).map resPair).Nodup ∧
    (ops.foldl Document.include d0).data = d0.data := by
  obtain ⟨h1, h2⟩ := include_fold resPair (fun _ _ => resKey_of_resPair) ops d0 ht
    (by intro r _ m _ h
        simp only [resPair, Prod.mk.injEq] at h
        exact h.1) hnd
  exact ⟨h2, h1⟩

/-- Domain of the key-level statement: the keys of the primary data are distinct and a
typed collection holds resources of its type. -/
def DocOk (d : Document) : Prop := (Spec.primaryKeys d).Nodup ∧ TypedCol d

instance c04_decDocOk (d : Document) : Decidable (DocOk d) := by
  unfold DocOk; exact inferInstance

/-- `KeyFaithful ops d0` (Jsonapi/Proofs/IncludeLemmas.lean): the key `id ++ " " ++ type`
that Include compares determines the type, for the resources handed to Include against those
of the primary data. It holds whenever type names contain no space. -/
theorem C03_keyFaithful_of_noSpace (ops : List ResView) (d0 : Document)
    (h : ∀ r ∈ docPrimary d0 ++ ops, (32 : UInt8) ∉ r.typeName) : KeyFaithful ops d0 := by
  intro r hr m hm hk
  exact (resKey_inj_of_noSpace (h m (List.mem_append_left _ hm))
    (h r (List.mem_append_right _ hr)) hk).1

/-- 7 (general form). Starting from any document whose primary and included keys are
already distinct. -/
theorem C03_include_unique_gen (ops : List ResView) (d0 : Document) (ht : TypedCol d0)
    (hkey : KeyFaithful ops d0)
    (hnd : (Spec.primaryKeys d0 ++ d0.included.map resKey).Nodup) :
    (Spec.primaryKeys (ops.foldl Document.include d0) ++
        (ops.foldl Document.include d0).included.map resKey).Nodup ∧
    Spec.primaryKeys (ops.foldl Document.include d0) = Spec.primaryKeys d0 := by
  rw [primaryKeys_eq, ← List.map_append] at hnd
  obtain ⟨h1, h2⟩ := include_fold resKey (fun _ _ h => h) ops d0 ht hkey hnd
  rw [primaryKeys_eq, primaryKeys_eq, ← List.map_append, docPrimary_congr h1]
  rw [docPrimary_congr h1] at h2
  exact ⟨h2, rfl⟩

/-- 7. Over every history of Include calls from a document without included resources. -/
theorem C03_include_unique (ops : List ResView) (d0 : Document) (hinc : d0.included = [])
    (hok : DocOk d0) (hkey : KeyFaithful ops d0) :
    (Spec.primaryKeys (ops.foldl Document.include d0) ++
        (ops.foldl Document.include d0).included.map resKey).Nodup ∧
    Spec.primaryKeys (ops.foldl Document.include d0) = Spec.primaryKeys d0 :=
  C03_include_unique_gen ops d0 hok.2 hkey (by rw [hinc]; simpa using hok.1)

#print axioms C03_toplevel
#print axioms C03_toplevel_model
#print axioms C03_toplevel_model_any
#print axioms C03_resource_object
#print axioms C03_valid_json
#print axioms C03_valid_json_model
#print axioms C03_valid_json_resource
#print axioms C03_valid_json_resource_model
#print axioms C03_render_determines_tree
#print axioms C03_include_unique_pairs
#print axioms C03_keyFaithful_of_noSpace
#print axioms C03_include_unique_gen
#print axioms C03_include_unique

/-! ### non-vacuity, and why `KeyFaithful` is needed -/

def c04_res (id typ : GoString) : ResView :=
  { typeName := typ, id := id, attrs := [], rels := [], vals := [] }

/-- a typed collection "c" with two members; Include of a member, of a new resource twice,
and of a resource of another type -/
def c04_doc : Document := { data := .col [99] [c04_res [49] [99], c04_res [50] [99]] }

example : DocOk c04_doc ∧ c04_doc.included = [] := by decide

example : (([c04_res [49] [99], c04_res [51] [100], c04_res [51] [100], c04_res [49] [100]].foldl
    Document.include c04_doc).included).map resKey = [[51, 32, 100], [49, 32, 100]] := by decide

/-- Without `KeyFaithful` the key-level statement is false in the model: the collection is
typed "c" and holds (id "a b", type "c"); including (id "a", type "b c") — a different
(type, id) pair with the same key "a b c" — is not recognised as primary data (the type
differs from the collection's) and lands in included with a key equal to a primary key.
The pair-level statement `C03_include_unique_pairs` is unaffected. -/
example :
    let d0 : Document := { data := .col [99] [c04_res [97, 32, 98] [99]] }
    let d := [c04_res [97] [98, 32, 99]].foldl Document.include d0
    DocOk d0 ∧ d0.included = [] ∧
    ¬ (Spec.primaryKeys d ++ d.included.map resKey).Nodup := by decide

/-! ### non-vacuity of the valid-JSON theorems, and why `Document.numsOk` is needed -/

/-- a resource of type "a", id "1", with an int attribute n = -5 and a string attribute s
holding a quote and `<` -/
def c03_res : ResView :=
  { typeName := [97], id := [49],
    attrs := [([110], { name := [110], ty := 2, nullable := false }),
              ([115], { name := [115], ty := 1, nullable := false })],
    rels := [],
    vals := [([110], .val .int (.i (-5))), ([115], .val .string (.s [34, 60]))] }

/-- that resource as primary data, no errors, meta {"n":1.5e3}, path prefix "/" -/
def c03_doc : Document :=
  { data := .res c03_res, dmeta := [([110], .num [49, 46, 53, 101, 51])], prePath := [47] }

/-- fields[a]=n,s -/
def c03_fields : GoMap (List GoString) := [([97], [[110], [115]])]

theorem c03_doc_numsOk : c03_doc.numsOk := by decide

theorem c03_doc_dom : ∀ r ∈ docResources c03_doc, r.keyedWf := by decide

example : c03_doc.numsOk := c03_doc_numsOk

example : ∀ r ∈ docResources c03_doc, r.keyedWf := c03_doc_dom

/-- the document tree, members sorted by key -/
def c03_tree : Json :=
  .obj [(K.data, .obj [
          (K.attributes, .obj [([110], .num [45, 53]), ([115], .str [34, 60])]),
          (K.id, .str [49]),
          (K.links, .obj [(K.self, .str [47, 97, 47, 49])]),
          (K.type, .str [97])]),
        (K.jsonapi, .obj [(K.version, .str K.v10)]),
        (K.links, .obj [(K.self, .str [47, 97, 47, 49])]),
        (K.kmeta, .obj [([110], .num [49, 46, 53, 101, 51])])]

theorem c03_printNat5 : printNat 5 = [53] := by rw [printNat]; decide

theorem c03_doc_tree :
    Spec.documentTree c03_doc c03_fields [47, 97, 47, 49] = some c03_tree := by
  simp (decide := true) [Spec.documentTree, c03_doc, c03_res, c03_fields, c03_tree,
    Spec.dataMember, Spec.resourceObject, Spec.selection, sortMembers, List.mergeSort,
    GoMap.get?, GoMap.vals, ResView.get, encodeAttr, encodeVal, encodePay, printInt,
    c03_printNat5, buildSelfLink, List.MergeSort.Internal.splitInTwo, K.data, K.jsonapi,
    K.links, K.kmeta, K.self, K.id, K.type, K.attributes, K.slash]

example : Spec.parseJson c03_tree.render = some c03_tree :=
  C03_valid_json c03_doc c03_fields [47, 97, 47, 49] c03_tree c03_doc_numsOk c03_doc_tree

example : ∃ doc', marshalDocument c03_doc c03_fields [47, 97, 47, 49] = .ok (c03_tree, doc') ∧
    Spec.parseJson c03_tree.render = some c03_tree := by
  obtain ⟨doc', h⟩ := (C04_document c03_doc c03_doc_dom c03_fields [47, 97, 47, 49]).2 _
    c03_doc_tree
  exact ⟨doc', h, C03_valid_json_model _ _ _ _ _ c03_doc_numsOk h⟩

/-- the bytes of the sample, spelled out:
`{"data":{"attributes":{"n":-5,"s":"\"\u003c"},"id":"1","links":{"self":"/a/1"},"type":"a"},`
`"jsonapi":{"version":"1.0"},"links":{"self":"/a/1"},"meta":{"n":1.5e3}}` -/
example : c03_tree.render =
    [123, 34, 100, 97, 116, 97, 34, 58, 123, 34, 97, 116, 116, 114, 105, 98, 117, 116, 101, 115,
     34, 58, 123, 34, 110, 34, 58, 45, 53, 44, 34, 115, 34, 58, 34, 92, 34, 92, 117, 48, 48, 51,
     99, 34, 125, 44, 34, 105, 100, 34, 58, 34, 49, 34, 44, 34, 108, 105, 110, 107, 115, 34, 58,
     123, 34, 115, 101, 108, 102, 34, 58, 34, 47, 97, 47, 49, 34, 125, 44, 34, 116, 121, 112,
     101, 34, 58, 34, 97, 34, 125, 44, 34, 106, 115, 111, 110, 97, 112, 105, 34, 58, 123, 34,
     118, 101, 114, 115, 105, 111, 110, 34, 58, 34, 49, 46, 48, 34, 125, 44, 34, 108, 105, 110,
     107, 115, 34, 58, 123, 34, 115, 101, 108, 102, 34, 58, 34, 47, 97, 47, 49, 34, 125, 44, 34,
     109, 101, 116, 97, 34, 58, 123, 34, 110, 34, 58, 49, 46, 53, 101, 51, 125, 125] := by
  decide +kernel

/-- The hypothesis matters: a document whose meta holds the number literal `01` is not in
the domain, it marshals (to the tree below), and the text of that tree,
`{"data":null,"jsonapi":{"version":"1.0"},"links":{"self":""},"meta":{"x":01}}`,
is rejected by the parser. -/
def c03_bad : Document := { dmeta := [([120], .num [48, 49])] }

example : ¬ c03_bad.numsOk := by decide

def c03_bad_tree : Json :=
  .obj [(K.data, .null), (K.jsonapi, .obj [(K.version, .str K.v10)]),
        (K.links, .obj [(K.self, .str [])]), (K.kmeta, .obj [([120], .num [48, 49])])]

theorem c03_bad_doc_tree : Spec.documentTree c03_bad [] [] = some c03_bad_tree := by
  simp (decide := true) [Spec.documentTree, c03_bad, c03_bad_tree, Spec.dataMember,
    sortMembers, List.mergeSort, List.MergeSort.Internal.splitInTwo, K.data, K.jsonapi,
    K.links, K.kmeta, K.self]

example : ∃ t doc', Spec.documentTree c03_bad [] [] = some t ∧
    marshalDocument c03_bad [] [] = .ok (t, doc') ∧ Spec.parseJson t.render = none := by
  obtain ⟨doc', h⟩ := (C04_document c03_bad (by decide) [] []).2 _ c03_bad_doc_tree
  exact ⟨c03_bad_tree, doc', c03_bad_doc_tree, h, by decide +kernel⟩

end Jsonapi
