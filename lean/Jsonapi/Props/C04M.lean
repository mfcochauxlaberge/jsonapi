/-
C04 on the MODEL's output.

The "exactly / iff" corollaries of Props/C04.lean (`C04_attr_present_iff`, `C04_rel_present_iff`,
`C04_data_present_iff`, `C04_data_exact`, `C04_no_entry`, `C04_not_selected`) speak about the
specification's tree `Spec.resourceObject …`. Here each is restated about the tree `j` that the
MODEL's `marshalResource` returns - `marshalResource … = .ok (j, r') → …` - and, document-wide,
about every resource object found under `data` and `included` of the tree the model's
`marshalDocument` returns. The transfer is `C04_resource` / `C04_document`.

Domain: as in C04, `ResView.keyedWf` (decidable; `c04_sample` is an instance).
-/
import Jsonapi.Props.C04
namespace Jsonapi
open MarshalL

/-- the tree the model returns is the specification's (from `C04_resource`) -/
theorem C04M_tree (r : ResView) (hr : r.keyedWf) (prepath : GoString) (fields : List GoString)
    (relData : GoMap (List GoString)) (rmeta : Meta) {j : Json} {r' : ResView}
    (h : marshalResource r prepath fields relData rmeta = .ok (j, r')) :
    j = Spec.resourceObject r prepath fields relData rmeta := by
  obtain ⟨r'', h', _⟩ := C04_resource r hr prepath fields relData rmeta
  rw [h] at h'
  cases h'
  rfl

/-- 2a on the model's output: a name is a member of "attributes" iff it is the name of an
attribute of the resource and the selection lists it. -/
theorem C04M_attr_present_iff (r : ResView) (hr : r.keyedWf) (prepath : GoString)
    (fields : List GoString) (relData : GoMap (List GoString)) (rmeta : Meta) {j : Json} {r' : ResView}
    (h : marshalResource r prepath fields relData rmeta = .ok (j, r')) (n : GoString) :
    (∃ a, j.get? K.attributes = some a ∧ a.has n = true) ↔
    ((∃ a ∈ r.attrs.vals, a.name = n) ∧ n ∈ fields) := by
  rw [C04M_tree r hr prepath fields relData rmeta h]
  exact C04_attr_present_iff r prepath fields relData rmeta n

/-- 2b on the model's output: a name is a member of "relationships" iff it is the name of a
relationship of the resource and the selection lists it. -/
theorem C04M_rel_present_iff (r : ResView) (hr : r.keyedWf) (prepath : GoString)
    (fields : List GoString) (relData : GoMap (List GoString)) (rmeta : Meta) {j : Json} {r' : ResView}
    (h : marshalResource r prepath fields relData rmeta = .ok (j, r')) (n : GoString) :
    (∃ a, j.get? K.relationships = some a ∧ a.has n = true) ↔
    ((∃ rel ∈ r.rels.vals, rel.fromName = n) ∧ n ∈ fields) := by
  rw [C04M_tree r hr prepath fields relData rmeta h]
  exact C04_rel_present_iff r prepath fields relData rmeta n

/-- 2c on the model's output: the relationship object of a selected relationship has a "data"
member iff the document's relData lists the relationship for the resource's type. -/
theorem C04M_data_present_iff (r : ResView) (hr : r.keyedWf) (prepath : GoString)
    (fields : List GoString) (relData : GoMap (List GoString)) (rmeta : Meta) {j : Json} {r' : ResView}
    (h : marshalResource r prepath fields relData rmeta = .ok (j, r'))
    (rel : Rel) (hrel : rel ∈ r.rels.vals) (hf : rel.fromName ∈ fields) :
    ∃ rs ro, j.get? K.relationships = some rs ∧ rs.get? rel.fromName = some ro ∧
      (ro.has K.data = true ↔ rel.fromName ∈ (relData.get? r.typeName).getD []) := by
  rw [C04M_tree r hr prepath fields relData rmeta h]
  exact C04_data_present_iff r hr prepath fields relData rmeta rel hrel hf

/-- 3 on the model's output: the data member of a selected and requested relationship lists
exactly the related IDs with the target type (null for an empty to-one). -/
theorem C04M_data_exact (r : ResView) (hr : r.keyedWf) (prepath : GoString)
    (fields : List GoString) (relData : GoMap (List GoString)) (rmeta : Meta) {j : Json} {r' : ResView}
    (h : marshalResource r prepath fields relData rmeta = .ok (j, r'))
    (rel : Rel) (hrel : rel ∈ r.rels.vals) (hf : rel.fromName ∈ fields)
    (hw : rel.fromName ∈ (relData.get? r.typeName).getD []) :
    (∃ rs ro, j.get? K.relationships = some rs ∧
      rs.get? rel.fromName = some ro ∧ ro.get? K.data = some (Spec.relDataJson r rel)) ∧
    (rel.toOne = true → ∃ id, r.get rel.fromName = .val .string (.s id) ∧
      Spec.relDataJson r rel = if id = [] then .null else identifierJson id rel.toType) ∧
    (rel.toOne = false → ∃ (ids sorted : List GoString), r.get rel.fromName = .strs ids ∧ sorted.Perm ids ∧
      Spec.relDataJson r rel = .arr (sorted.map (fun id => identifierJson id rel.toType))) := by
  rw [C04M_tree r hr prepath fields relData rmeta h]
  exact C04_data_exact r hr prepath fields relData rmeta rel hrel hf hw

/-- On the model's output: a type without a selection entry exposes no attributes and no
relationships. -/
theorem C04M_no_entry (r : ResView) (hr : r.keyedWf) (prepath : GoString) (fields : GoMap (List GoString))
    (relData : GoMap (List GoString)) (rmeta : Meta) {j : Json} {r' : ResView}
    (h : marshalResource r prepath (Spec.selection fields r.typeName) relData rmeta = .ok (j, r'))
    (hn : fields.get? r.typeName = none) :
    j.has K.attributes = false ∧ j.has K.relationships = false := by
  rw [C04M_tree r hr prepath _ relData rmeta h]
  exact C04_no_entry r prepath fields relData rmeta hn

/-- On the model's output: nothing outside the selection is ever exposed. -/
theorem C04M_not_selected (r : ResView) (hr : r.keyedWf) (prepath : GoString) (fields : List GoString)
    (relData : GoMap (List GoString)) (rmeta : Meta) {j : Json} {r' : ResView}
    (h : marshalResource r prepath fields relData rmeta = .ok (j, r')) (n : GoString) (hn : n ∉ fields) :
    (¬ ∃ a, j.get? K.attributes = some a ∧ a.has n = true) ∧
    (¬ ∃ a, j.get? K.relationships = some a ∧ a.has n = true) := by
  rw [C04M_tree r hr prepath fields relData rmeta h]
  exact C04_not_selected r prepath fields relData rmeta n hn

/-! ### Document level -/

/-- What the property says of ONE resource object `j` of a marshaled document, for the resource
`r` it stands for: attribute names present = attributes of `r` that the selection of `r`'s type
lists; relationship names present = the selected relationships; a data member iff requested, and
then exactly `Spec.relDataJson` (the related IDs with the target type, null for an empty to-one:
`C04M_data_exact`); nothing outside the selection; nothing at all without a selection entry. -/
def C04M.MemberOK (fields relData : GoMap (List GoString)) (r : ResView) (j : Json) : Prop :=
  (∀ n, (∃ a, j.get? K.attributes = some a ∧ a.has n = true) ↔
      ((∃ a ∈ r.attrs.vals, a.name = n) ∧ n ∈ Spec.selection fields r.typeName)) ∧
  (∀ n, (∃ a, j.get? K.relationships = some a ∧ a.has n = true) ↔
      ((∃ rel ∈ r.rels.vals, rel.fromName = n) ∧ n ∈ Spec.selection fields r.typeName)) ∧
  (∀ rel ∈ r.rels.vals, rel.fromName ∈ Spec.selection fields r.typeName →
      ∃ rs ro, j.get? K.relationships = some rs ∧ rs.get? rel.fromName = some ro ∧
        (ro.has K.data = true ↔ rel.fromName ∈ (relData.get? r.typeName).getD []) ∧
        (rel.fromName ∈ (relData.get? r.typeName).getD [] →
          ro.get? K.data = some (Spec.relDataJson r rel))) ∧
  (∀ n, n ∉ Spec.selection fields r.typeName →
      (¬ ∃ a, j.get? K.attributes = some a ∧ a.has n = true) ∧
      (¬ ∃ a, j.get? K.relationships = some a ∧ a.has n = true)) ∧
  (fields.get? r.typeName = none → j.has K.attributes = false ∧ j.has K.relationships = false)

theorem C04M.memberOK_spec (fields relData : GoMap (List GoString)) (prepath : GoString)
    (r : ResView) (hr : r.keyedWf) :
    C04M.MemberOK fields relData r
      (Spec.resourceObject r prepath (Spec.selection fields r.typeName) relData) := by
  refine ⟨fun n => C04_attr_present_iff r prepath _ relData [] n,
    fun n => C04_rel_present_iff r prepath _ relData [] n, ?_,
    fun n hn => C04_not_selected r prepath _ relData [] n hn,
    fun hn => C04_no_entry r prepath fields relData [] hn⟩
  intro rel hrel hf
  obtain ⟨rs, ro, h1, h2, h3⟩ := C04_data_present_iff r hr prepath _ relData [] rel hrel hf
  refine ⟨rs, ro, h1, h2, h3, ?_⟩
  intro hw
  obtain ⟨⟨rs', ro', h1', h2', h3'⟩, _⟩ := C04_data_exact r hr prepath _ relData [] rel hrel hf hw
  rw [h1] at h1'
  cases h1'
  rw [h2] at h2'
  cases h2'
  exact h3'

/-- The resource the model's `marshalResource` writes for a document member: every clause. -/
theorem C04M_resource_member (r : ResView) (hr : r.keyedWf) (prepath : GoString)
    (fields relData : GoMap (List GoString)) {j : Json} {r' : ResView}
    (h : marshalResource r prepath (Spec.selection fields r.typeName) relData [] = .ok (j, r')) :
    C04M.MemberOK fields relData r j := by
  rw [C04M_tree r hr prepath _ relData [] h]
  exact C04M.memberOK_spec fields relData prepath r hr

/-- Every member of the array the model's `marshalCollection` returns, paired in order with the
collection's resources, meets every clause. -/
theorem C04M_collection_members (c : List ResView) (hc : ∀ r ∈ c, r.keyedWf) (prepath : GoString)
    (fields relData : GoMap (List GoString)) {j : Json} {c' : List ResView}
    (h : marshalCollection c prepath fields relData = .ok (j, c')) :
    ∃ js, j = .arr js ∧ Forall2 (C04M.MemberOK fields relData) c js := by
  obtain ⟨c'', h'⟩ := C04_collection c hc prepath fields relData
  rw [h] at h'
  cases h'
  exact ⟨_, rfl, Forall2.map_right _ c (fun r hr => C04M.memberOK_spec fields relData prepath r (hc r hr))⟩

/-- Every resource object of the tree the model's `marshalDocument` returns - the primary
resource, each member of a primary collection (in the collection's order), each member of
`included` (in ID order) - meets every clause of the property, each with the selection of ITS OWN
type. (A document carrying errors has neither member: `MarshalL.tree_get_data`,
`tree_get_included`.) -/
theorem C04M_document_members (doc : Document) (hdom : ∀ r ∈ docResources doc, r.keyedWf)
    (fields : GoMap (List GoString)) (selfHref : GoString) {t : Json} {doc' : Document}
    (h : marshalDocument doc fields selfHref = .ok (t, doc')) (he : doc.errors = []) :
    (∀ r, doc.data = .res r → ∃ j, t.get? K.data = some j ∧ C04M.MemberOK fields doc.relData r j) ∧
    (∀ x ms, doc.data = .col x ms →
      ∃ js, t.get? K.data = some (.arr js) ∧ Forall2 (C04M.MemberOK fields doc.relData) ms js) ∧
    (doc.included ≠ [] →
      ∃ js, t.get? K.included = some (.arr js) ∧
        Forall2 (C04M.MemberOK fields doc.relData) (sortById doc.included) js) ∧
    (doc.included = [] → t.get? K.included = none) := by
  obtain ⟨-, -, hno, rfl, -⟩ := marshalDocument_ok.1 h
  rw [bodyWith_congr (g' := specObj doc fields) (fun r hr =>
    (marshals_of_keyedWf (hdom r hr) doc.prePath fields doc.relData).2)]
  have hE : doc.errors.isEmpty = true := by rw [he]; rfl
  have hmem : ∀ l : List ResView, (∀ r ∈ l, r ∈ docResources doc) →
      Forall2 (C04M.MemberOK fields doc.relData) l (l.map (specObj doc fields)) := fun l hl =>
    Forall2.map_right _ l (fun r hr =>
      C04M.memberOK_spec fields doc.relData doc.prePath r (hdom r (hl r hr)))
  refine ⟨fun r hr => ?_, fun x ms hr => ?_, fun hne => ?_, fun hnil => ?_⟩
  · have hp : docPrimary doc = [r] := by unfold docPrimary; rw [hr]
    obtain _ | ⟨hm, _⟩ := hmem [r] (fun x hx => List.mem_append_left _ (hp ▸ hx))
    exact ⟨_, by rw [tree_get_data, if_pos hE]; unfold dataWith; rw [hr], hm⟩
  · have hp : docPrimary doc = ms := by unfold docPrimary; rw [hr]
    exact ⟨_, by rw [tree_get_data, if_pos hE]; unfold dataWith; rw [hr],
      hmem ms (fun x hx => List.mem_append_left _ (hp ▸ hx))⟩
  · refine ⟨_, ?_, hmem _ (fun x hx =>
      List.mem_append_right _ ((MarshalL.sortById_perm _).mem_iff.1 hx))⟩
    have hs : (dataWith (specObj doc fields) doc).isSome = true := by
      unfold dataWith
      cases hd : doc.data <;> simp [hE, hd, DetL.isOther] at hno ⊢
    rw [tree_get_included, if_pos ⟨hE, hs, hne⟩]
  · rw [tree_get_included, if_neg (fun hc => hc.2.2 hnil)]

/-! ### non-vacuity -/

/-- `c04_sample` is in the domain; the model marshals it and the theorems apply to what it returns -/
example : ∃ j r', marshalResource c04_sample [47] [[116], [105, 100], [122], [116]] [] [] = .ok (j, r') := by
  obtain ⟨r', h, _⟩ := C04_resource c04_sample (by decide) [47] [[116], [105, 100], [122], [116]] [] []
  exact ⟨_, r', h⟩

def c04m_doc : Document :=
  { (default : Document) with data := .res c04_sample, included := [c04_sample], errors := [] }

example : (∀ r ∈ docResources c04m_doc, r.keyedWf) ∧ c04m_doc.errors = [] ∧ c04m_doc.included ≠ [] := by
  decide

end Jsonapi

section Axioms
open Jsonapi
#print axioms C04M_tree
#print axioms C04M_attr_present_iff
#print axioms C04M_rel_present_iff
#print axioms C04M_data_present_iff
#print axioms C04M_data_exact
#print axioms C04M_no_entry
#print axioms C04M_not_selected
#print axioms C04M_resource_member
#print axioms C04M_collection_members
#print axioms C04M_document_members
end Axioms
