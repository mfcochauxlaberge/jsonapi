/-
Bridge — from the two resource implementations to the abstract views.

The marshal (C03/C04), round-trip (C01/C02), equality (C17) and collection (C19) theorems
quantify over an abstract `r : ResView` satisfying decidable predicates (`ResView.ok`,
`ResView.keyedWf`, `ViewWF`, `ResDom`).  This file shows that the views the library actually
hands to those functions satisfy them:

* `Soft.view s` of a soft resource `s` in the state invariant `SoftGood` (keyed type without a
  field called "id", valid attribute kinds, every stored value of the Go type of its field).
  A freshly created soft resource satisfies it (`SoftGood_init`) and every
  Set / AddAttr / AddRel / RemoveField / SetType call in the domain preserves it
  (`SoftGood_step`, `SoftGood_run`);
* `Wrapped.view w` of a wrapped struct whose declaration `Check` accepts and whose value is
  well typed (`Wrapped.WT`, C20's invariant: established by `C20_zero_WT`, preserved by every
  Set / SetID / New / Copy of `C20_accept_safe`).

Section 3 instantiates the abstract theorems with those views (C01, C17, C19, C20).
-/
import Jsonapi.Props.C01
import Jsonapi.Props.C04
import Jsonapi.Props.C17
import Jsonapi.Props.C17S
import Jsonapi.Props.C19
import Jsonapi.Props.C20
namespace Jsonapi
open GoMap Spec

/-! ## 1. Soft resources -/

/-- Every attribute of the type has one of the fourteen kinds. -/
def Typ.kindsOk (t : Typ) : Prop := ∀ p ∈ t.attrs, (Kind.ofCode? p.2.ty).isSome = true

instance (t : Typ) : Decidable t.kindsOk := by unfold Typ.kindsOk; exact inferInstance

/-- `x` is a value of the Go type the type declares for the name `f`: for an attribute a value
of its kind and nullability with a payload of the kind's shape and range (or untyped nil when
nullable), for a relationship a string or a string list by cardinality. No condition for a
name that is no field, nor for an attribute whose kind code is not one of the fourteen. -/
def Soft.valOk (t : Typ) (f : GoString) (x : GoVal) : Bool :=
  match t.attrs.get? f with
  | some a => (match Kind.ofCode? a.ty with
    | some k => x.hasAttrType k a.nullable || (a.nullable && x = .nil)
    | none => true)
  | none => match t.rels.get? f with
    | some r => (match x with
      | .val .string (.s _) => r.toOne
      | .strs _ => !r.toOne
      | _ => false)
    | none => true

/-- The data map of the soft resource is well typed: what it stores under a name (what `get?`
finds: a Go map has one value per key) is a value of the Go type of that field. -/
def Soft.WT (s : Soft) : Prop :=
  ∀ f ∈ s.data.keys, (s.data.get? f).all (Soft.valOk s.typ f) = true

instance (s : Soft) : Decidable s.WT := by unfold Soft.WT; exact inferInstance

theorem Soft.WT_iff (s : Soft) :
    s.WT ↔ ∀ f x, s.data.get? f = some x → Soft.valOk s.typ f x = true := by
  constructor
  · intro h f x hx
    have := h f (mem_keys_of_get? hx)
    rw [hx] at this
    exact this
  · intro h f _
    cases hx : s.data.get? f with
    | none => rfl
    | some x => exact h f x hx

/-- The state invariant of a soft resource under which its view is in the domain of the
marshal / round-trip / equality / collection theorems. -/
structure SoftGood (s : Soft) : Prop where
  keyed : TypKeyed s.typ
  noId : isField s.typ idName = false
  kinds : s.typ.kindsOk
  wt : s.WT

instance (s : Soft) : Decidable (SoftGood s) :=
  decidable_of_iff (TypKeyed s.typ ∧ isField s.typ idName = false ∧ s.typ.kindsOk ∧ s.WT)
    ⟨fun ⟨a, b, c, d⟩ => ⟨a, b, c, d⟩, fun h => ⟨h.keyed, h.noId, h.kinds, h.wt⟩⟩

theorem SameDef.valOk {t t' : Typ} {f : GoString} (h : SameDef t t' f) (x : GoVal) :
    Soft.valOk t' f x = Soft.valOk t f x := by
  unfold Soft.valOk; rw [h.1, h.2]

theorem Soft.valOk_nonfield {t : Typ} {f : GoString} (h : isField t f = false) (x : GoVal) :
    Soft.valOk t f x = true := by
  obtain ⟨h1, h2⟩ := isField_false_get? h
  unfold Soft.valOk
  simp only [h1, h2]

theorem Soft.valOk_attr {t : Typ} {f : GoString} {a : Attr} {k : Kind} (ha : t.attrs.get? f = some a)
    (hk : Kind.ofCode? a.ty = some k) (x : GoVal) :
    Soft.valOk t f x = (x.hasAttrType k a.nullable || (a.nullable && x = .nil)) := by
  unfold Soft.valOk; simp only [ha, hk]

theorem Soft.valOk_rel {t : Typ} {f : GoString} {r : Rel} (ha : t.attrs.get? f = none)
    (hr : t.rels.get? f = some r) (x : GoVal) : Soft.valOk t f x = true ↔ RelShape x r.toOne := by
  unfold Soft.valOk
  simp only [ha, hr]
  split
  · exact RelShape.val.symm
  · rw [RelShape.strs, Bool.not_eq_true']
  · rename_i h1 h2; exact iff_of_false Bool.false_ne_true (RelShape.other h1 h2)

theorem Soft.valOk_retype {t t' : Typ} {f : GoString} {x : GoVal}
    (h : isField t' f = true → SameDef t t' f) (hx : Soft.valOk t f x = true) :
    Soft.valOk t' f x = true := by
  cases hf : isField t' f with
  | false => exact Soft.valOk_nonfield hf x
  | true => rw [(h hf).valOk]; exact hx

theorem Soft.valOk_fieldZero (t : Typ) (f : GoString) : Soft.valOk t f (fieldZero t f) = true := by
  unfold Soft.valOk fieldZero
  cases ha : t.attrs.get? f with
  | some a =>
    simp only []
    cases hk : Kind.ofCode? a.ty with
    | none => rfl
    | some k => simp [Attr.zero, hk, UnmL.zero_hasAttrType]
  | none =>
    simp only []
    cases hr : t.rels.get? f with
    | none => rfl
    | some r =>
      simp only [Rel.zero]
      by_cases ho : r.toOne = true <;> simp [ho]

theorem hasAttrType_of_attrType {v : GoVal} {ty : Nat} {n : Bool} {k : Kind}
    (h : v.attrType = (ty, n)) (hk : Kind.ofCode? ty = some k) (hw : v.wellFormed = true) :
    v.hasAttrType k n = true := by
  cases v with
  | val k' p =>
    obtain ⟨rfl, rfl⟩ := Prod.mk.inj h
    rw [UnmL.ofCode?_code] at hk; cases hk
    simpa [GoVal.hasAttrType, GoVal.wellFormed] using hw
  | ptr k' p =>
    obtain ⟨rfl, rfl⟩ := Prod.mk.inj h
    rw [UnmL.ofCode?_code] at hk; cases hk
    cases p with
    | none => simp [GoVal.hasAttrType]
    | some p => simpa [GoVal.hasAttrType, GoVal.wellFormed] using hw
  | _ => rw [← (Prod.mk.inj h).1] at hk; cases hk

/-- What an accepted `Set` stores is a value of the field's Go type. -/
theorem Soft.valOk_stored {t : Typ} {k : GoString} {v : GoVal} (h : accepts t k v = true)
    (hw : v.wellFormed = true) : Soft.valOk t k (stored t k v) = true := by
  cases ha : t.attrs.get? k with
  | none =>
    have hst : stored t k v = v := by unfold stored; rw [ha]
    rw [hst]
    cases hr : t.rels.get? k with
    | none => exact Soft.valOk_nonfield (by unfold isField GoMap.has; rw [ha, hr]; rfl) v
    | some r => exact (Soft.valOk_rel ha hr v).2 ((accepts_rel ha hr v).1 h)
  | some a =>
    cases hk : Kind.ofCode? a.ty with
    | none => unfold Soft.valOk; simp only [ha, hk]
    | some kind =>
      rw [Soft.valOk_attr ha hk]
      unfold accepts at h
      unfold stored
      simp only [ha] at h ⊢
      by_cases hty : v.attrType = (a.ty, a.nullable)
      · simp only [hty, ne_eq, not_true_eq_false, decide_false, Bool.and_false, Bool.false_eq_true,
          if_false]
        rw [hasAttrType_of_attrType hty hk hw]; rfl
      · simp only [hty, decide_false, Bool.false_or, Bool.and_eq_true, decide_eq_true_eq] at h
        obtain ⟨rfl, hn⟩ := h
        rw [hn] at hty
        simp [hn, hty, Attr.zero, hk, UnmL.zero_hasAttrType]

theorem Soft.WT_checkData {t : Typ} (ht : TypKeyed t) {d : GoMap GoVal}
    (h : ∀ f x, d.get? f = some x → Soft.valOk t f x = true) :
    ∀ f x, (Soft.checkData t d).get? f = some x → Soft.valOk t f x = true := by
  intro f x hx
  rw [Soft.checkData_get? ht d f, Option.ite_none_right_eq_some, Option.some.injEq] at hx
  rw [← hx.2]
  cases hd : d.get? f with
  | some y => exact h f y hd
  | none => exact Soft.valOk_fieldZero t f

/-- A freshly created soft resource (`Type.New`, `SoftResource.New`, `&SoftResource{}` +
`SetType`: no stored value yet) of a keyed type without a field called "id" and with valid
kinds is in the invariant, whatever its ID. -/
theorem SoftGood_init (t : Typ) (hk : TypKeyed t) (hid : isField t idName = false)
    (hkinds : t.kindsOk) (id : GoString) : SoftGood { typ := t, id := id, data := [] } :=
  ⟨hk, hid, hkinds, by intro f hf; cases hf⟩

/-- The types of the other theorems (`TypWF` with `Spec.namesOk`: C14's invariant on every
type of a schema) are such types. -/
theorem SoftGood_init_wf (t : Typ) (ht : TypWF t) (hn : Spec.namesOk t = true) (id : GoString) :
    SoftGood { typ := t, id := id, data := [] } := by
  refine SoftGood_init t ht.keyed (isField_id_of_namesOk hn) (fun p hp => ?_) id
  obtain ⟨_, _, h1, h2⟩ := ht.attrs p hp
  obtain ⟨k, hk⟩ := validKind h1 h2
  rw [hk]; rfl

/-- The values handed to `Set` exist in Go (payload of the shape and range of the kind). -/
def SoftOp.valsWf : SoftOp → Bool
  | .set _ v => v.wellFormed
  | _ => true

/-- The kinds an edit brings in are among the fourteen. -/
def SoftOp.kindsOk : SoftOp → Prop
  | .addAttr a => (Kind.ofCode? a.ty).isSome = true
  | .setType t => t.kindsOk
  | _ => True

instance (op : SoftOp) : Decidable op.kindsOk := by
  cases op <;> unfold SoftOp.kindsOk <;> exact inferInstance

/-- Every call runs `check` and leaves a type under which each field of the old type is gone
or defined as before (`Set` of "id", a `Set` that is ignored and every type edit do no more). -/
theorem SoftGood.retype {t : Typ} {id : GoString} {d : GoMap GoVal}
    (h : SoftGood { typ := t, id := id, data := d }) {t' : Typ} (hk' : TypKeyed t')
    (hid' : isField t' idName = false) (hkinds' : t'.kindsOk)
    (hdef : ∀ f, isField t f = true → isField t' f = true → SameDef t t' f) (id' : GoString) :
    SoftGood { typ := t', id := id', data := Soft.checkData t d } :=
  ⟨hk', hid', hkinds', (Soft.WT_iff _).2 fun f x hx =>
    Soft.valOk_retype (hdef f ((Soft.has_checkData h.keyed d f).symm.trans (has_of_get? hx)))
      (Soft.WT_checkData h.keyed ((Soft.WT_iff _).1 h.wt) f x hx)⟩

/-- One call in the domain (`SoftOp.ok`, the C17S domain: a field added is not called "id",
SetType to a keyed type without "id" that keeps the definitions of the names it keeps; any
`Set`, well typed or not, with any real Go value; any `RemoveField`) keeps the invariant. -/
theorem SoftGood_step (s : Soft) (h : SoftGood s) (op : SoftOp) (hop : op.ok s.typ)
    (hv : op.valsWf = true) (hkd : op.kindsOk) : SoftGood (s.apply op) := by
  obtain ⟨t, id, d⟩ := s
  have ht : TypKeyed t := h.keyed
  have same := fun id' => h.retype ht h.noId h.kinds (fun _ _ _ => ⟨rfl, rfl⟩) id'
  cases op with
  | set k v =>
    show SoftGood (Soft.set _ k v)
    by_cases hk : k = idName
    · subst hk; rw [Soft.set_id]; exact same _
    · rw [Soft.set_eq t id d k v hk]
      by_cases hacc : accepts t k v = true
      · rw [if_pos hacc]
        refine ⟨ht, h.noId, h.kinds, (Soft.WT_iff _).2 fun f x hx => ?_⟩
        rw [get?_set] at hx
        by_cases e : f = k
        · rw [if_pos e, Option.some.injEq] at hx
          rw [e, ← hx]; exact Soft.valOk_stored hacc hv
        · rw [if_neg e] at hx; exact (Soft.WT_iff _).1 (same id).wt f x hx
      · rw [if_neg hacc]; exact same _
  | addAttr a =>
    show SoftGood (Soft.addAttr _ a)
    rw [Soft.addAttr_eq ht]
    by_cases hf : isField t a.name = true
    · rw [if_pos hf]; exact same _
    · rw [if_neg hf]
      have hf := Bool.not_eq_true _ ▸ hf
      exact h.retype (ht.setAttr hf) ((SameDef.setAttr t (Ne.symm hop)).isField.trans h.noId)
        (fun p hp => (mem_set hp).elim (h.kinds p) (· ▸ hkd))
        (fun f hf1 _ => SameDef.setAttr t (ne_of_isField hf1 hf)) _
  | addRel r =>
    show SoftGood (Soft.addRel _ r)
    rw [Soft.addRel_eq ht]
    by_cases hf : isField t r.fromName = true
    · rw [if_pos hf]; exact same _
    · rw [if_neg hf]
      have hf := Bool.not_eq_true _ ▸ hf
      exact h.retype (ht.setRel hf) ((SameDef.setRel t (Ne.symm hop)).isField.trans h.noId) h.kinds
        (fun f hf1 _ => SameDef.setRel t (ne_of_isField hf1 hf)) _
  | removeField f0 =>
    refine h.retype (ht.without f0) (by rw [isField_without, h.noId, Bool.and_false])
      (fun p hp => h.kinds p (mem_del hp)) (fun f _ hf' => SameDef.without t fun e => ?_) _
    rw [e, isField_without, decide_eq_false (not_not_intro rfl)] at hf'
    cases hf'
  | setType t' =>
    exact h.retype hop.1 hop.2.1 hkd (fun f hf1 hf' => hop.2.2.sameDef hf1 hf') _

/-- The domain of call lists, evaluated along the run of the model. -/
def SoftOpsOk (s : Soft) : List SoftOp → Prop
  | [] => True
  | op :: ops => (op.ok s.typ ∧ op.valsWf = true ∧ op.kindsOk) ∧ SoftOpsOk (s.apply op) ops

instance SoftOpsOk.dec : (s : Soft) → (ops : List SoftOp) → Decidable (SoftOpsOk s ops)
  | _, [] => isTrue trivial
  | s, op :: ops =>
    have := SoftOpsOk.dec (s.apply op) ops
    inferInstanceAs (Decidable ((op.ok s.typ ∧ op.valsWf = true ∧ op.kindsOk) ∧ SoftOpsOk (s.apply op) ops))

theorem SoftGood_run (ops : List SoftOp) : ∀ (s : Soft), SoftGood s → SoftOpsOk s ops →
    SoftGood (s.run ops) := by
  induction ops with
  | nil => intro s h _; exact h
  | cons op ops ih =>
    intro s h hok
    obtain ⟨⟨h1, h2, h3⟩, hrest⟩ := hok
    exact ih _ (SoftGood_step s h op h1 h2 h3) hrest

theorem Soft.view_valOk (s : Soft) (hk : TypKeyed s.typ) (hid : isField s.typ idName = false)
    (hwt : s.WT) {f : GoString} (hf : isField s.typ f = true) :
    Soft.valOk s.typ f (s.view.get f) = true := by
  obtain ⟨t, id, d⟩ := s
  rw [Soft.view_get_eq hk id d hf (ne_of_isField hf hid)]
  cases hd : d.get? f with
  | some y => exact (Soft.WT_iff _).1 hwt f y hd
  | none => exact Soft.valOk_fieldZero t f

theorem Soft_view_keyed (s : Soft) (hk : TypKeyed s.typ) : s.view.keyed :=
  ⟨hk.attrs, hk.rels, hk.ndA, hk.ndR⟩

theorem TypKeyed.get?_rel {t : Typ} (hk : TypKeyed t) {p : GoString × Rel} (hp : p ∈ t.rels) :
    t.attrs.get? p.1 = none ∧ t.rels.get? p.1 = some p.2 :=
  ⟨get?_eq_none_of_not_mem fun hm => hk.disj p.1 hm (mem_keys_of_mem hp), get?_of_mem_nodup hk.ndR hp⟩

/-- `ResView.wf`: every attribute of the view holds a value of its declared Go type, every
relationship a string / string list by cardinality, attribute and relationship names
disjoint. Needs of the type: keyed (names unique, key = name, attributes and relationships
disjoint), no field called "id" (`Get("id")` is the ID), kinds among the fourteen. -/
theorem Soft_view_wf (s : Soft) (h : SoftGood s) : s.view.wf = true := by
  obtain ⟨hk, hid, hkinds, hwt⟩ := h
  have hval := fun {f} hf => Soft.view_valOk s hk hid hwt (f := f) hf
  refine (ResView.wf_iff_of_keyed (Soft_view_keyed s hk)).2 ⟨fun p hp => ?_, fun p hp => ?_⟩
  · have ha : s.typ.attrs.get? p.1 = some p.2 := get?_of_mem_nodup hk.ndA hp
    obtain ⟨k, hkk⟩ := Option.isSome_iff_exists.1 (hkinds p hp)
    exact ⟨(has_false_iff _ _).2 (get?_eq_none_of_not_mem (hk.disj p.1 (mem_keys_of_mem hp))), k, hkk,
      (Soft.valOk_attr ha hkk _).symm.trans (hval (isField_of_attr ha))⟩
  · obtain ⟨hna, hr⟩ := hk.get?_rel hp
    exact (Soft.valOk_rel hna hr _).1 (hval (isField_of_rel hr))

/-- The view of a soft resource in the invariant is in the domain of the
equality theorems (C17: `ResView.ok`). -/
theorem Soft_view_ok (s : Soft) (h : SoftGood s) : s.view.ok :=
  ⟨Soft_view_wf s h, Soft_view_keyed s h.keyed⟩

/-- … in the domain of the marshal and round-trip theorems (C04 / C01 / C02 / C03 / C11:
`ResView.keyedWf`). -/
theorem Soft_view_keyedWf (s : Soft) (h : SoftGood s) : s.view.keyedWf :=
  ⟨Soft_view_wf s h, h.keyed.attrs, h.keyed.rels, h.keyed.nodup_keys⟩

/-- … and may be handed to `SoftCollection.Add` (C19: `ViewWF`). Needs of the type: keyed,
no field called "id"; of the values: the relationships' (the kinds play no part). -/
theorem Soft_view_ViewWF (s : Soft) (hk : TypKeyed s.typ) (hid : isField s.typ idName = false)
    (hwt : s.WT) : ViewWF s.view := by
  refine ⟨fun p hp => ?_, fun p hp => ?_⟩
  · rw [← hk.attrs p hp]
    exact ne_of_isField ((isField_iff _ _).2 (.inl (mem_keys_of_mem hp))) hid
  · obtain ⟨hna, hr⟩ := hk.get?_rel hp
    have hf := isField_of_rel hr
    rw [relValOk_iff, ← hk.rels p hp]
    exact ⟨ne_of_isField hf hid, (Soft.valOk_rel hna hr _).1 (Soft.view_valOk s hk hid hwt hf)⟩

theorem Soft_view_all (s : Soft) (h : SoftGood s) : s.view.ok ∧ s.view.keyedWf ∧ ViewWF s.view :=
  ⟨Soft_view_ok s h, Soft_view_keyedWf s h, Soft_view_ViewWF s h.keyed h.noId h.wt⟩

/-! ## 2. Wrapped structs -/

/-- An accepted, well-typed field read through `Get` is a value of the attribute's type. -/
theorem read_hasAttrType {k : Kind} {n : Bool} {v : GoVal} (ha : (GoTy.attr k n).accepts v = true)
    (hw : v.wellFormed = true) :
    (v.read.hasAttrType k n || (n && decide (v.read = .nil))) = true := by
  cases n with
  | false =>
    cases v with
    | val k' p =>
      simp only [GoTy.accepts, decide_eq_true_eq] at ha
      subst ha
      simpa [GoVal.read, GoVal.hasAttrType, GoVal.wellFormed] using hw
    | _ => simp [GoTy.accepts] at ha
  | true =>
    cases v with
    | ptr k' o =>
      simp only [GoTy.accepts, decide_eq_true_eq] at ha
      subst ha
      cases o with
      | none => simp [GoVal.read]
      | some p => simpa [GoVal.read, GoVal.hasAttrType, GoVal.wellFormed] using hw
    | _ => simp [GoTy.accepts] at ha

/-- For a struct declaration accepted by `Check` (with Go's single `ID`
field) and a well-typed wrapper value, the view exists (no `Get` panics), carries the
wrapper's type name, ID and field maps, and satisfies `ResView.ok`, `ResView.keyedWf` and
`ViewWF`. -/
theorem Wrapped_view_ok (d : StructDecl) (h : checkStruct d = true) (hs : SingleID d)
    (vals : List GoVal) (w : Wrapped) (hw : wrap d vals = .ok w) (hwt : w.WT) :
    ∃ v, w.view = some v ∧ v.typeName = w.typ ∧ v.id = w.getID ∧ v.attrs = w.attrs ∧
      v.rels = w.rels ∧ (∀ f ∈ w.attrs.keys ++ w.rels.keys, w.get f = .ok (v.get f)) ∧
      v.ok ∧ v.keyedWf ∧ ViewWF v := by
  have c := checkFacts h
  obtain rfl := eq_mkW_of_wrap h hw
  have hall : ∀ n ∈ (structAttrs d).keys ++ (relsOf d).keys, ∃ v, (mkW d vals).get n = .ok v :=
    fun n hn => safe_get c hs hwt hn
  refine ⟨_, Wrapped.view_eq_viewOf _ hall, rfl, rfl, rfl, rfl, ?_⟩
  generalize hV : (mkW d vals).viewOf = V
  obtain ⟨hVa, hVr⟩ : V.attrs = structAttrs d ∧ V.rels = relsOf d := by rw [← hV]; exact ⟨rfl, rfl⟩
  have hget : ∀ {f x}, f ∈ (structAttrs d).keys ++ (relsOf d).keys → (mkW d vals).get f = .ok x →
      V.get f = x := by
    intro f x hf hx
    rw [← hV]
    exact Wrapped.viewOf_get hf hx
  have disj := c.attrs_rels_disj hs
  have keyed : V.keyed := by
    unfold ResView.keyed
    rw [hVa, hVr]
    refine ⟨fun p hp => ?_, fun p hp => ?_, structAttrs_nodup d, relsOf_nodup d⟩
    · obtain ⟨f, _, _, rfl⟩ := structAttrs_mem hp; exact (attrOf_name f).symm
    · obtain ⟨f, _, _, rfl⟩ := relsOf_mem hp; rfl
  have hA : ∀ p ∈ structAttrs d, p.2.name ≠ idName ∧ ∃ k, Kind.ofCode? p.2.ty = some k ∧
      ((V.get p.1).hasAttrType k p.2.nullable || (p.2.nullable && V.get p.1 = .nil)) = true := by
    intro p hp
    obtain ⟨f, hf, ha, rfl⟩ := structAttrs_mem hp
    have hne := c.field_not_ID hs hf (.inl ha)
    obtain ⟨k, n, hty⟩ := c.attrs f hf ha
    obtain ⟨i, x, _, _, hax, hwx, hgx⟩ := field_get c hwt hf hne (.inl ha)
    rw [hget (List.mem_append_left _ (mem_keys_of_mem hp)) hgx, attrOf_name]
    rw [hty] at hax
    simp only [attrOf, hty, UnmL.ofCode?_code]
    exact ⟨(c.json_ok hf hne (.inl ha)).2, k, rfl, read_hasAttrType hax hwx⟩
  have hR : ∀ p ∈ relsOf d, p.1 ≠ idName ∧ RelShape (V.get p.1) p.2.toOne := by
    intro p hp
    obtain ⟨f, hf, hr, rfl⟩ := relsOf_mem hp
    have hne := c.field_not_ID hs hf (.inr hr)
    obtain ⟨x, hx, hshape⟩ := safe_get_rel c hs hwt (c.rels_get? hf hne hr)
    rw [hget (List.mem_append_right _ (mem_keys_of_mem hp)) hx]
    exact ⟨(c.json_ok hf hne (.inr hr)).2, hshape⟩
  have hwf : V.wf = true := (ResView.wf_iff_of_keyed keyed).2
    ⟨fun p hp => ⟨by rw [hVr]; exact (has_false_iff _ _).2 (get?_eq_none_of_not_mem
        (disj p.1 (mem_keys_of_mem (hVa ▸ hp)))), (hA p (hVa ▸ hp)).2⟩,
      fun p hp => (hR p (hVr ▸ hp)).2⟩
  refine ⟨fun f hf => ?_, ⟨hwf, keyed⟩, ⟨hwf, keyed.1, keyed.2.1, ?_⟩,
    fun p hp => (hA p (hVa ▸ hp)).1, fun p hp => ?_⟩
  · obtain ⟨x, hx⟩ := hall f hf
    rw [hget hf hx]; exact hx
  · rw [hVa, hVr]
    exact List.nodup_append.2 ⟨structAttrs_nodup d, relsOf_nodup d, fun a ha b hb e => disj a ha (e ▸ hb)⟩
  · rw [relValOk_iff, ← keyed.2.1 p hp]
    exact hR p (hVr ▸ hp)

/-! ## 3. The abstract theorems, instantiated -/

/-- The invariant's conditions on the type hold for every type of the other theorems
(`TypWF` + `Spec.namesOk`, e.g. every type of a well-formed schema): only the typing of the
stored values remains. -/
theorem SoftGood_of_wf (s : Soft) (ht : TypWF s.typ) (hn : Spec.namesOk s.typ = true)
    (hwt : s.WT) : SoftGood s :=
  let g := SoftGood_init_wf s.typ ht hn []
  ⟨g.keyed, g.noId, g.kinds, hwt⟩

theorem Soft.view_get_eq_get (s : Soft) (hk : TypKeyed s.typ) (hid : isField s.typ idName = false)
    {f : GoString} (hf : isField s.typ f = true) : s.view.get f = s.get f := by
  obtain ⟨t, id, d⟩ := s
  have hne := ne_of_isField hf hid
  rw [Soft.view_get_eq hk id d hf hne, Soft.get_eq hk, if_neg hne, if_pos hf]

/-- C01 for a soft resource: a soft resource of a type of the (well-formed) schema whose
stored values are well typed (`Soft.WT`: what creation establishes and every call preserves,
`SoftGood_init` / `SoftGood_step`) and whose times are in the decoder's domain is marshaled
successfully by the model's `MarshalResource` with all fields and all relationship data
selected, and unmarshaling what was written gives back type name, ID and, for every field,
the same value as `Get` returns on the source. -/
theorem C01_roundtrip_soft (c : Spec.Codecs) (σ : SSchema) (hσ : σ.WF) (st : SType) (hst : st ∈ σ)
    (s : Soft) (hty : s.typ = st.typ) (hwt : s.WT)
    (hdom : ∀ key ∈ s.typ.attrs.keys, Spec.codecDom c (s.get key)) (prepath : GoString) :
    ∃ t r', marshalResource s.view prepath (s.typ.attrs.keys ++ s.typ.rels.keys)
        [(s.typ.name, s.typ.rels.keys)] = .ok (t, r') ∧
      ∃ res v', unmarshalResource σ (Spec.skeletonOf c t) = .ok res ∧ res.view? = some v' ∧
        v'.typeName = s.typ.name ∧ v'.id = s.id ∧
        (∀ f ∈ s.typ.attrs.keys ++ s.typ.rels.keys, Spec.sameVal (v'.get f) (s.get f)) := by
  obtain ⟨_, ht, hn, _⟩ := hσ.2 st hst
  rw [← hty] at ht hn
  have g := SoftGood_of_wf s ht hn hwt
  have hget : ∀ f ∈ s.typ.attrs.keys ++ s.typ.rels.keys, s.view.get f = s.get f := fun f hf =>
    Soft.view_get_eq_get s g.keyed g.noId ((isField_iff _ _).2 (List.mem_append.1 hf))
  obtain ⟨t, r', hm, res, v', h1, h2, h3, h4, h5⟩ :=
    C01_roundtrip_model c σ hσ st hst s.view (Soft_view_keyedWf s g) (by rw [← hty]; rfl)
      (by intro key a; rw [← hty]; exact Iff.rfl) (by intro key; rw [← hty]; rfl)
      (by
        intro key hk
        have hk' : key ∈ s.typ.attrs.keys := hk
        rw [hget key (List.mem_append_left _ hk')]; exact hdom key hk')
      prepath
  refine ⟨t, r', hm, res, v', h1, h2, h3, h4, ?_⟩
  intro f hf
  rw [← hget f hf]
  exact h5 f hf

/-- C01 for a wrapped struct: a struct declaration `Check` accepts whose built type
(`BuildType`) is a type of the (well-formed) schema, and a well-typed value of it. -/
theorem C01_roundtrip_wrapped (c : Spec.Codecs) (σ : SSchema) (hσ : σ.WF) (st : SType) (hst : st ∈ σ)
    (d : StructDecl) (hd : checkStruct d = true) (hs : SingleID d) (hb : buildType d = .ok st.typ)
    (vals : List GoVal) (w : Wrapped) (hw : wrap d vals = .ok w) (hwt : w.WT)
    (hdom : ∀ key ∈ w.attrs.keys, ∀ x, w.get key = .ok x → Spec.codecDom c x) (prepath : GoString) :
    ∃ v, w.view = some v ∧
    ∃ t r', marshalResource v prepath (w.attrs.keys ++ w.rels.keys) [(w.typ, w.rels.keys)] = .ok (t, r') ∧
      ∃ res v', unmarshalResource σ (Spec.skeletonOf c t) = .ok res ∧ res.view? = some v' ∧
        v'.typeName = w.typ ∧ v'.id = w.getID ∧
        (∀ f ∈ w.attrs.keys ++ w.rels.keys, ∃ x, w.get f = .ok x ∧ Spec.sameVal (v'.get f) x) := by
  obtain ⟨v, hv, e1, e2, e3, e4, hget, _, hkw, _⟩ := Wrapped_view_ok d hd hs vals w hw hwt
  have ew := eq_mkW_of_wrap hd hw
  rw [buildType_ok hd, Res.ok.injEq] at hb
  have ht1 : w.typ = st.typ.name := by rw [ew, ← hb]; rfl
  have ht2 : w.attrs = st.typ.attrs := by rw [ew, ← hb]; rfl
  have ht3 : w.rels = st.typ.rels := by rw [ew, ← hb]; rfl
  obtain ⟨t, r', hm, res, v', h1, h2, h3, h4, h5⟩ :=
    C01_roundtrip_model c σ hσ st hst v hkw (by rw [e1, ht1])
      (by intro key a; rw [e3, ht2]) (by intro key; rw [e4, ht3])
      (by
        intro key hk
        rw [e3] at hk
        exact hdom key hk _ (hget key (List.mem_append_left _ hk)))
      prepath
  refine ⟨v, hv, t, r', ?_, res, v', h1, h2, by rw [h3, e1], by rw [h4, e2], ?_⟩
  · have : Spec.allFields v = w.attrs.keys ++ w.rels.keys := by unfold Spec.allFields; rw [e3, e4]
    rw [← this, ← e1, ← e4]; exact hm
  · intro f hf
    refine ⟨_, hget f hf, h5 f ?_⟩
    unfold Spec.allFields; rw [e3, e4]; exact hf

/-- `Equal(r, r)` holds for a soft resource in the invariant. -/
theorem C17_equal_refl_soft (s : Soft) (h : SoftGood s) : equal s.view s.view = .ok true :=
  C17_equal_refl _ (Soft_view_ok s h)

/-- `Equal(r, r)` holds for a well-typed wrapped value of an accepted struct. -/
theorem C17_equal_refl_wrapped (d : StructDecl) (hd : checkStruct d = true) (hs : SingleID d)
    (vals : List GoVal) (w : Wrapped) (hw : wrap d vals = .ok w) (hwt : w.WT) :
    ∃ v, w.view = some v ∧ equal v v = .ok true := by
  obtain ⟨v, hv, _, _, _, _, _, hok, _, _⟩ := Wrapped_view_ok d hd hs vals w hw hwt
  exact ⟨v, hv, C17_equal_refl v hok⟩

/-- `SoftCollection.Add` of a soft resource in the invariant returns normally and the
collection stays the plain list with the snapshot appended. -/
theorem C19_add_soft (c : SColl) (σ : Spec.Store) (h : Abs c σ) (s : Soft) (hk : TypKeyed s.typ)
    (hid : isField s.typ idName = false) (hwt : s.WT) :
    ∃ c', c.add s.view = .ok c' ∧ Abs c' (σ.add s.view) :=
  C19_step c σ h (.add s.view) (Soft_view_ViewWF s hk hid hwt)

/-- `SoftCollection.Add` of a well-typed wrapped value of an accepted struct. -/
theorem C19_add_wrapped (c : SColl) (σ : Spec.Store) (h : Abs c σ) (d : StructDecl)
    (hd : checkStruct d = true) (hs : SingleID d) (vals : List GoVal) (w : Wrapped)
    (hw : wrap d vals = .ok w) (hwt : w.WT) :
    ∃ v, w.view = some v ∧ ∃ c', c.add v = .ok c' ∧ Abs c' (σ.add v) := by
  obtain ⟨v, hv, _, _, _, _, _, _, _, hvw⟩ := Wrapped_view_ok d hd hs vals w hw hwt
  exact ⟨v, hv, C19_step c σ h (.add v) hvw⟩

/-- If `Check` accepts the struct, marshaling a well-typed wrapped value of it - any path
prefix, any field selection, any relationship-data map, any meta - returns normally (no
panic, no error) and the object written is the one of the specification (C04). -/
theorem C20_accept_marshal (d : StructDecl) (hd : checkStruct d = true) (hs : SingleID d)
    (vals : List GoVal) (w : Wrapped) (hw : wrap d vals = .ok w) (hwt : w.WT) :
    ∃ v, w.view = some v ∧
      ∀ (pre : GoString) (fields : List GoString) (relData : GoMap (List GoString)) (rmeta : Meta),
        marshalResource v pre fields relData rmeta ≠ .panic ∧
        ∃ r', marshalResource v pre fields relData rmeta =
          .ok (Spec.resourceObject v pre fields relData rmeta, r') := by
  obtain ⟨v, hv, _, _, _, _, _, _, hkw, _⟩ := Wrapped_view_ok d hd hs vals w hw hwt
  refine ⟨v, hv, ?_⟩
  intro pre fields relData rmeta
  obtain ⟨r', hm, _⟩ := C04_resource v hkw pre fields relData rmeta
  exact ⟨(by rw [hm]; intro e; cases e), r', hm⟩

/-- The same for a soft resource in the invariant. -/
theorem Soft_marshal_ok (s : Soft) (h : SoftGood s) (pre : GoString) (fields : List GoString)
    (relData : GoMap (List GoString)) (rmeta : Meta) :
    ∃ r', marshalResource s.view pre fields relData rmeta =
      .ok (Spec.resourceObject s.view pre fields relData rmeta, r') := by
  obtain ⟨r', hm, _⟩ := C04_resource s.view (Soft_view_keyedWf s h) pre fields relData rmeta
  exact ⟨r', hm⟩

/-! ## 4. Non-vacuity -/

/-- The invariant along the C17S example: Sets (one ill-typed), SetType with a renamed field,
a Set, RemoveField and AddAttr of the removed name - in the domain, hence in the invariant at
the end, hence a view in all three domains. -/
def Bridge_exOps : List SoftOp :=
  C17S_exOps ++ [.set [99] (.val .string (.s [121])), .removeField [97],
    .addAttr { name := [97], ty := 2, nullable := false }]

theorem Bridge_exOps_ok : SoftGood C17S_exS ∧ SoftOpsOk C17S_exS Bridge_exOps := by decide +kernel

example : SoftGood C17S_exS ∧ SoftOpsOk C17S_exS Bridge_exOps := Bridge_exOps_ok

example : (C17S_exS.run Bridge_exOps).view.ok ∧ (C17S_exS.run Bridge_exOps).view.keyedWf ∧
    ViewWF (C17S_exS.run Bridge_exOps).view :=
  Soft_view_all _ (SoftGood_run Bridge_exOps C17S_exS Bridge_exOps_ok.1 Bridge_exOps_ok.2)

/-- A resource of C01's example type with every kind of value (int8 -128, nil string pointer,
uint64 2^64-1, nil byte slice, bool pointer, to-one and unsorted to-many) is in the invariant.
An int8 attribute holding 1000 - not a Go value - is outside `Soft.WT` and its view is not
`wf`: the payload condition is what the bridge needs. -/
def Bridge_exS : Soft := { typ := C01_exT, id := [49], data := (C01_exR [116]).vals }

theorem Bridge_exS_good : SoftGood Bridge_exS := by decide +kernel

example : SoftGood Bridge_exS ∧
    ¬ ({ Bridge_exS with data := [([97], .val .int8 (.i 1000))] } : Soft).WT ∧
    ({ Bridge_exS with data := [([97], .val .int8 (.i 1000))] } : Soft).view.wf = false :=
  ⟨Bridge_exS_good, by decide +kernel⟩

theorem codecDom_of_noTime (c : Spec.Codecs) (v : GoVal)
    (h : (match v with | .val _ (.t _) => false | .ptr _ (some (.t _)) => false | _ => true) = true) :
    Spec.codecDom c v := by
  intro k t e
  rcases e with e | e <;> (rw [e] at h; cases h)

/-- `C01_roundtrip_soft` applies to it, with every decoder. -/
example (c : Spec.Codecs) :=
  C01_roundtrip_soft c C01_exσ C01_exσ_wf { typ := C01_exT, backed := false } (List.Mem.head _)
    Bridge_exS rfl Bridge_exS_good.wt
    (fun key hk => codecDom_of_noTime c _ (by
      have : ∀ key ∈ Bridge_exS.typ.attrs.keys,
          (match Bridge_exS.get key with
            | .val _ (.t _) => false | .ptr _ (some (.t _)) => false | _ => true) = true := by
        decide +kernel
      exact this key hk)) [47]

/-- `C17_equal_refl_soft`, `C19_add_soft` and `Soft_marshal_ok` apply to it. -/
example : equal Bridge_exS.view Bridge_exS.view = .ok true ∧
    (∀ t0, TypWF t0 → ∃ c', ({ typ := t0, col := [] } : SColl).add Bridge_exS.view = .ok c') ∧
    (∀ pre fields relData, ∃ j r', marshalResource Bridge_exS.view pre fields relData = .ok (j, r')) := by
  have g := Bridge_exS_good
  refine ⟨C17_equal_refl_soft _ g, ?_, ?_⟩
  · intro t0 h0
    obtain ⟨c', hc, _⟩ := C19_add_soft _ _ (C19_init t0 h0) Bridge_exS g.keyed g.noId g.wt
    exact ⟨c', hc⟩
  · intro pre fields relData
    obtain ⟨r', h⟩ := Soft_marshal_ok Bridge_exS g pre fields relData []
    exact ⟨_, r', h⟩

/-- The hypothesis "no field called id" is needed: with an int attribute called "id" the view
reads the resource's ID (a string) under that name and is not `wf`. -/
example :
    let s : Soft := { typ := { name := [116], attrs := [(idName, { name := idName, ty := 2, nullable := false })],
                               rels := [] }, id := [49], data := [] }
    TypKeyed s.typ ∧ s.typ.kindsOk ∧ s.WT ∧ isField s.typ idName = true ∧ s.view.wf = false := by
  decide +kernel

/-- The Article struct of C20 (`exampleDecl`), freshly created: `Wrapped_view_ok`,
`C17_equal_refl_wrapped`, `C20_accept_marshal` and `C19_add_wrapped` apply. -/
example : ∃ w, wrap exampleDecl (Wrapped.zeroVals exampleDecl) = .ok w ∧ w.WT ∧
    ∃ v, w.view = some v ∧ v.ok ∧ v.keyedWf ∧ ViewWF v ∧ equal v v = .ok true ∧
      (∀ pre fields relData, marshalResource v pre fields relData ≠ .panic) ∧
      ∀ t0, TypWF t0 → ∃ c', ({ typ := t0, col := [] } : SColl).add v = .ok c' := by
  obtain ⟨w, hw, hwt⟩ := C20_zero_WT exampleDecl exampleDecl_check
  have hs := exampleDecl_singleID
  obtain ⟨v, hv, _, _, _, _, _, h1, h2, h3⟩ := Wrapped_view_ok exampleDecl exampleDecl_check hs _ w hw hwt
  obtain ⟨v', hv', hm⟩ := C20_accept_marshal exampleDecl exampleDecl_check hs _ w hw hwt
  rw [hv, Option.some.injEq] at hv'
  subst hv'
  refine ⟨w, hw, hwt, v, hv, h1, h2, h3, C17_equal_refl v h1, fun pre fields relData =>
    (hm pre fields relData []).1, ?_⟩
  intro t0 h0
  obtain ⟨c', hc, _⟩ := C19_step _ _ (C19_init t0 h0) (.add v) h3
  exact ⟨c', hc⟩

/-- The schema holding the type `BuildType` makes of the Article struct, struct-backed. -/
def Bridge_exArticle : Typ :=
  { name := gs "articles",
    attrs := [ (gs "title", { name := gs "title", ty := 1, nullable := false }),
               (gs "subtitle", { name := gs "subtitle", ty := 1, nullable := true }) ],
    rels := [ (gs "author", { fromType := gs "articles", fromName := gs "author", toOne := true,
                              toType := gs "people", toName := [], fromOne := false }),
              (gs "comments", { fromType := gs "articles", fromName := gs "comments",
                                toOne := false, toType := gs "comments",
                                toName := gs "article", fromOne := false }) ] }

def Bridge_exσ : SSchema := [{ typ := Bridge_exArticle, backed := true }]

theorem Bridge_exσ_wf : Bridge_exσ.WF := by unfold SSchema.WF; decide +kernel

/-- `C01_roundtrip_wrapped` applies to the freshly created Article, with every decoder. -/
example (c : Spec.Codecs) : ∃ w, wrap exampleDecl (Wrapped.zeroVals exampleDecl) = .ok w ∧
    ∃ v, w.view = some v ∧ ∃ t r', marshalResource v [47] (w.attrs.keys ++ w.rels.keys)
        [(w.typ, w.rels.keys)] = .ok (t, r') ∧
      ∃ res v', unmarshalResource Bridge_exσ (Spec.skeletonOf c t) = .ok res ∧
        res.view? = some v' ∧ v'.typeName = w.typ := by
  obtain ⟨w, hw, hwt⟩ := C20_zero_WT exampleDecl exampleDecl_check
  have hs := exampleDecl_singleID
  have ew := eq_mkW_of_wrap exampleDecl_check hw
  obtain ⟨v, hv, t, r', hm, res, v', h1, h2, h3, _⟩ :=
    C01_roundtrip_wrapped c Bridge_exσ Bridge_exσ_wf { typ := Bridge_exArticle, backed := true }
      (List.Mem.head _) exampleDecl exampleDecl_check hs exampleDecl_buildType _ w hw hwt
      (by
        subst ew
        intro key hk x hx
        apply codecDom_of_noTime
        have : ∀ key ∈ (mkW exampleDecl (Wrapped.zeroVals exampleDecl)).attrs.keys,
            (match (mkW exampleDecl (Wrapped.zeroVals exampleDecl)).get key with
              | .ok (.val _ (.t _)) => false | .ok (.ptr _ (some (.t _))) => false | _ => true) = true := by
          decide +kernel
        have := this key hk
        rw [hx] at this
        revert this
        cases x with
        | val k p => cases p <;> simp
        | ptr k o => cases o with
          | none => simp
          | some p => cases p <;> simp
        | _ => simp) [47]
  exact ⟨w, hw, v, hv, t, r', hm, res, v', h1, h2, h3⟩

end Jsonapi

section Axioms
open Jsonapi
#print axioms SoftGood_init
#print axioms SoftGood_init_wf
#print axioms SoftGood_of_wf
#print axioms SoftGood_step
#print axioms SoftGood_run
#print axioms Soft_view_keyed
#print axioms Soft_view_wf
#print axioms Soft_view_ok
#print axioms Soft_view_keyedWf
#print axioms Soft_view_ViewWF
#print axioms Soft_view_all
#print axioms Soft.view_get_eq_get
#print axioms Wrapped_view_ok
#print axioms C01_roundtrip_soft
#print axioms C01_roundtrip_wrapped
#print axioms C17_equal_refl_soft
#print axioms C17_equal_refl_wrapped
#print axioms C19_add_soft
#print axioms C19_add_wrapped
#print axioms C20_accept_marshal
#print axioms Soft_marshal_ok
#print axioms Bridge_exσ_wf
end Axioms
