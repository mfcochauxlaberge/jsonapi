/-
C06R — Re-marshaling what was unmarshaled, attribute half of C06's last clause:
"re-marshaling an accepted resource reproduces the payload's attributes as the same JSON
values".

For one attribute `a` and one raw value `raw` of the payload: whenever
`unmarshalToType a raw` accepts and stores `v`, the JSON value `encodeAttr v` that
MarshalResource writes for it is the canonical JSON of what the literal denotes:

* `null` (accepted only for a nullable attribute) is written as `null`;
* an integer literal denoting `n` (`Spec.intLit`, defined without strconv) is written as the
  number `printInt n`, which denotes `n` again (`C06R_printInt_intLit`);
* `true` / `false` are written as the booleans;
* a string / time / byte string is written as the JSON string of exactly what the
  delegated decoder returned: the decoded string, `formatTime t` (RFC 3339), the base64 of the
  decoded bytes (a nil and an empty byte slice both give `""`).

`Spec.denotedJson` (below) collects the per-kind readings in one function written without
looking at `unmarshalToType` or `encodeAttr`; `C06R_remarshal_attr` is the combined statement.

Hypothesis `raw.bytes.head? ≠ some 43` (as in `C06_int`): no JSON value starts with '+';
`strconv.ParseInt` alone would take "+5".
-/
import Jsonapi.Props.C06
import Jsonapi.Proofs.RoundTripLemmas
namespace Jsonapi
open UnmL

namespace Spec

/-- The canonical JSON value of what a raw attribute value denotes, for the attribute's
declared kind: `none` when it denotes nothing of that kind. The integer reading is
`Spec.intLit`; strings, times and byte strings are read by the delegated decoders. -/
def denotedJson (a : Attr) (raw : RawVal) : Option Json :=
  if raw.bytes = sNull then (if a.nullable then some .null else none)
  else match Kind.ofCode? a.ty with
  | none => none
  | some k =>
    if k.isInt then (intLit raw.bytes).map (fun n => .num (printInt n))
    else match k with
    | .bool => if raw.bytes = sTrue then some (.bool true)
               else if raw.bytes = sFalse then some (.bool false) else none
    | .string => raw.decStr.map .str
    | .time => raw.decTime.map (fun t => .str (formatTime t))
    | .bytes => if raw.bytes.head? = some 34 then raw.decBytes.map (fun b => .str (b64enc (b.getD []))) else none
    | _ => none

end Spec

/-! ### What `encodeAttr` writes for a stored value -/

theorem encodeAttr_zero_nullable (a : Attr) (h : a.nullable = true) : encodeAttr a.zero = .null := by
  unfold Attr.zero
  cases Kind.ofCode? a.ty with
  | none => rfl
  | some k => simp only [GoVal.zero, h, if_true]; rfl

/-! ### The printed integer denotes the integer -/

/-- The literal written for an integer denotes that integer (for every integer, whatever
the kind): re-reading the re-marshaled number gives the same number. -/
theorem C06R_printInt_intLit (n : Int) : Spec.intLit (printInt n) = some n := by
  by_cases h : n < 0
  · rw [RtL.printInt_neg n h]
    have hne := RtL.printNat_ne_nil n.natAbs
    simp only [Spec.intLit, if_true, all_isDigitByte_eq, natLit_eq, RtL.printNat_all_digit,
      RtL.digitsVal_printNat, ne_eq, hne, not_false_eq_true, and_self, Option.some.injEq]
    omega
  · rw [RtL.printInt_nonneg n (by omega)]
    obtain ⟨c, r, e, hc⟩ := RtL.printNat_head n.toNat
    have hall := RtL.printNat_all_digit n.toNat
    have hval := RtL.digitsVal_printNat n.toNat
    rw [e] at hall hval ⊢
    have h45 : c ≠ 45 := (RtL.isDigit_ne hc).2.1
    simp only [Spec.intLit, h45, if_false, all_isDigitByte_eq, natLit_eq, hall, hval, if_true,
      Option.some.injEq]
    lia

/-! ### Per kind -/

/-- `null`: accepted only for a nullable attribute, written back as `null`. -/
theorem C06R_null (a : Attr) (raw : RawVal) (v : GoVal) (h : raw.bytes = sNull)
    (hv : unmarshalToType a raw = .ok v) : a.nullable = true ∧ encodeAttr v = .null := by
  obtain ⟨hn, e⟩ := ((C06_null a raw v h).1).1 hv
  subst e
  exact ⟨hn, encodeAttr_zero_nullable a hn⟩

/-- The ten integer kinds: the accepted literal denotes an integer `n` (in the range of
the kind), the number written back is `printInt n`, and that literal denotes `n` again. -/
theorem C06R_int (a : Attr) (raw : RawVal) (v : GoVal) (k : Kind) (hk : Kind.ofCode? a.ty = some k)
    (hint : k.isInt = true) (hplus : raw.bytes.head? ≠ some 43) (hnn : raw.bytes ≠ sNull)
    (hv : unmarshalToType a raw = .ok v) :
    ∃ n, Spec.intLit raw.bytes = some n ∧ (∃ lo hi, k.range? = some (lo, hi) ∧ lo ≤ n ∧ n ≤ hi) ∧
      encodeAttr v = .num (printInt n) ∧ Spec.intLit (printInt n) = some n := by
  obtain ⟨n, h1, h2, e⟩ := C06_int_sound a raw v k hk hint hplus hnn hv
  subst e
  exact ⟨n, h1, h2, RtL.encodeAttr_mkVal k a.nullable (.i n), C06R_printInt_intLit n⟩

theorem C06R_bool (a : Attr) (raw : RawVal) (v : GoVal) (hk : Kind.ofCode? a.ty = some .bool)
    (hnn : raw.bytes ≠ sNull) (hv : unmarshalToType a raw = .ok v) :
    (raw.bytes = sTrue ∧ encodeAttr v = .bool true) ∨ (raw.bytes = sFalse ∧ encodeAttr v = .bool false) := by
  rcases (C06_bool a raw v hk hnn).1 hv with ⟨h, e⟩ | ⟨h, e⟩
  · subst e; exact .inl ⟨h, RtL.encodeAttr_mkVal _ _ (.b _)⟩
  · subst e; exact .inr ⟨h, RtL.encodeAttr_mkVal _ _ (.b _)⟩

theorem C06R_string (a : Attr) (raw : RawVal) (v : GoVal) (hk : Kind.ofCode? a.ty = some .string)
    (hnn : raw.bytes ≠ sNull) (hv : unmarshalToType a raw = .ok v) :
    ∃ s, raw.decStr = some s ∧ encodeAttr v = .str s := by
  obtain ⟨s, h, e⟩ := (C06_string a raw v hk hnn).1 hv
  subst e; exact ⟨s, h, RtL.encodeAttr_mkVal _ _ (.s _)⟩

theorem C06R_time (a : Attr) (raw : RawVal) (v : GoVal) (hk : Kind.ofCode? a.ty = some .time)
    (hnn : raw.bytes ≠ sNull) (hv : unmarshalToType a raw = .ok v) :
    ∃ t, raw.decTime = some t ∧ encodeAttr v = .str (formatTime t) := by
  obtain ⟨t, h, e⟩ := (C06_time a raw v hk hnn).1 hv
  subst e; exact ⟨t, h, RtL.encodeAttr_mkVal _ _ (.t _)⟩

/-- Byte strings: the raw value is a JSON string, and what is written back is the base64
of the decoded bytes; a nil and an empty decoded slice both give `""` (never `null`). -/
theorem C06R_bytes (a : Attr) (raw : RawVal) (v : GoVal) (hk : Kind.ofCode? a.ty = some .bytes)
    (hnn : raw.bytes ≠ sNull) (hv : unmarshalToType a raw = .ok v) :
    raw.bytes.head? = some 34 ∧ ∃ b, raw.decBytes = some b ∧ encodeAttr v = .str (b64enc (b.getD [])) ∧
      (b = none ∨ b = some [] → encodeAttr v = .str []) := by
  obtain ⟨hq, b, h, e⟩ := (C06_bytes a raw v hk hnn).1 hv
  subst e
  rw [RtL.encodeAttr_mkVal]
  refine ⟨hq, b, h, by cases b <;> rfl, ?_⟩
  rintro (rfl | rfl) <;> rfl

/-! ### Combined -/

/-- Re-marshaling an accepted attribute value writes the canonical JSON of what the
payload's literal denotes (`Spec.denotedJson`), for every attribute definition and every
raw value; `null` is only ever accepted for a nullable attribute. -/
theorem C06R_remarshal_attr (a : Attr) (raw : RawVal) (v : GoVal)
    (hplus : raw.bytes.head? ≠ some 43) (hv : unmarshalToType a raw = .ok v) :
    Spec.denotedJson a raw = some (encodeAttr v) ∧ (raw.bytes = sNull → a.nullable = true) := by
  by_cases hnn : raw.bytes = sNull
  · obtain ⟨hn, e⟩ := C06R_null a raw v hnn hv
    refine ⟨?_, fun _ => hn⟩
    unfold Spec.denotedJson
    rw [if_pos hnn, if_pos hn, e]
  · refine ⟨?_, fun h => absurd h hnn⟩
    unfold Spec.denotedJson
    rw [if_neg hnn]
    cases hk : Kind.ofCode? a.ty with
    | none => rw [toType_badKind a raw hnn hk] at hv; cases hv
    | some k =>
      simp only []
      by_cases hint : k.isInt = true
      · obtain ⟨n, h1, _, e, _⟩ := C06R_int a raw v k hk hint hplus hnn hv
        rw [if_pos hint, h1, e]; rfl
      · rw [if_neg hint]
        cases k with
        | bool =>
          simp only []
          rcases C06R_bool a raw v hk hnn hv with ⟨h, e⟩ | ⟨h, e⟩
          · rw [if_pos h, e]
          · have : raw.bytes ≠ sTrue := by rw [h]; decide
            rw [if_neg this, if_pos h, e]
        | string =>
          obtain ⟨s, h, e⟩ := C06R_string a raw v hk hnn hv
          simp only [h, e, Option.map_some]
        | time =>
          obtain ⟨t, h, e⟩ := C06R_time a raw v hk hnn hv
          simp only [h, e, Option.map_some]
        | bytes =>
          obtain ⟨hq, b, h, e, _⟩ := C06R_bytes a raw v hk hnn hv
          simp only [hq, if_true, h, e, Option.map_some]
        | _ => exact absurd rfl hint

/-! ### Non-vacuity -/

/-- Readers of a JSON tree for the computed example (`Json` has no decidable equality). -/
def Json.asNum? : Json → Option GoString | .num l => some l | _ => none
def Json.asStr? : Json → Option GoString | .str s => some s | _ => none
def Json.asBool? : Json → Option Bool | .bool b => some b | _ => none
def Json.isNull : Json → Bool | .null => true | _ => false

/-- int8 "-128" is stored as -128 and written back as the number -128; the nullable
variant accepts null and writes null, the non-nullable one denotes nothing for null; a
nullable bytes attribute given `""` (decoded to a nil slice or to an empty one) writes `""`;
"true" writes true. -/
example :
    let a : Attr := { name := [97], ty := 3, nullable := false }
    let an : Attr := { name := [97], ty := 3, nullable := true }
    let ab : Attr := { name := [98], ty := 14, nullable := true }
    let ao : Attr := { name := [99], ty := 12, nullable := false }
    let raw (b : GoString) : RawVal := { bytes := b, decStr := none, decTime := none, decBytes := none }
    let rawB (d : Option (List UInt8)) : RawVal := { bytes := [34, 34], decStr := some [], decTime := none, decBytes := some d }
    unmarshalToType a (raw [45, 49, 50, 56]) = .ok (.val .int8 (.i (-128))) ∧
    Spec.intLit [45, 49, 50, 56] = some (-128) ∧
    unmarshalToType an (raw sNull) = .ok (.ptr .int8 none) ∧
    (Spec.denotedJson an (raw sNull)).map Json.isNull = some true ∧
    (encodeAttr (.ptr .int8 none)).isNull = true ∧
    (Spec.denotedJson a (raw sNull)).isNone = true ∧
    unmarshalToType ab (rawB none) = .ok (.ptr .bytes (some (.bs none))) ∧
    (encodeAttr (.ptr .bytes (some (.bs none)))).asStr? = some [] ∧
    (Spec.denotedJson ab (rawB none)).bind Json.asStr? = some [] ∧
    (Spec.denotedJson ab (rawB (some []))).bind Json.asStr? = some [] ∧
    unmarshalToType ao (raw sTrue) = .ok (.val .bool (.b true)) ∧
    (Spec.denotedJson ao (raw sTrue)).bind Json.asBool? = some true := by decide +kernel

/-- `printNat` is defined by well-founded recursion, which `decide` does not unfold: the
printed literal of the example is computed by `simp`. -/
theorem C06R_ex_print : printInt (-128) = [45, 49, 50, 56] := by
  simp [printInt, printNat, digitChar]

/-- The hypotheses of `C06R_remarshal_attr` are satisfiable (int8, "-128"), and its
conclusion on that instance: the literal "-128" denotes the JSON number -128, which is what
is written back. -/
example :
    let a : Attr := { name := [97], ty := 3, nullable := false }
    let raw : RawVal := { bytes := [45, 49, 50, 56], decStr := none, decTime := none, decBytes := none }
    (Spec.denotedJson a raw).bind Json.asNum? = some [45, 49, 50, 56] ∧
    (encodeAttr (.val .int8 (.i (-128)))).asNum? = some [45, 49, 50, 56] := by
  intro a raw
  have h : Spec.denotedJson a raw = some (.num (printInt (-128))) :=
    (C06R_remarshal_attr a raw (.val .int8 (.i (-128))) (by decide) (by decide)).1
  have h2 : encodeAttr (.val .int8 (.i (-128))) = .num (printInt (-128)) := rfl
  rw [h, h2, C06R_ex_print]
  exact ⟨rfl, rfl⟩

end Jsonapi

section Axioms
open Jsonapi
#print axioms C06R_printInt_intLit
#print axioms C06R_null
#print axioms C06R_int
#print axioms C06R_bool
#print axioms C06R_string
#print axioms C06R_time
#print axioms C06R_bytes
#print axioms C06R_remarshal_attr
#print axioms C06R_ex_print
end Axioms
