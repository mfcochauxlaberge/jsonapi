/-
C11 — the marshaled tree is a function of what the document holds, not of the order in
which Go happens to walk maps or in which the caller listed IDs, names or included
resources; and marshaling again after a first marshal (which leaves to-many ID lists and
the included list sorted) gives the same tree.

All statements are about the specification functions `Spec.resourceObject` and
`Spec.documentTree` (C04 shows the model's `marshalResource` / `marshalDocument` return
exactly these trees), so they compose with C04 to statements about the model.

Go maps are association lists in "iteration order"; "for every iteration order" is
"for every permutation".
-/
import Jsonapi.Proofs.MarshalCongrLemmas
namespace Jsonapi
open DetL MarshalL

/-! ### 1. map iteration order inside a resource -/

/-- The same resource read through attribute / relationship maps iterated in another
order marshals to the same object. Needs only that no two attributes share a name and
no two relationships share a name (`distinctNames`). -/
theorem C11_perm_maps_weak (r₁ r₂ : ResView) (p : GoString) (f : List GoString)
    (rd : GoMap (List GoString)) (m : Meta)
    (ht : r₁.typeName = r₂.typeName) (hi : r₁.id = r₂.id)
    (hpa : r₁.attrs.Perm r₂.attrs) (hpr : r₁.rels.Perm r₂.rels)
    (hg : ∀ k, r₁.get k = r₂.get k) (hd : distinctNames r₁) :
    Spec.resourceObject r₁ p f rd m = Spec.resourceObject r₂ p f rd m := by
  have ha : (attrMembers r₁ f).Perm (attrMembers r₂ f) := by
    unfold attrMembers
    rw [selected_congr (fun _ => Iff.rfl) (fun a _ => by rw [hg])]
    exact ((hpa.map (·.2)).filter _).map _
  have hr : (relMembers r₁ p f (wantOf r₁ rd) r₁.rels).Perm
      (relMembers r₂ p f (wantOf r₁ rd) r₂.rels) := by
    unfold relMembers
    rw [selected_congr (fun _ => Iff.rfl) (fun rel _ => by
      rw [relObject_congr ht hi p rel _ (relDataJson_congr_get rel (hg _))])]
    exact ((hpr.map (·.2)).filter _).map _
  have hw : wantOf r₂ rd = wantOf r₁ rd := by unfold wantOf; rw [ht]
  apply resourceObject_congr_core m ht hi
  · exact ha.isEmpty_eq
  · exact sortMembers_eq_of_perm ha (keys_selected_nodup _ _ _ hd.1)
  · rw [hw]; exact hr.isEmpty_eq
  · rw [hw]; exact sortMembers_eq_of_perm hr (keys_selected_nodup _ _ _ hd.2)

/-- As above, under the invariant `keyed` that `Type.AddAttr` / `AddRel` maintain. -/
theorem C11_perm_maps (r₁ r₂ : ResView) (p : GoString) (f : List GoString)
    (rd : GoMap (List GoString)) (m : Meta)
    (ht : r₁.typeName = r₂.typeName) (hi : r₁.id = r₂.id)
    (hpa : r₁.attrs.Perm r₂.attrs) (hpr : r₁.rels.Perm r₂.rels)
    (hg : ∀ k, r₁.get k = r₂.get k) (hk : keyed r₁) :
    Spec.resourceObject r₁ p f rd m = Spec.resourceObject r₂ p f rd m :=
  C11_perm_maps_weak r₁ r₂ p f rd m ht hi hpa hpr hg (keyed_distinctNames hk)

/-! ### 2. order (and repetition) of the names in a field selection / relationship-data list -/

/-- Only membership in the selection and in the resource type's relationship-data list
is read: order and duplicates are irrelevant. No hypothesis on the resource. -/
theorem C11_perm_fields (r : ResView) (p : GoString) (f₁ f₂ : List GoString)
    (rd₁ rd₂ : GoMap (List GoString)) (m : Meta)
    (hf : ∀ x, x ∈ f₁ ↔ x ∈ f₂)
    (hw : ∀ x, x ∈ (rd₁.get? r.typeName).getD [] ↔ x ∈ (rd₂.get? r.typeName).getD []) :
    Spec.resourceObject r p f₁ rd₁ m = Spec.resourceObject r p f₂ rd₂ m := by
  have ha : attrMembers r f₁ = attrMembers r f₂ := selected_congr hf (fun _ _ => rfl)
  have hr : relMembers r p f₁ (wantOf r rd₁) r.rels = relMembers r p f₂ (wantOf r rd₂) r.rels :=
    selected_congr hf (fun rel _ => congrArg _ (contains_congr hw _))
  exact resourceObject_congr_core m rfl rfl (by rw [ha]) (by rw [ha]) (by rw [hr]) (by rw [hr])

/-- The permutation instance of `C11_perm_fields`. -/
theorem C11_perm_fields_perm (r : ResView) (p : GoString) (f₁ f₂ : List GoString)
    (rd : GoMap (List GoString)) (m : Meta) (hf : f₁.Perm f₂) :
    Spec.resourceObject r p f₁ rd m = Spec.resourceObject r p f₂ rd m :=
  C11_perm_fields r p f₁ f₂ rd rd m (fun _ => hf.mem_iff) (fun _ => Iff.rfl)

/-- The permutation instance for the relationship-data list of the resource's type. -/
theorem C11_perm_relData_perm (r : ResView) (p : GoString) (f : List GoString)
    (rd₁ rd₂ : GoMap (List GoString)) (m : Meta) (w₁ w₂ : List GoString)
    (h₁ : rd₁.get? r.typeName = some w₁) (h₂ : rd₂.get? r.typeName = some w₂) (hw : w₁.Perm w₂) :
    Spec.resourceObject r p f rd₁ m = Spec.resourceObject r p f rd₂ m :=
  C11_perm_fields r p f f rd₁ rd₂ m (fun _ => Iff.rfl) (fun _ => by rw [h₁, h₂]; exact hw.mem_iff)

/-! ### 3. order of the IDs of a to-many relationship -/

/-- General form: `r₂` is `r₁` except that any number of `[]string` values, none of them
read as an attribute, have their IDs permuted. -/
theorem C11_perm_tomany_general (r₁ r₂ : ResView) (h : sameUpToToMany r₁ r₂)
    (p : GoString) (f : List GoString) (rd : GoMap (List GoString)) (m : Meta) :
    Spec.resourceObject r₁ p f rd m = Spec.resourceObject r₂ p f rd m := by
  obtain ⟨ht, hi, hattrs, hrels, hg⟩ := h
  have ha : attrMembers r₁ f = attrMembers r₂ f := by
    unfold attrMembers
    rw [← hattrs]
    refine selected_congr (fun _ => Iff.rfl) (fun a ha => ?_)
    rcases hg a.name with h' | ⟨h', _⟩
    · rw [h']
    · exact absurd rfl (h' a ha)
  have hr : relMembers r₁ p f (wantOf r₁ rd) r₁.rels = relMembers r₂ p f (wantOf r₂ rd) r₂.rels := by
    unfold relMembers wantOf
    rw [← hrels, ← ht]
    refine selected_congr (fun _ => Iff.rfl) (fun rel _ => ?_)
    rw [relObject_congr ht hi]
    rcases hg rel.fromName with h' | ⟨_, l, l', h₁, h₂, hp⟩
    · exact relDataJson_congr_get rel h'
    · exact relDataJson_strs rel h₁ h₂ hp
  exact resourceObject_congr_core m ht hi (by rw [ha]) (by rw [ha]) (by rw [hr]) (by rw [hr])

/-- One value `k₀ ↦ .strs l` replaced by `.strs l'` with `l'` a permutation of `l`.
ADDED HYPOTHESIS `hna`: `k₀` is not the name of an attribute (an attribute holding a
`[]string` is encoded in the order given, so the statement is false without it). -/
theorem C11_perm_tomany (r₁ r₂ : ResView) (k₀ : GoString) (l l' : List GoString)
    (p : GoString) (f : List GoString) (rd : GoMap (List GoString)) (m : Meta)
    (ht : r₁.typeName = r₂.typeName) (hi : r₁.id = r₂.id)
    (hattrs : r₁.attrs = r₂.attrs) (hrels : r₁.rels = r₂.rels)
    (h₁ : r₁.get k₀ = .strs l) (h₂ : r₂.get k₀ = .strs l') (hp : l.Perm l')
    (hother : ∀ k, k ≠ k₀ → r₁.get k = r₂.get k)
    (hna : ∀ a ∈ r₁.attrs.vals, a.name ≠ k₀) :
    Spec.resourceObject r₁ p f rd m = Spec.resourceObject r₂ p f rd m := by
  apply C11_perm_tomany_general
  refine ⟨ht, hi, hattrs, hrels, fun k => ?_⟩
  by_cases hk : k = k₀
  · subst hk
    exact Or.inr ⟨hna, l, l', h₁, h₂, hp⟩
  · exact Or.inl (hother k hk)

/-- The same under `keyed`, for `k₀` the name of a relationship of the resource. -/
theorem C11_perm_tomany_keyed (r₁ r₂ : ResView) (k₀ : GoString) (l l' : List GoString)
    (p : GoString) (f : List GoString) (rd : GoMap (List GoString)) (m : Meta)
    (ht : r₁.typeName = r₂.typeName) (hi : r₁.id = r₂.id)
    (hattrs : r₁.attrs = r₂.attrs) (hrels : r₁.rels = r₂.rels)
    (h₁ : r₁.get k₀ = .strs l) (h₂ : r₂.get k₀ = .strs l') (hp : l.Perm l')
    (hother : ∀ k, k ≠ k₀ → r₁.get k = r₂.get k)
    (hk : keyed r₁) (hrel : k₀ ∈ r₁.rels.keys) :
    Spec.resourceObject r₁ p f rd m = Spec.resourceObject r₂ p f rd m :=
  C11_perm_tomany r₁ r₂ k₀ l l' p f rd m ht hi hattrs hrels h₁ h₂ hp hother
    (keyed_rel_not_attr hk hrel)

/-- The added hypothesis cannot be dropped: the resource `cexRes ids` (type "t", ID "1",
one attribute "a" holding the `[]string` `ids`, selection ["a"]) marshals ["b","a"] and
["a","b"] to different objects, although every other hypothesis of `C11_perm_tomany` holds. -/
theorem C11_perm_tomany_needs_not_attr :
    (cexRes [[98], [97]]).get [97] = .strs [[98], [97]] ∧
    (cexRes [[97], [98]]).get [97] = .strs [[97], [98]] ∧
    [[98], [97]].Perm [[97], [98]] ∧
    (∀ k, k ≠ [97] → (cexRes [[98], [97]]).get k = (cexRes [[97], [98]]).get k) ∧
    Spec.resourceObject (cexRes [[98], [97]]) [] [[97]] [] ≠
    Spec.resourceObject (cexRes [[97], [98]]) [] [[97]] [] := by
  refine ⟨rfl, rfl, by decide, ?_, cex_ne⟩
  intro k hk
  simp [cexRes, ResView.get, GoMap.get?, Ne.symm hk]

/-! ### 4. order of the included resources -/

/-- Included resources with distinct IDs may be listed in any order. -/
theorem C11_perm_included (d : Document) (inc₂ : List ResView)
    (f : GoMap (List GoString)) (s : GoString)
    (hp : d.included.Perm inc₂) (hnd : (d.included.map (·.id)).Nodup) :
    Spec.documentTree d f s = Spec.documentTree { d with included := inc₂ } f s := by
  refine documentTree_congr s rfl rfl rfl ?_ ?_ rfl
  · exact dataMember_congr id (mapRes_id _).symm rfl (fun _ _ => rfl)
  · show _ = (sortById inc₂).map _
    rw [← sortById_eq_of_perm hp hnd]

/-! ### 5. iteration order of the document-level maps -/

/-- General form: the `fields` and `relData` maps are only looked up, the links list is
sorted by key. -/
theorem C11_document_maps_lookup (d : Document) (rd₂ : GoMap (List GoString))
    (links₂ : List (GoString × LinkObj)) (f₁ f₂ : GoMap (List GoString)) (s : GoString)
    (hf : ∀ k, f₁.get? k = f₂.get? k) (hrd : ∀ k, d.relData.get? k = rd₂.get? k)
    (hl : d.links.Perm links₂) (hnd : (d.links.map (·.1)).Nodup) :
    Spec.documentTree d f₁ s =
    Spec.documentTree { d with relData := rd₂, links := links₂ } f₂ s := by
  have hobj : ∀ r : ResView,
      specObj d f₁ r = specObj { d with relData := rd₂, links := links₂ } f₂ r := by
    intro r
    apply C11_perm_fields
    · intro x; unfold Spec.selection; rw [hf]
    · intro x; rw [hrd]
  refine documentTree_congr s rfl rfl rfl ?_ ?_ ?_
  · exact dataMember_congr id (mapRes_id _).symm rfl (fun r _ => hobj r)
  · exact List.map_congr_left (fun r _ => hobj r)
  · exact sortMembers_eq_of_perm (docLinks_perm (d₂ := { d with relData := rd₂, links := links₂ }) s hl)
      (docLinks_keys_nodup d s hnd)

/-- `url.Params.Fields`, `doc.RelData` and `doc.Links` as Go maps (distinct keys) walked
in any order. -/
theorem C11_perm_document_maps (d : Document) (rd₂ : GoMap (List GoString))
    (links₂ : List (GoString × LinkObj)) (f₁ f₂ : GoMap (List GoString)) (s : GoString)
    (hf : f₁.Perm f₂) (hfk : f₁.keys.Nodup)
    (hrd : d.relData.Perm rd₂) (hrdk : d.relData.keys.Nodup)
    (hl : d.links.Perm links₂) (hlk : (d.links.map (·.1)).Nodup) :
    Spec.documentTree d f₁ s =
    Spec.documentTree { d with relData := rd₂, links := links₂ } f₂ s :=
  C11_document_maps_lookup d rd₂ links₂ f₁ f₂ s (get?_eq_of_perm hf hfk) (get?_eq_of_perm hrd hrdk)
    hl hlk

/-! ### 6. marshaling again -/

/-- The spec trees are functions of their arguments: equal inputs, equal trees. -/
theorem C11_deterministic (d₁ d₂ : Document) (f₁ f₂ : GoMap (List GoString)) (s₁ s₂ : GoString)
    (hd : d₁ = d₂) (hf : f₁ = f₂) (hs : s₁ = s₂) :
    Spec.documentTree d₁ f₁ s₁ = Spec.documentTree d₂ f₂ s₂ := by
  subst hd hf hs; rfl

/-- (a) A resource whose `[]string` values have been sorted (what a first marshal leaves
behind, at most) marshals to the same object.
ADDED HYPOTHESIS `attrsScalar r`: no attribute of `r` holds a `[]string`. -/
theorem C11_repeat_resource (r : ResView) (hs : attrsScalar r)
    (p : GoString) (f : List GoString) (rd : GoMap (List GoString)) (m : Meta) :
    Spec.resourceObject (sortedToMany r) p f rd m = Spec.resourceObject r p f rd m :=
  C11_perm_tomany_general _ _ (sortedToMany_same hs) p f rd m

/-- (b) The document with its included list sorted by ID and its primary resources'
to-many lists sorted marshals to the same tree. -/
theorem C11_repeat_document (d : Document) (f : GoMap (List GoString)) (s : GoString)
    (hs : ∀ r ∈ dataResources d.data, attrsScalar r) :
    Spec.documentTree
      { d with included := sortById d.included, data := mapRes sortedToMany d.data } f s =
    Spec.documentTree d f s := by
  have h := documentTree_after sortedToMany id d f s (fun _ => rfl) (fun _ => rfl) (fun _ => rfl)
    (fun r hr p fl rd => C11_repeat_resource r (hs r hr) p fl rd [])
    (fun _ _ _ _ _ => rfl)
  rw [List.map_id] at h
  exact h

/-- (b') The same when the included resources' to-many lists have been sorted too (a
first marshal sorts those of every resource it renders). -/
theorem C11_repeat_document_full (d : Document) (f : GoMap (List GoString)) (s : GoString)
    (hs : ∀ r ∈ dataResources d.data, attrsScalar r) (hi : ∀ r ∈ d.included, attrsScalar r) :
    Spec.documentTree
      { d with included := (sortById d.included).map sortedToMany,
               data := mapRes sortedToMany d.data } f s =
    Spec.documentTree d f s :=
  documentTree_after sortedToMany sortedToMany d f s (fun _ => rfl) (fun _ => rfl) (fun _ => rfl)
    (fun r hr p fl rd => C11_repeat_resource r (hs r hr) p fl rd [])
    (fun r hr p fl rd => C11_repeat_resource r (hi r hr) p fl rd [])

/-- Sorting is idempotent: a third marshal sees what the second saw. -/
theorem C11_repeat_idem (r : ResView) (l : List ResView) (ids : List GoString) :
    sortedToMany (sortedToMany r) = sortedToMany r ∧
    sortById (sortById l) = sortById l ∧
    Typ.sortStrings (Typ.sortStrings ids) = Typ.sortStrings ids :=
  ⟨sortedToMany_idem r, sortById_idem l, sortStrings_idem ids⟩

/-! ### 7. frame: what the sorted resource / document differ in -/

/-- Nothing of a resource changes but the order of the IDs in its `[]string` values. -/
theorem C11_frame (r : ResView) :
    (sortedToMany r).typeName = r.typeName ∧ (sortedToMany r).id = r.id ∧
    (sortedToMany r).attrs = r.attrs ∧ (sortedToMany r).rels = r.rels ∧
    (∀ k, (sortedToMany r).get k = r.get k ∨
      ∃ l, r.get k = .strs l ∧ (sortedToMany r).get k = .strs (Typ.sortStrings l)) ∧
    (∀ l, (Typ.sortStrings l).Perm l) := by
  refine ⟨rfl, rfl, rfl, rfl, fun k => ?_, sortStrings_perm⟩
  rw [sortedToMany_get]
  exact sortVal_cases (r.get k)

/-- Nothing of a document changes but the order of the included list (and, inside the
resources, what `C11_frame` says). -/
theorem C11_frame_document (d : Document) :
    let d' : Document :=
      { d with included := (sortById d.included).map sortedToMany,
               data := mapRes sortedToMany d.data }
    d'.links = d.links ∧ d'.relData = d.relData ∧ d'.dmeta = d.dmeta ∧ d'.errors = d.errors ∧
    d'.prePath = d.prePath ∧ (sortById d.included).Perm d.included ∧
    dataResources d'.data = (dataResources d.data).map sortedToMany := by
  refine ⟨rfl, rfl, rfl, rfl, rfl, sortById_perm _, ?_⟩
  show dataResources (mapRes sortedToMany d.data) = _
  cases d.data <;> rfl

/-! ### non-vacuity -/

/-- Two views of one resource with the attribute map walked in opposite orders: the
hypotheses of `C11_perm_maps` hold although the maps differ as lists. -/
example :
    let a : Attr := { name := [97], ty := 1, nullable := false }
    let b : Attr := { name := [98], ty := 2, nullable := false }
    let rel : Rel := { fromType := [116], fromName := [114], toOne := false, toType := [116],
                       toName := [], fromOne := false }
    let attrs₁ : GoMap Attr := [([97], a), ([98], b)]
    let attrs₂ : GoMap Attr := [([98], b), ([97], a)]
    let rels : GoMap Rel := [([114], rel)]
    attrs₁ ≠ attrs₂ ∧ attrs₁.Perm attrs₂ ∧
    (∀ p ∈ attrs₁, p.1 = p.2.name) ∧ (∀ p ∈ rels, p.1 = p.2.fromName) ∧
    (attrs₁.keys ++ rels.keys).Nodup ∧
    Typ.sortStrings [[50], [49], [51]] = [[49], [50], [51]] := by decide

#print axioms C11_perm_maps_weak
#print axioms C11_perm_maps
#print axioms C11_perm_fields
#print axioms C11_perm_fields_perm
#print axioms C11_perm_relData_perm
#print axioms C11_perm_tomany_general
#print axioms C11_perm_tomany
#print axioms C11_perm_tomany_keyed
#print axioms C11_perm_tomany_needs_not_attr
#print axioms C11_perm_included
#print axioms C11_document_maps_lookup
#print axioms C11_perm_document_maps
#print axioms C11_deterministic
#print axioms C11_repeat_resource
#print axioms C11_repeat_document
#print axioms C11_repeat_document_full
#print axioms C11_repeat_idem
#print axioms C11_frame
#print axioms C11_frame_document

end Jsonapi
