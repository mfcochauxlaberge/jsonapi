/-
C13 — Partial unmarshaling.

"For every payload accepted by partial unmarshaling, the resulting resource's type has the
schema type's name and exactly the attributes that appear in the payload's attributes object
plus the relationships whose object carries a data member - no others - each with the
schema's definition and the value full unmarshaling gives it. A payload is accepted by
partial unmarshaling if and only if full unmarshaling accepts it."

`unmarshalPartialResource` returns the SoftResource itself (`Soft`): `s.typ` is its private
type, `s.get` is `SoftResource.Get`. The keys of the payload's `attributes` / `relationships`
objects are the keys of Go maps, hence distinct: hypotheses `sk.attrs.keys.Nodup`,
`sk.rels.keys.Nodup` of `C13_fields` (`C13_accept_iff` does not need them).
-/
import Jsonapi.Proofs.UnmarshalLemmas6
namespace Jsonapi
open GoMap UnmL

/-! ### Same acceptance -/

theorem C13_accept_iff (σ : SSchema) (hσ : σ.WF) (sk : ResSke) :
    (∃ s, unmarshalPartialResource σ sk = .ok s) ↔ (∃ r, unmarshalResource σ sk = .ok r) := by
  rw [partial_accept hσ sk, resource_accept hσ sk]

/-- Neither panics, so they also reject the same payloads, with an error. -/
theorem C13_reject_iff (σ : SSchema) (hσ : σ.WF) (sk : ResSke) :
    unmarshalPartialResource σ sk = .err ↔ unmarshalResource σ sk = .err := by
  have err_iff : ∀ {α : Type} {x : Res α}, x ≠ .panic → (x = .err ↔ ¬∃ a, x = .ok a) := by
    intro α x hx
    cases x with
    | ok a => exact ⟨nofun, fun h => (h ⟨a, rfl⟩).elim⟩
    | err => exact ⟨fun _ => nofun, fun _ => rfl⟩
    | panic => exact (hx rfl).elim
  rw [err_iff (partial_spec hσ sk).1, err_iff (resource_spec hσ sk).1, C13_accept_iff σ hσ sk]

/-! ### The fields of the partial resource -/

theorem C13_fields (σ : SSchema) (hσ : σ.WF) (sk : ResSke) (s : Soft)
    (hk : sk.attrs.keys.Nodup ∧ sk.rels.keys.Nodup)
    (h : unmarshalPartialResource σ sk = .ok s) :
    ∃ st ∈ σ, st.typ.name = sk.typ ∧ s.typ.name = st.typ.name ∧ s.id = sk.id ∧
      (∀ key, s.typ.attrs.has key = true ↔ sk.attrs.has key = true) ∧
      (∀ key a, s.typ.attrs.get? key = some a → st.typ.attrs.get? key = some a) ∧
      (∀ key, s.typ.rels.has key = true ↔ (∃ v, sk.rels.get? key = some v ∧ v.present = true)) ∧
      (∀ key rel, s.typ.rels.get? key = some rel → st.typ.rels.get? key = some rel) ∧
      (∀ r, unmarshalResource σ sk = .ok r → ∀ v, r.view? = some v →
        ∀ key, (s.typ.attrs.has key = true ∨ s.typ.rels.has key = true) →
          Spec.canon (s.get key) = Spec.canon (v.get key)) := by
  obtain ⟨st, hg, okA, okR, _, pinv⟩ := ((partial_spec hσ sk).2 s).1 h
  obtain ⟨hm, hname⟩ := getType_some hg
  obtain ⟨_, h2, h3, _⟩ := hσ.2 st hm
  obtain ⟨f1, f2⟩ := partial_field_sets h2 h3 sk hk.2 okA okR pinv
  refine ⟨st, hm, hname, pinv.name, by rw [pinv.inv.id, specId_fullHist h2 h3], f1, pinv.sub.1, f2,
    pinv.sub.2, ?_⟩
  intro r hr v hv key hkey
  obtain ⟨st', hg', _, _, _, inv⟩ := ((resource_spec hσ sk).2 r).1 hr
  rw [hg] at hg'; cases hg'
  obtain ⟨v', hv', _, _, e3, _⟩ := inv.view h2 h3
  rw [hv] at hv'; cases hv'
  have hf : key ∈ s.typ.fieldKeys := by
    rcases hkey with hh | hh
    · exact List.mem_append_left _ (has_iff_mem_keys.1 hh)
    · exact List.mem_append_right _ (has_iff_mem_keys.1 hh)
  rw [partial_get h2 h3 pinv hf, e3 key (pinv.sub.fieldKeys hf)]

/-- The values, read without reference to full unmarshaling: an attribute of the payload
reads the value `unmarshalToType` gives it, a relationship with data exactly its IDs. -/
theorem C13_values (σ : SSchema) (hσ : σ.WF) (sk : ResSke) (s : Soft)
    (hk : sk.attrs.keys.Nodup ∧ sk.rels.keys.Nodup)
    (h : unmarshalPartialResource σ sk = .ok s) :
    ∃ st ∈ σ, st.typ.name = sk.typ ∧
      (∀ key raw, sk.attrs.get? key = some raw → ∃ a x, st.typ.attrs.get? key = some a ∧
        unmarshalToType a raw = .ok x ∧ Spec.canon (s.get key) = Spec.canon x) ∧
      (∀ key rv, sk.rels.get? key = some rv → rv.present = true →
        ∃ rel, st.typ.rels.get? key = some rel ∧ (relValue rel rv).1 = some (s.get key)) := by
  obtain ⟨st, hg, okA, okR, _, pinv⟩ := ((partial_spec hσ sk).2 s).1 h
  obtain ⟨hm, hname⟩ := getType_some hg
  obtain ⟨_, h2, h3, _⟩ := hσ.2 st hm
  obtain ⟨f1, f2⟩ := partial_field_sets h2 h3 sk hk.2 okA okR pinv
  obtain ⟨r1, r2, _⟩ := fullHist_reads h2 h3 sk hk.1 hk.2 okA okR
  refine ⟨st, hm, hname, ?_, ?_⟩
  · intro key raw hkr
    obtain ⟨a, x, ha, hx, hs⟩ := r1 key raw hkr
    have hf : key ∈ s.typ.fieldKeys :=
      List.mem_append_left _ (has_iff_mem_keys.1 ((f1 key).2
        (has_iff_mem_keys.2 (mem_keys_of_get? hkr))))
    exact ⟨a, x, ha, hx, (partial_get h2 h3 pinv hf).trans hs⟩
  · intro key rv hkr hp
    obtain ⟨rel, hr, _, hpres⟩ := r2 key rv hkr
    obtain ⟨x, hx, hs⟩ := hpres hp
    have hf : key ∈ s.typ.fieldKeys :=
      List.mem_append_right _ (has_iff_mem_keys.1 ((f2 key).2 ⟨rv, hkr, hp⟩))
    exact ⟨rel, hr, hx.trans (congrArg some
      ((relValue_canon hx).2 _ ((partial_get h2 h3 pinv hf).trans hs)).symm)⟩

/-! ### Non-vacuity -/

/-- Type "t": attributes "a" (int8) and "b" (nullable string), to-one "o", to-many "m". -/
def C13_exT : Typ :=
  { name := [116],
    attrs := [([97], { name := [97], ty := 3, nullable := false }),
              ([98], { name := [98], ty := 1, nullable := true })],
    rels := [([111], { fromType := [116], fromName := [111], toOne := true, toType := [117], toName := [], fromOne := false }),
             ([109], { fromType := [116], fromName := [109], toOne := false, toType := [117], toName := [], fromOne := false })] }

def C13_exσ : SSchema := [{ typ := C13_exT, backed := false }]

/-- attributes {"a": 7}; relationships {"o": {"data": {"id":"k","type":"u"}}, "m": {}} -/
def C13_exSk : ResSke :=
  { id := [49], typ := [116],
    attrs := [([97], { bytes := [55], decStr := none, decTime := none, decBytes := none })],
    rels := [([111], { present := true, isNull := false, decIdent := some ([107], [117]), decIdents := none }),
             ([109], { present := false, isNull := false, decIdent := none, decIdents := none })],
    smeta := default }

theorem C13_exσ_wf : C13_exσ.WF := by unfold SSchema.WF; decide +kernel

/-- The partial resource has exactly the fields "a" and "o" (not "b", not "m"), with the
payload's values; the full resource is accepted too. -/
example :
    C13_exSk.attrs.keys.Nodup ∧ C13_exSk.rels.keys.Nodup ∧
    (match unmarshalPartialResource C13_exσ C13_exSk with
      | .ok s => s.typ.attrs.keys == [[97]] && s.typ.rels.keys == [[111]] && s.id == [49] &&
          s.get [97] == .val .int8 (.i 7) && s.get [111] == .val .string (.s [107]) &&
          s.get [98] == .nil
      | _ => false) = true ∧
    (unmarshalResource C13_exσ C13_exSk).isOk = true := by decide +kernel

example := C13_accept_iff C13_exσ C13_exσ_wf C13_exSk

end Jsonapi

section Axioms
open Jsonapi
#print axioms C13_accept_iff
#print axioms C13_reject_iff
#print axioms C13_fields
#print axioms C13_values
#print axioms C13_exσ_wf
end Axioms
