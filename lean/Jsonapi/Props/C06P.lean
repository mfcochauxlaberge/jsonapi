/-
C06P — the hypothesis `hplus` of C06 discharged from the parser.

`C06_int` (Props/C06.lean) and, through it, `C06_remarshal` / `C06B_remarshal` (Props/C06W.lean)
carry the hypothesis "the raw text of the attribute value does not start with '+'"
(`strconv.ParseInt` alone would take "+5"; no JSON value starts with '+'). Here it is proved of
the byte-level entry point (`C06P_raw_noplus`): the reader only cuts a number token that matches
JSON's number grammar, and every raw attribute value `decodeRes` stores is the text of a value of
the tree. `C06B_remarshal_noplus`, `C06B_int`, `C06B_uint` are the clauses of C06 without `hplus`.
-/
import Jsonapi.Props.C06W
namespace Jsonapi
open Spec GoMap

namespace C06P

/-! ### 1. Number tokens of a tree -/

mutual
/-- every number token of the tree matches `-?(0|[1-9][0-9]*)(\.[0-9]+)?([eE][+-]?[0-9]+)?` -/
def numsWf : CJson → Bool
  | .num lit => numOk lit
  | .arr _ items => numsWfItems items
  | .obj _ ms => numsWfMembers ms
  | _ => true
def numsWfItems : List CItem → Bool
  | [] => true
  | (_, v, _) :: rest => numsWf v && numsWfItems rest
def numsWfMembers : List CMember → Bool
  | [] => true
  | (_, _, _, v, _) :: rest => numsWf v && numsWfMembers rest
end

theorem numsWf_of_mem_members : ∀ (ms : List CMember), numsWfMembers ms = true →
    ∀ m ∈ ms, numsWf m.2.2.2.1 = true
  | (a, k, b, v, c) :: rest, h, m, hm => by
    rw [numsWfMembers, Bool.and_eq_true] at h
    rcases List.mem_cons.1 hm with rfl | hm
    · exact h.1
    · exact numsWf_of_mem_members rest h.2 m hm

theorem numsWf_of_mem_items : ∀ (l : List CItem), numsWfItems l = true →
    ∀ m ∈ l, numsWf m.2.1 = true
  | (a, v, c) :: rest, h, m, hm => by
    rw [numsWfItems, Bool.and_eq_true] at h
    rcases List.mem_cons.1 hm with rfl | hm
    · exact h.1
    · exact numsWf_of_mem_items rest h.2 m hm

/-- the first byte of a JSON value: `"` `-` digit `{` `[` `t` `f` `n` -/
def valueHead (c : UInt8) : Bool :=
  c = 34 || c = 45 || isDigit c || c = 123 || c = 91 || c = 116 || c = 102 || c = 110

theorem valueHead_ne_plus (c : UInt8) (h : valueHead c = true) : c ≠ 43 := by
  intro e; subst e; exact absurd h (by decide)

theorem numOk_head (lit : GoString) (h : numOk lit = true) :
    ∃ c t, lit = c :: t ∧ (c = 45 ∨ isDigit c = true) := by
  cases lit with
  | nil => simp [numOk] at h
  | cons c t =>
    refine ⟨c, t, rfl, ?_⟩
    by_cases e : c = 45
    · exact .inl e
    · right
      simp only [numOk, if_neg e, intPartOk] at h
      by_cases e0 : c = 48
      · subst e0; decide
      · rw [if_neg e0] at h
        cases hd : isDigit c with
        | true => rfl
        | false => rw [hd] at h; simp at h

end C06P

/-- The raw text of a value whose number tokens are well formed starts with one of `"` `-`
digit `{` `[` `t` `f` `n`. -/
theorem C06P_raw_head_value (v : CJson) (h : C06P.numsWf v = true) :
    ∃ c t, v.raw = c :: t ∧ C06P.valueHead c = true := by
  cases v with
  | null => exact ⟨110, _, rfl, by decide⟩
  | bool b => cases b <;> exact ⟨_, _, rfl, by decide⟩
  | num lit =>
    simp only [C06P.numsWf] at h
    obtain ⟨c, t, rfl, hc⟩ := C06P.numOk_head lit h
    refine ⟨c, t, by simp [CJson.raw], ?_⟩
    rcases hc with e | e
    · subst e; decide
    · simp [C06P.valueHead, e]
  | str r => exact ⟨34, _, by rw [CJson.raw], by decide⟩
  | arr ws items => exact ⟨91, _, by rw [CJson.raw], by decide⟩
  | obj ws ms => exact ⟨123, _, by rw [CJson.raw], by decide⟩

namespace C06P

/-! ### 2. The reader only yields well-formed number tokens -/

/-- By induction on the fuel and the branches of the three readers: a number token is only cut
when `numOk` accepts it, every other leaf has no number, and items and members are read by the
readers one unit of fuel below. -/
theorem parse_numsWf (f : Nat) :
    (∀ d s v r, parseC f d s = some (v, r) → numsWf v = true) ∧
    (∀ d pre s vs r, parseElemsC f d pre s = some (vs, r) → numsWfItems vs = true) ∧
    (∀ d pre s ms r, parseMembersC f d pre s = some (ms, r) → numsWfMembers ms = true) := by
  induction f using Nat.strongRecOn with | _ f ih => ?_
  refine ⟨fun d s => ?_, fun d pre s => ?_, fun d pre s => ?_⟩
  · fun_cases parseC f d s
    -- 3, 4: a number token; 5-8: `null`, `true`, `false`, a string; 11, 15: `[]`, `{}`;
    -- 12, 16: an array, an object; the others: no value
    case case3 hn => rw [if_pos hn]; rintro _ _ ⟨⟩; exact hn
    case case4 hn => rw [if_neg hn]; nofun
    case case5 | case6 | case7 | case8 =>
      intro v r h; obtain ⟨_, _, ⟨⟩⟩ := Option.map_eq_some_iff.1 h; rfl
    case case11 | case15 => rintro _ _ ⟨⟩; rfl
    case case12 =>
      intro v r h; obtain ⟨p, hp, ⟨⟩⟩ := Option.map_eq_some_iff.1 h
      exact (ih _ (Nat.lt_succ_self _)).2.1 _ _ _ _ _ hp
    case case16 =>
      intro v r h; obtain ⟨p, hp, ⟨⟩⟩ := Option.map_eq_some_iff.1 h
      exact (ih _ (Nat.lt_succ_self _)).2.2 _ _ _ _ _ hp
    all_goals nofun
  · fun_cases parseElemsC f d pre s
    -- 4: the last element; 6: an element, a comma and the remaining ones
    case case4 hv =>
      rintro _ _ ⟨⟩
      simp only [numsWfItems, (ih _ (Nat.lt_succ_self _)).1 _ _ _ _ hv, Bool.and_self]
    case case6 he hv =>
      rintro _ _ ⟨⟩
      simp only [numsWfItems, (ih _ (Nat.lt_succ_self _)).1 _ _ _ _ hv,
        (ih _ (Nat.lt_succ_self _)).2.1 _ _ _ _ _ he, Bool.and_self]
    all_goals nofun
  · fun_cases parseMembersC f d pre s
    -- 7: the last member; 9: a member, a comma and the remaining ones
    case case7 hv =>
      rintro _ _ ⟨⟩
      simp only [numsWfMembers, (ih _ (Nat.lt_succ_self _)).1 _ _ _ _ hv, Bool.and_self]
    case case9 hv he =>
      rintro _ _ ⟨⟩
      simp only [numsWfMembers, (ih _ (Nat.lt_succ_self _)).1 _ _ _ _ hv,
        (ih _ (Nat.lt_succ_self _)).2.2 _ _ _ _ _ he, Bool.and_self]
    all_goals nofun

theorem parseC_numsWf : ∀ (f d : Nat) (s : GoString) (v : CJson) (r : GoString),
    parseC f d s = some (v, r) → numsWf v = true :=
  fun f => (parse_numsWf f).1

theorem parseElemsC_numsWf : ∀ (f d : Nat) (pre s : GoString) (vs : List CItem) (r : GoString),
    parseElemsC f d pre s = some (vs, r) → numsWfItems vs = true :=
  fun f => (parse_numsWf f).2.1

theorem parseMembersC_numsWf : ∀ (f d : Nat) (pre s : GoString) (ms : List CMember) (r : GoString),
    parseMembersC f d pre s = some (ms, r) → numsWfMembers ms = true :=
  fun f => (parse_numsWf f).2.2

end C06P

/-- Every tree the full-grammar reader returns has well-formed number tokens. -/
theorem C06P_parse_numsWf (bytes : GoString) (j : CJson) (h : parseJsonC bytes = some j) :
    C06P.numsWf j = true := by
  unfold parseJsonC at h
  split at h
  · rename_i v r hv
    split at h
    · simp only [Option.some.injEq] at h
      subst h
      exact C06P.parseC_numsWf _ _ _ _ _ hv
    · cases h
  · cases h

namespace C06P

/-! ### 3. Where the entries of the `attributes` map come from -/

/-- `v` is the value of a member named `key` (after decoding the key) of an object that is the
value of a member of the top-level members `ms0` matched to the field `attributes` -/
def IsAttrValueIn (ms0 : List CMember) (key : GoString) (v : CJson) : Prop :=
  ∃ mm ∈ ms0, fieldIdx resFields (unquote mm.2.1) = some 2 ∧
    ∃ ws' ams, mm.2.2.2.1 = .obj ws' ams ∧ ∃ am ∈ ams, unquote am.2.1 = key ∧ am.2.2.2.1 = v

/-- every entry of an attributes map is `rawValOf` of a member value of an `attributes` object -/
def AInv (D : Delegated) (ms0 : List CMember) (m : GoMap RawVal) : Prop :=
  ∀ key raw, m.get? key = some raw → ∃ v, IsAttrValueIn ms0 key v ∧ raw = rawValOf D v

theorem resMembers_AInv (D : Delegated) (ms0 : List CMember) :
    ∀ (ms : List CMember) (acc sk : ResSke), (∀ m ∈ ms, m ∈ ms0) → AInv D ms0 acc.attrs →
      resMembers D acc ms = some sk → AInv D ms0 sk.attrs :=
  fun ms acc sk hsub hc h =>
    (DecL.resMembers_inv D ms0 (PA := AInv D ms0) (PR := fun _ => True) (fun _ _ hg => nomatch hg) trivial
      (fun cur m ws as hm hfi hobj hc key raw hg =>
        (DecL.attrsInto_get? D as cur hg).elim (hc key raw) fun ⟨am, ham, hk, e⟩ =>
          ⟨_, ⟨m, hm, hfi, ws, as, hobj, am, ham, hk, rfl⟩, e⟩)
      (fun _ _ _ _ _ _ _ _ _ _ => trivial) ms acc sk hsub hc trivial h).1

/-- `v` is the value of a member named `key` of an `attributes` object of the payload `j` -/
def IsAttrValue (j : CJson) (key : GoString) (v : CJson) : Prop :=
  ∃ ws ms, j = .obj ws ms ∧ IsAttrValueIn ms key v

theorem isAttrValue_numsWf {j : CJson} {key : GoString} {v : CJson} (hj : numsWf j = true)
    (h : IsAttrValue j key v) : numsWf v = true := by
  obtain ⟨ws, ms, rfl, mm, hmm, _, ws', ams, hobj, am, ham, _, hv⟩ := h
  simp only [numsWf] at hj
  have h1 := numsWf_of_mem_members ms hj mm hmm
  rw [hobj] at h1
  simp only [numsWf] at h1
  rw [← hv]
  exact numsWf_of_mem_members ams h1 am ham

end C06P

/-- **Parser invariant, part 1.** Every entry `decodeRes D j` stores in the `attributes` map is
`rawValOf D v` - in particular its `bytes` are `v.raw`, the text of the value - for a value `v`
of a member with that (decoded) key of an `attributes` object of the payload. -/
theorem C06P_attr_is_value (D : Delegated) (j : CJson) (sk : ResSke) (h : decodeRes D j = some sk) :
    ∀ key raw, sk.attrs.get? key = some raw →
      ∃ v, C06P.IsAttrValue j key v ∧ raw = rawValOf D v ∧ raw.bytes = v.raw := by
  intro key raw hg
  cases j with
  | null => cases h; cases hg
  | obj ws ms =>
    simp only [decodeRes] at h
    obtain ⟨v, hv, e⟩ := C06P.resMembers_AInv D ms ms ResSke.zero sk (fun m hm => hm)
      (fun _ _ hg => nomatch hg) h key raw hg
    exact ⟨v, ⟨ws, ms, rfl, hv⟩, e, by rw [e]; rfl⟩
  | _ => cases h

/-- **Parser invariant (`hplus` discharged).** For `j` read from bytes by `parseJsonC`, every raw
value `decodeRes D j` stores for an attribute is the text of a JSON value: it is not empty and
its first byte is one of `"` `-` digit `{` `[` `t` `f` `n` (`C06P.valueHead`). -/
theorem C06P_raw_head (D : Delegated) (bytes : GoString) (j : CJson) (sk : ResSke)
    (hj : parseJsonC bytes = some j) (hsk : decodeRes D j = some sk) :
    ∀ key raw, sk.attrs.get? key = some raw →
      ∃ c t, raw.bytes = c :: t ∧ C06P.valueHead c = true := by
  intro key raw hg
  obtain ⟨v, hv, _, e⟩ := C06P_attr_is_value D j sk hsk key raw hg
  rw [e]
  exact C06P_raw_head_value v (C06P.isAttrValue_numsWf (C06P_parse_numsWf bytes j hj) hv)

/-- … in particular never '+': the hypothesis `hplus` of `C06_int`, `C06_remarshal`,
`C06B_remarshal` holds of every skeleton decoded from bytes. -/
theorem C06P_raw_noplus (D : Delegated) (bytes : GoString) (j : CJson) (sk : ResSke)
    (hj : parseJsonC bytes = some j) (hsk : decodeRes D j = some sk) :
    ∀ key raw, sk.attrs.get? key = some raw → raw.bytes.head? ≠ some 43 := by
  intro key raw hg
  obtain ⟨c, t, e, hc⟩ := C06P_raw_head D bytes j sk hj hsk key raw hg
  rw [e]
  simp only [List.head?_cons, ne_eq, Option.some.injEq]
  exact C06P.valueHead_ne_plus c hc

open C06W in
/-- **C06, last clause, from the payload bytes, with NO hypothesis left on the raw values**:
the statement of `C06B_remarshal` without `hplus`. -/
theorem C06B_remarshal_noplus (D : Delegated) (σ : SSchema) (hσ : σ.WF) (bytes : GoString)
    (res : AnyRes) (h : unmarshalResourceBytes D σ bytes = .ok res)
    (prepath : GoString) (rmeta : Meta) :
    ∃ j sk, Spec.parseJsonC bytes = some j ∧ decodeRes D j = some sk ∧
    ∃ st ∈ σ, σ.getType sk.typ = some st ∧ st.typ.name = sk.typ ∧
    ∃ v t v', res.view? = some v ∧
      marshalResource v prepath (st.typ.attrs.keys ++ st.typ.rels.keys)
        [(sk.typ, st.typ.rels.keys)] rmeta = .ok (t, v') ∧
      t.get? K.id = some (.str sk.id) ∧ t.get? K.type = some (.str sk.typ) ∧
      (∀ key raw, sk.attrs.get? key = some raw →
        ∃ a o x, st.typ.attrs.get? key = some a ∧ t.get? K.attributes = some o ∧
          o.get? key = some x ∧ Spec.denotedJson a raw = some x) ∧
      (∀ key a, st.typ.attrs.get? key = some a → sk.attrs.has key = false →
        ∃ o, t.get? K.attributes = some o ∧ o.get? key = some (encodeAttr a.zero)) ∧
      (∀ key rel, st.typ.rels.get? key = some rel →
        ∃ rs ro d, t.get? K.relationships = some rs ∧ rs.get? key = some ro ∧
          ro.get? K.data = some d ∧ linkageOf rel (sk.rels.get? key) d) :=
  C06B_remarshal D σ hσ bytes res h (fun j sk hj hsk => C06P_raw_noplus D bytes j sk hj hsk)
    prepath rmeta

/-- **C06, integer clause, from the payload bytes** (`C06_int` without `hplus`): `raw` is the
value the decoded skeleton of the payload `bytes` holds for the attribute `key`. For an
attribute of an integer kind and a value other than `null`: accepted exactly when the text is
an integer literal in the range of the kind (and, for an unsigned kind, has no minus sign: the
known exception `-0`, `C06_uint_negzero`), and the value stored is that integer. -/
theorem C06B_int (D : Delegated) (bytes : GoString) (j : CJson) (sk : ResSke)
    (hj : parseJsonC bytes = some j) (hsk : decodeRes D j = some sk)
    (key : GoString) (raw : RawVal) (hraw : sk.attrs.get? key = some raw)
    (a : Attr) (v : GoVal) (k : Kind) (hk : Kind.ofCode? a.ty = some k)
    (hint : k.isInt = true) (hnn : raw.bytes ≠ sNull) :
    unmarshalToType a raw = .ok v ↔
      ∃ n, Spec.intLit raw.bytes = some n ∧ (∃ lo hi, k.range? = some (lo, hi) ∧ lo ≤ n ∧ n ≤ hi) ∧
        (k.isUnsigned = true → raw.bytes.head? ≠ some 45) ∧ v = mkVal k a.nullable (.i n) :=
  C06_int a raw v k hk hint (C06P_raw_noplus D bytes j sk hj hsk key raw hraw) hnn

/-- The unsigned kinds, from the payload bytes, without `hplus`: accepted exactly when the text
is an integer literal in the range of the kind that has no minus sign. -/
theorem C06B_uint (D : Delegated) (bytes : GoString) (j : CJson) (sk : ResSke)
    (hj : parseJsonC bytes = some j) (hsk : decodeRes D j = some sk)
    (key : GoString) (raw : RawVal) (hraw : sk.attrs.get? key = some raw)
    (a : Attr) (v : GoVal) (k : Kind) (hk : Kind.ofCode? a.ty = some k)
    (hu : k.isUnsigned = true) (hnn : raw.bytes ≠ sNull) :
    unmarshalToType a raw = .ok v ↔
      ∃ n, Spec.intLit raw.bytes = some n ∧ (∃ lo hi, k.range? = some (lo, hi) ∧ lo ≤ n ∧ n ≤ hi) ∧
        raw.bytes.head? ≠ some 45 ∧ v = mkVal k a.nullable (.i n) := by
  have hint : k.isInt = true := by revert hu; cases k <;> decide
  rw [C06B_int D bytes j sk hj hsk key raw hraw a v k hk hint hnn]
  constructor
  · rintro ⟨n, h1, h2, h3, h4⟩; exact ⟨n, h1, h2, h3 hu, h4⟩
  · rintro ⟨n, h1, h2, h3, h4⟩; exact ⟨n, h1, h2, fun _ => h3, h4⟩

/-- The signed kinds, from the payload bytes, without `hplus` (`C06_int_signed`). -/
theorem C06B_int_signed (D : Delegated) (bytes : GoString) (j : CJson) (sk : ResSke)
    (hj : parseJsonC bytes = some j) (hsk : decodeRes D j = some sk)
    (key : GoString) (raw : RawVal) (hraw : sk.attrs.get? key = some raw)
    (a : Attr) (v : GoVal) (k : Kind) (hk : Kind.ofCode? a.ty = some k)
    (hs : k.isSigned = true) (hnn : raw.bytes ≠ sNull) :
    unmarshalToType a raw = .ok v ↔
      ∃ n, Spec.intLit raw.bytes = some n ∧ (∃ lo hi, k.range? = some (lo, hi) ∧ lo ≤ n ∧ n ≤ hi) ∧
        v = mkVal k a.nullable (.i n) :=
  C06_int_signed a raw v k hk hs (C06P_raw_noplus D bytes j sk hj hsk key raw hraw) hnn

/-! ### Non-vacuity: the reader on `{"attributes":{"n":-128,"p":+5}}` and without the `+` -/

/-- `{"type":"t","attributes":{"n":-128}}` -/
def C06P.exBytes : GoString := [123, 34, 116, 121, 112, 101, 34, 58, 34, 116, 34, 44,
  34, 97, 116, 116, 114, 105, 98, 117, 116, 101, 115, 34, 58, 123, 34, 110, 34, 58,
  45, 49, 50, 56, 125, 125]

def C06P.exD : Delegated := ⟨fun _ => none, fun _ => none⟩

/-- the payload is read and decoded, and the raw value of `n` is the text `-128` -/
theorem C06P_ex : ((parseJsonC C06P.exBytes).bind (decodeRes C06P.exD)).map
    (fun sk => (sk.attrs.get? [110]).map (·.bytes)) = some (some [45, 49, 50, 56]) := by decide +kernel

/-- a number token starting with '+' is not JSON: `{"attributes":{"n":+5}}` is rejected by the
reader (so `unmarshalResourceBytes` answers with an error before `strconv.ParseInt` sees "+5") -/
example : parseJsonC [123, 34, 97, 116, 116, 114, 105, 98, 117, 116, 101, 115, 34, 58, 123,
    34, 110, 34, 58, 43, 53, 125, 125] = none := by decide +kernel

end Jsonapi

section Axioms
open Jsonapi
#print axioms C06P_raw_head_value
#print axioms C06P_parse_numsWf
#print axioms C06P_attr_is_value
#print axioms C06P_raw_head
#print axioms C06P_raw_noplus
#print axioms C06B_remarshal_noplus
#print axioms C06B_int
#print axioms C06B_uint
#print axioms C06B_int_signed
#print axioms C06P_ex
#print axioms C06P.parseC_numsWf
#print axioms C06P.resMembers_AInv
#print axioms C06P.isAttrValue_numsWf
end Axioms
