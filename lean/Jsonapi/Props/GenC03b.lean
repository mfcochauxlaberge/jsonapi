/-
T1b for C03's Include clause and the small collection / identifier / meta helpers: the definitions
translated on this run from document.go (`Document.Include`), collection.go (`Resources`),
wrapper_collection.go (`WrapperCollection`), identifiers.go (`NewIdentifiers`, `Identifiers.IDs`) and meta.go
(`Meta.Has`, `Meta.GetInt`) are the hand-written model's - for every input. Through
`Gen_Document_Include_eq` the Include theorems of Props/C03.lean (no (type, id) pair twice across
primary data and included, over every history of Include calls) are restated below as theorems
about the TRANSLATED function: C03's Include clause is a theorem about what document.go says on this run.

Reading conventions of the translator that these statements rest on (its header, paragraph
"Documents, collections, type assertions, threaded receivers, checked reads"):

* `Document` is the model's `Document`: the field `Data any` is the sum `DocData` (a resource
  view | a collection view: the name of its type and its members | anything else), `Included`
  is `included`; no other field is in the subset. `d.Data.(Resource)` / `d.Data.(Collection)`
  succeed on the constructors `res` / `col` only; a collection is read through
  `GetType().Name`, `Len()` (the number of members) and `At(i)` for `i < Len()` (member i).
  `r.Get("id").(string)` is the id of the resource view (every implementation of the library
  returns a string there).
* The receiver `*Document` / `*Resources` / `*WrapperCollection` is a value threaded through the
  body; the method returns it (`return` and the end of the body).
* `Resources.At`, `WrapperCollection.At`: the result `Resource` may be nil, so it is an
  `Option ResView`; the read `xs[i]` at the parameter i is CHECKED in the translation (the
  function returns `Res`, `.panic` out of range), so whether the code's own tests keep the read
  in range is proved here (`Resources.At` never panics) or refuted (`WrapperCollection.At`
  panics below zero, as the model says).
* `r.(*Wrapper)` on a resource: whether the dynamic type is `*Wrapper` is the parameter
  `isWrapper'`; a `*Wrapper` is read through its resource view.
* `Meta` is `map[string]any`, read as `GoMap PageVal` (an int or a string: the translator's `any`).
-/
import Jsonapi.Proofs.GenC03bLemmas
import Jsonapi.Props.C03
import Jsonapi.Model.Misc
namespace Jsonapi
open MarshalL GenC03bL

/-! ### `Document.Include` -/

private theorem incl_init (d : Document) :
    (if (decide (((d.included).length : Int) = (0 : Int))) then
        { d with included := ([] : List ResView) } else d) = d := by
  cases h : d.included with
  | nil => cases d; simp_all
  | cons a l =>
    have : ¬ ((l.length : Int) + 1 = 0) := by omega
    simp [this]

private theorem incl_tail (d : Document) (r : ResView) :
    (if (d.included.any (fun elem_ =>
          decide (r.id ++ [32] ++ r.typeName = elem_.id ++ [32] ++ elem_.typeName))) = true then d
      else { d with included := d.included ++ [r] }) =
    (if d.included.any (fun x => decide (resKey x = resKey r)) = true then d
      else { d with included := d.included ++ [r] }) := by
  have : (fun (elem_ : ResView) =>
        decide (r.id ++ [32] ++ r.typeName = elem_.id ++ [32] ++ elem_.typeName)) =
      (fun x => decide (resKey x = resKey r)) := by
    funext x
    simp only [resKey]
    exact decide_eq_decide.2 ⟨Eq.symm, Eq.symm⟩
  rw [this]

/-- document.go `Include`: the translated method is the model's, for every document (whatever its
primary data) and every resource. -/
theorem Gen_Document_Include_eq (d : Document) (r : ResView) :
    Gen.Document_Include d r = d.include r := by
  unfold Gen.Document_Include
  simp only [incl_init, incl_tail]
  rw [include_eq]
  unfold inPrimaryB
  cases hd : d.data with
  | res p =>
    simp only [Option.isSome_some, Option.getD_some, if_true, resKey]
    rfl
  | col tn ms =>
    simp only [Option.isSome_some, Option.getD_some, if_true, Option.isSome_none,
      Bool.false_eq_true, if_false]
    rw [foldl_range_ret_any _
      (fun m => decide (m.id ++ [32] ++ m.typeName = r.id ++ [32] ++ r.typeName))
      d ms default (fun _ _ => rfl) (fun _ => rfl)]
    have hk : (fun (m : ResView) =>
          decide (m.id ++ [32] ++ m.typeName = r.id ++ [32] ++ r.typeName)) =
        (fun x => decide (resKey x = resKey r)) := rfl
    rw [hk]
    rcases Bool.eq_false_or_eq_true (decide (tn = []) || decide (tn = r.typeName)) with h1 | h1 <;>
      rcases Bool.eq_false_or_eq_true (ms.any fun x => decide (resKey x = resKey r)) with h2 | h2 <;>
      simp only [h1, h2, if_true, Bool.and_self, Bool.and_false, Bool.false_and,
        Bool.false_eq_true, if_false]
  | none => simp
  | ident a b => simp
  | idents a b => simp
  | other => simp

/-- the same as an equality of functions (for folds over histories of calls) -/
theorem Gen_Document_Include_fun : Gen.Document_Include = Document.include := by
  funext d r
  exact Gen_Document_Include_eq d r

/-- The translated Include writes the field Included only. -/
theorem Gen_Document_Include_data (d : Document) (r : ResView) :
    (Gen.Document_Include d r).data = d.data := by
  rw [Gen_Document_Include_eq]
  exact include_data d r

/-- C03, Include, the invariant step on (type, id) pairs, about the translated method: if no pair
is repeated across primary data and included before the call (and a typed collection holds
resources of its type), none is after it, for whatever resource is handed over; the primary data
is untouched and the collection stays typed. -/
theorem Gen_Document_Include_step_pairs (d : Document) (r : ResView) (ht : TypedCol d)
    (hnd : ((docPrimary d ++ d.included).map resPair).Nodup) :
    ((docPrimary (Gen.Document_Include d r) ++
        (Gen.Document_Include d r).included).map resPair).Nodup ∧
    (Gen.Document_Include d r).data = d.data ∧ TypedCol (Gen.Document_Include d r) := by
  rw [Gen_Document_Include_eq]
  refine ⟨include_step resPair (fun _ _ => resKey_of_resPair) d r ht ?_ hnd, include_data d r,
    ht.congr (include_data d r)⟩
  intro m _ h
  simp only [resPair, Prod.mk.injEq] at h
  exact h.1

/-- The invariant step on the keys `id ++ " " ++ type` that Include compares, about the translated
method (the key must determine the type against the primary data: true when type names hold no
space, `C03_keyFaithful_of_noSpace`). -/
theorem Gen_Document_Include_step_keys (d : Document) (r : ResView) (ht : TypedCol d)
    (hkey : ∀ m ∈ docPrimary d, resKey m = resKey r → m.typeName = r.typeName)
    (hnd : (Spec.primaryKeys d ++ d.included.map resKey).Nodup) :
    (Spec.primaryKeys (Gen.Document_Include d r) ++
        (Gen.Document_Include d r).included.map resKey).Nodup ∧
    Spec.primaryKeys (Gen.Document_Include d r) = Spec.primaryKeys d := by
  rw [primaryKeys_eq, ← List.map_append] at hnd
  have h := include_step resKey (fun _ _ h => h) d r ht hkey hnd
  rw [Gen_Document_Include_eq, primaryKeys_eq, primaryKeys_eq, ← List.map_append,
    docPrimary_congr (include_data d r)]
  rw [docPrimary_congr (include_data d r)] at h
  exact ⟨h, rfl⟩

/-- C03, Include, over every history of calls of the translated method, on (type, id) pairs:
`C03_include_unique_pairs` about what document.go says on this run. -/
theorem Gen_Document_Include_unique_pairs (ops : List ResView) (d0 : Document) (ht : TypedCol d0)
    (hnd : ((docPrimary d0 ++ d0.included).map resPair).Nodup) :
    ((docPrimary (ops.foldl Gen.Document_Include d0) ++
        (ops.foldl Gen.Document_Include d0).included).map resPair).Nodup ∧
    (ops.foldl Gen.Document_Include d0).data = d0.data := by
  rw [Gen_Document_Include_fun]
  exact C03_include_unique_pairs ops d0 ht hnd

/-- `C03_include_unique_gen` about the translated method. -/
theorem Gen_Document_Include_unique_gen (ops : List ResView) (d0 : Document) (ht : TypedCol d0)
    (hkey : KeyFaithful ops d0)
    (hnd : (Spec.primaryKeys d0 ++ d0.included.map resKey).Nodup) :
    (Spec.primaryKeys (ops.foldl Gen.Document_Include d0) ++
        (ops.foldl Gen.Document_Include d0).included.map resKey).Nodup ∧
    Spec.primaryKeys (ops.foldl Gen.Document_Include d0) = Spec.primaryKeys d0 := by
  rw [Gen_Document_Include_fun]
  exact C03_include_unique_gen ops d0 ht hkey hnd

/-- `C03_include_unique` (the headline statement: from a document without included resources)
about the translated method. -/
theorem Gen_Document_Include_unique (ops : List ResView) (d0 : Document) (hinc : d0.included = [])
    (hok : DocOk d0) (hkey : KeyFaithful ops d0) :
    (Spec.primaryKeys (ops.foldl Gen.Document_Include d0) ++
        (ops.foldl Gen.Document_Include d0).included.map resKey).Nodup ∧
    Spec.primaryKeys (ops.foldl Gen.Document_Include d0) = Spec.primaryKeys d0 := by
  rw [Gen_Document_Include_fun]
  exact C03_include_unique ops d0 hinc hok hkey

/-- the translated method runs: the sample history of Props/C03.lean (a member of the typed
collection, a new resource twice, a resource of another type) -/
example : (([c04_res [49] [99], c04_res [51] [100], c04_res [51] [100], c04_res [49] [100]].foldl
    Gen.Document_Include c04_doc).included).map resKey = [[51, 32, 100], [49, 32, 100]] := by decide

/-! ### `Resources` (collection.go)

The model's `RColl α` keeps, for every element, whether its dynamic type is `*Wrapper`
(`RArg`); `Resources` itself never looks at it. The translated methods work on the list of
resource views: the view of a model collection forgets the tags. Every list of views is the view
of a model collection (`rcViews_other`). -/

/-- the resource behind an `Add` argument -/
def RArg.val {α : Type} : RArg α → α
  | .wrapper w => w
  | .other x => x

/-- the resource views a model `Resources` holds -/
def RColl.views (c : RColl ResView) : List ResView := c.col.map RArg.val

theorem rcViews_other (l : List ResView) : RColl.views { col := l.map RArg.other } = l := by
  simp [RColl.views, RArg.val, Function.comp_def]

/-- `Resources.GetType`: the zero Type -/
theorem Gen_Resources_GetType_eq (c : RColl ResView) :
    Gen.Resources_GetType c.views = c.getType.eff := rfl

theorem Gen_Resources_Len_eq (c : RColl ResView) : Gen.Resources_Len c.views = (c.len : Int) := by
  simp [Gen.Resources_Len, RColl.views, RColl.len]

/-- `Resources.At`: never a panic (the test `i >= 0 && i < r.Len()` keeps the read in range), nil
outside the range, the element inside. -/
theorem Gen_Resources_At_eq (c : RColl ResView) (i : Int) :
    Gen.Resources_At c.views i = .ok ((c.at? i).map RArg.val) := by
  unfold Gen.Resources_At Gen.Resources_Len RColl.at? RColl.views
  by_cases h : 0 ≤ i ∧ i < (c.col.length : Int)
  · obtain ⟨h1, h2⟩ := h
    have h3 : i.toNat < c.col.length := by omega
    simp [h1, h2, h3, List.getD_eq_getElem?_getD]
  · have : ¬ (0 ≤ i ∧ i < ((c.col.map RArg.val).length : Int)) := by simpa using h
    simp only [List.length_map] at this
    simp [h]

/-- `Resources.Add`: append, whatever the value -/
theorem Gen_Resources_Add_eq (c : RColl ResView) (a : RArg ResView) :
    Gen.Resources_Add c.views a.val = (c.add a).views := by
  simp [Gen.Resources_Add, RColl.views, RColl.add]

theorem Gen_Resources_Len_Add (l : List ResView) (r : ResView) :
    Gen.Resources_Len (Gen.Resources_Add l r) = Gen.Resources_Len l + 1 := by
  simp [Gen.Resources_Len, Gen.Resources_Add]

theorem Gen_Resources_At_Add_last (l : List ResView) (r : ResView) :
    Gen.Resources_At (Gen.Resources_Add l r) (Gen.Resources_Len l) = .ok (some r) := by
  have h := Gen_Resources_At_eq { col := (l ++ [r]).map RArg.other } (l.length : Int)
  rw [rcViews_other] at h
  simp only [Gen.Resources_Add, Gen.Resources_Len]
  rw [h]
  have hlt : (l.length : Int) < (l.length : Int) + 1 := by omega
  simp [RColl.at?, RArg.val, hlt]

theorem Gen_Resources_At_Add_old (l : List ResView) (r : ResView) (i : Int)
    (h : i < Gen.Resources_Len l) :
    Gen.Resources_At (Gen.Resources_Add l r) i = Gen.Resources_At l i := by
  have h1 := Gen_Resources_At_eq { col := (l ++ [r]).map RArg.other } i
  have h2 := Gen_Resources_At_eq { col := l.map RArg.other } i
  rw [rcViews_other] at h1 h2
  simp only [Gen.Resources_Add]
  rw [h1, h2]
  simp only [Gen.Resources_Len] at h
  unfold RColl.at?
  by_cases h0 : 0 ≤ i
  · have h3 : i.toNat < l.length := by omega
    simp [h0, h, h3, List.getElem?_append_left]
    omega
  · simp [h0]

/-! ### `WrapperCollection` (wrapper_collection.go) -/

/-- the translated structure of a model `WrapperCollection` (`sample` is read by no method) -/
def WColl.gen (c : WColl ResView) (sample : ResView) : Gen.WrapperCollection :=
  { typ := c.typ.eff, col := c.col, sample := sample }

theorem Gen_WrapperCollection_GetType_eq (c : WColl ResView) (s : ResView) :
    Gen.WrapperCollection_GetType (c.gen s) = c.getType.eff := rfl

theorem Gen_WrapperCollection_Len_eq (c : WColl ResView) (s : ResView) :
    Gen.WrapperCollection_Len (c.gen s) = (c.len : Int) := rfl

/-- `WrapperCollection.At`: the only test is `len(wc.col) > i`, so a negative index reaches the
read and panics - exactly the model's `at?`. -/
theorem Gen_WrapperCollection_At_eq (c : WColl ResView) (s : ResView) (i : Int) :
    Gen.WrapperCollection_At (c.gen s) i = c.at? i := by
  unfold Gen.WrapperCollection_At WColl.at? WColl.gen
  by_cases h2 : i < (c.col.length : Int)
  · by_cases h1 : 0 ≤ i
    · have h3 : i.toNat < c.col.length := by omega
      have h4 : ¬ i < 0 := by omega
      simp [h1, h2, h3, h4, List.getD_eq_getElem?_getD]
    · have h4 : i < 0 := by omega
      simp [h1, h2, h4]
  · simp [h2]

/-- the panic is real: `At(-1)` on any collection -/
theorem Gen_WrapperCollection_At_negative (wc : Gen.WrapperCollection) :
    Gen.WrapperCollection_At wc (-1) = .panic := by
  unfold Gen.WrapperCollection_At
  have : (-1 : Int) < (wc.col.length : Int) := by omega
  simp [this]

/-- `WrapperCollection.Add`: only a resource whose dynamic type is `*Wrapper` is appended
(`isW` is the translated function's parameter for that test). -/
theorem Gen_WrapperCollection_Add_eq (c : WColl ResView) (s : ResView) (a : RArg ResView)
    (isW : ResView → Bool)
    (h : isW a.val = (match a with | .wrapper _ => true | .other _ => false)) :
    Gen.WrapperCollection_Add (c.gen s) a.val isW = (c.add a).gen s := by
  unfold Gen.WrapperCollection_Add WColl.add WColl.gen
  cases a with
  | wrapper w => simp only [RArg.val] at h ⊢; simp [h]
  | other x => simp only [RArg.val] at h ⊢; simp [h]

theorem Gen_WrapperCollection_Len_Add (wc : Gen.WrapperCollection) (r : ResView)
    (isW : ResView → Bool) :
    Gen.WrapperCollection_Len (Gen.WrapperCollection_Add wc r isW) =
      Gen.WrapperCollection_Len wc + (if isW r then 1 else 0) := by
  unfold Gen.WrapperCollection_Len Gen.WrapperCollection_Add
  cases isW r <;> simp

theorem Gen_WrapperCollection_At_Add_last (wc : Gen.WrapperCollection) (r : ResView)
    (isW : ResView → Bool) (h : isW r = true) :
    Gen.WrapperCollection_At (Gen.WrapperCollection_Add wc r isW) (Gen.WrapperCollection_Len wc) =
      .ok (some r) := by
  unfold Gen.WrapperCollection_Len Gen.WrapperCollection_Add Gen.WrapperCollection_At
  have hlt : (wc.col.length : Int) < (wc.col.length : Int) + 1 := by omega
  simp [h, hlt, List.getD_eq_getElem?_getD]

/-! ### identifiers.go -/

/-- the model's identifier of a translated one -/
def Ident.ofGen (g : Gen.Identifier) : Ident := { id := g.iD, typ := g.type_ }

theorem Gen_NewIdentifiers_map (t : GoString) (ids : List GoString) :
    Gen.NewIdentifiers t ids = ids.map (fun id => ({ iD := id, type_ := t } : Gen.Identifier)) := by
  unfold Gen.NewIdentifiers
  suffices h : ∀ (acc : List Gen.Identifier),
      ids.foldl (fun acc e => acc ++ [({ iD := e, type_ := t } : Gen.Identifier)]) acc =
        acc ++ ids.map (fun id => ({ iD := id, type_ := t } : Gen.Identifier)) by
    simpa using h []
  induction ids with
  | nil => intro acc; simp
  | cons a l ih => intro acc; simp [ih]

/-- `NewIdentifiers`: one identifier of type t per id, in order (a nil and an empty slice of ids
are both `[]` in the translation; the result is never nil) -/
theorem Gen_NewIdentifiers_eq (t : GoString) (ids : List GoString) :
    some ((Gen.NewIdentifiers t ids).map Ident.ofGen) = newIdentifiers t (some ids) := by
  rw [Gen_NewIdentifiers_map]
  simp [newIdentifiers, Ident.ofGen, Function.comp_def]

/-- `Identifiers.IDs`: the ID of every identifier, in order (`ids := make([]string, len(i))`,
then `ids[n] = i[n].ID` for every index: a fold of `List.set` over the indices) -/
theorem Gen_Identifiers_IDs_map (l : List Gen.Identifier) :
    Gen.Identifiers_IDs l = l.map (·.iD) := by
  unfold Gen.Identifiers_IDs
  exact foldl_set_range (fun (g : Gen.Identifier) => g.iD) l [] _

/-- `Identifiers.IDs` is the model's (a nil and an empty slice are both `[]` in the translation; the
result is never nil) -/
theorem Gen_Identifiers_IDs_eq (l : List Gen.Identifier) :
    some (Gen.Identifiers_IDs l) = identIDs (some (l.map Ident.ofGen)) := by
  rw [Gen_Identifiers_IDs_map]
  simp [identIDs, Ident.ofGen, Function.comp_def]

theorem Gen_NewIdentifiers_IDs (t : GoString) (ids : List GoString) :
    Gen.Identifiers_IDs (Gen.NewIdentifiers t ids) = ids := by
  rw [Gen_Identifiers_IDs_map, Gen_NewIdentifiers_map]
  simp [Function.comp_def]

/-! ### meta.go: `Has`, `GetInt` on maps whose values are ints and strings -/

/-- the model's meta value of the translator's `any` (an int or a string) -/
def MetaVal.ofPage : PageVal → MetaVal
  | .int n => .int n
  | .str s => .str s

def MetaMap.ofPage (m : GoMap PageVal) : MetaMap := m.map (fun p => (p.1, MetaVal.ofPage p.2))

theorem MetaMap.get?_ofPage (m : GoMap PageVal) (k : GoString) :
    GoMap.get? (MetaMap.ofPage m) k = (GoMap.get? m k).map MetaVal.ofPage := by
  induction m with
  | nil => rfl
  | cons p m ih =>
    obtain ⟨k', v⟩ := p
    simp only [MetaMap.ofPage, List.map_cons, GoMap.get?]
    by_cases h : k' = k
    · simp [h]
    · simp only [h, if_false]
      exact ih

theorem Gen_Meta_Has_eq (m : GoMap PageVal) (k : GoString) :
    Gen.Meta_Has m k = MetaMap.has (MetaMap.ofPage m) k := by
  unfold Gen.Meta_Has MetaMap.has GoMap.has
  rw [MetaMap.get?_ofPage]
  cases GoMap.get? m k <;> rfl

theorem Gen_Meta_GetInt_eq (m : GoMap PageVal) (k : GoString) :
    Gen.Meta_GetInt m k = MetaMap.getInt (MetaMap.ofPage m) k := by
  unfold Gen.Meta_GetInt MetaMap.getInt MetaMap.index
  rw [MetaMap.get?_ofPage]
  cases h : GoMap.get? m k with
  | none => rfl
  | some v => cases v <;> rfl

end Jsonapi

section Axioms
open Jsonapi
#print axioms Gen_Document_Include_eq
#print axioms Gen_Document_Include_fun
#print axioms Gen_Document_Include_data
#print axioms Gen_Document_Include_step_pairs
#print axioms Gen_Document_Include_step_keys
#print axioms Gen_Document_Include_unique_pairs
#print axioms Gen_Document_Include_unique_gen
#print axioms Gen_Document_Include_unique
#print axioms Gen_Resources_GetType_eq
#print axioms Gen_Resources_Len_eq
#print axioms Gen_Resources_At_eq
#print axioms Gen_Resources_Add_eq
#print axioms Gen_Resources_Len_Add
#print axioms Gen_Resources_At_Add_last
#print axioms Gen_Resources_At_Add_old
#print axioms Gen_WrapperCollection_GetType_eq
#print axioms Gen_WrapperCollection_Len_eq
#print axioms Gen_WrapperCollection_At_eq
#print axioms Gen_WrapperCollection_At_negative
#print axioms Gen_WrapperCollection_Add_eq
#print axioms Gen_WrapperCollection_Len_Add
#print axioms Gen_WrapperCollection_At_Add_last
#print axioms Gen_NewIdentifiers_map
#print axioms Gen_NewIdentifiers_eq
#print axioms Gen_Identifiers_IDs_map
#print axioms Gen_Identifiers_IDs_eq
#print axioms Gen_NewIdentifiers_IDs
#print axioms Gen_Meta_Has_eq
#print axioms Gen_Meta_GetInt_eq
end Axioms
