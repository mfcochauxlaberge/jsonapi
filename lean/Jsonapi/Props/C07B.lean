/-
C07B — C07 from the RAW STRING: `url.Parse` + `Query()` inside the model.

C07 (Props/C07.lean) starts where simple_url.go starts: at `u.Path` and `u.Query()`, delegated
to net/url, so its theorems quantify over every decoded path and every values map. Here the
two are computed from the raw string by `Spec.goUrlParse` (Spec/UrlFull.lean: net/url of
go1.23.5 — control bytes, fragment, scheme, opaque URLs, first-segment colon, authority with
userinfo / host / port / IPv6 literal and zone, path unescaping, `Query()` with ';', '+',
dropped pairs), compared with the real `url.Parse` / `Query()` on the same raw strings by the
suite `urlraw`. `newURLFromRaw σ fdOf raw` (Model/UrlRaw.lean) is `NewURLFromRaw` from the raw
string; `fdOf` is the decode of the `filter` parameter from the values map (any function: the
theorems hold for every decode; `rawFd labelDec (filterDec nc)` is the modelled JSON codec).
-/
import Jsonapi.Props.C07
import Jsonapi.Props.C08F
import Jsonapi.Model.UrlRaw
import Jsonapi.Proofs.UrlFullLemmas
namespace Jsonapi
open UrlL UrlFullL FjL

/-- For every raw string, every schema and every decode of the filter parameter,
`NewURLFromRaw` does not panic: by the `Res` type it returns an error or a URL. -/
theorem C07B_total (σ : Schema) (fdOf : GoMap (List GoString) → FilterDec) (raw : GoString) :
    newURLFromRaw σ fdOf raw ≠ .panic :=
  C07_total σ _

/-- … in particular with the modelled JSON codec of the filter parameter. -/
theorem C07B_total_real (nc : GoString → GoString) (σ : Schema) (raw : GoString) :
    newURLFromRawReal nc σ raw ≠ .panic :=
  C07B_total σ _ raw

/-- A raw string that `url.Parse` rejects gives an error. -/
theorem C07B_parse_error (σ : Schema) (fdOf : GoMap (List GoString) → FilterDec) (raw : GoString)
    (h : Spec.goUrlParse raw = none) : newURLFromRaw σ fdOf raw = .err := by
  unfold newURLFromRaw
  rw [h]
  rfl

/-- `Query()` never lists a key twice. -/
theorem C07B_values_nodup (raw path : GoString) (values : GoMap (List GoString))
    (h : Spec.goUrlParse raw = some (path, values)) : values.keys.Nodup := by
  unfold Spec.goUrlParse at h
  split at h
  · cases h
  · split at h
    · cases h
      exact goParseQuery_keys_nodup _
    · cases h

/-- A returned URL comes from a raw string `url.Parse` accepts; it is what Model/Url.lean's
`newURLFrom` returns on the decoded path and the values map, whose keys are unique. -/
theorem C07B_parsed (σ : Schema) (fdOf : GoMap (List GoString) → FilterDec) (raw : GoString)
    (u : URL) (h : newURLFromRaw σ fdOf raw = .ok u) :
    ∃ path values, Spec.goUrlParse raw = some (path, values) ∧ values.keys.Nodup ∧
      newURLFrom σ (some (path, values, fdOf values)) = .ok u := by
  unfold newURLFromRaw at h
  cases hp : Spec.goUrlParse raw with
  | none => rw [hp] at h; cases h
  | some pv =>
    obtain ⟨path, values⟩ := pv
    rw [hp] at h
    exact ⟨path, values, rfl, C07B_values_nodup raw path values hp, h⟩

/-- A URL returned for a raw string is consistent with the schema: its resource type exists;
every field-selection entry names a schema type and lists distinct names that are `id` or
fields of the type, one entry per type, all of the type's fields when the request names no
valid one; every inclusion path is a non-empty chain of schema relationships from the
resource type, and a requested path that resolves is kept unless a longer requested path
extends it; for a collection URL the sorting rules start with the caller's valid rules in
order, every rule is `id` or an attribute (after an optional '-'), and `id` is there. The
requests are read off `values`, the `Query()` of the raw string. -/
theorem C07B_consistent (σ : Schema) (hσ : Inv σ) (fdOf : GoMap (List GoString) → FilterDec)
    (raw : GoString) (u : URL) (h : newURLFromRaw σ fdOf raw = .ok u) :
    ∃ path values, Spec.goUrlParse raw = some (path, values) ∧
      -- resource type
      σ.hasType u.resType = true ∧
      -- field selections
      (∀ t fs, u.params.fields.get? t = some fs →
        σ.hasType t = true ∧ (∀ f ∈ fs, f = idName ∨ f ∈ (σ.getType t).fields) ∧ fs.Nodup) ∧
      u.params.fields.keys.Nodup ∧
      (∀ t fs, u.params.fields.get? t = some fs →
        (∀ vs, (Spec.fieldsName t, vs) ∈ values →
          ∀ f ∈ parseCommaList (firstVal vs), f ≠ idName ∧ f ∉ (σ.getType t).fields) →
        fs = (σ.getType t).fields) ∧
      -- inclusion paths
      (∀ p ∈ u.params.incl, p ≠ [] ∧ Spec.validChain σ u.resType p = true) ∧
      (∀ q ∈ Spec.requestedIncludes values, ∀ rels,
        resolvePath σ u.resType (splitOn 46 q) = some rels →
        rels ∈ u.params.incl ∨
          ∃ q' ∈ Spec.requestedIncludes values, hasPrefix q' (q ++ [46]) = true) ∧
      -- sorting rules of a collection URL
      (u.isCol = true →
        Spec.validRules σ u.resType (Spec.requestedRules values) <+: u.params.sortingRules ∧
        (∀ rule ∈ u.params.sortingRules,
          rule ∈ (σ.getType u.resType).attrs.vals.map (·.name) ∨ Spec.stripDash rule = idName ∨
          Spec.stripDash rule ∈ (σ.getType u.resType).attrs.vals.map (·.name)) ∧
        (∃ rule ∈ u.params.sortingRules, Spec.stripDash rule = idName)) := by
  obtain ⟨path, values, hp, _, hu⟩ := C07B_parsed σ fdOf raw u h
  have hf := C07_fields σ hσ _ u hu
  exact ⟨path, values, hp, C07_restype σ hσ _ u hu, hf.1, hf.2,
    fun t fs hget hreq => C07_fields_default σ path values _ u hu t fs hget hreq,
    C07_include_valid σ hσ _ u hu,
    fun q hq rels hr => C07_include_kept σ path values _ u hu q hq rels hr,
    fun hcol => C07_sort σ path values _ u hu hcol⟩

/-- `C07_sort_names` from the raw string: when no attribute name of the type starts with '-',
every sorting rule of a collection URL names (after an optional '-') `id` or an attribute. -/
theorem C07B_sort_names (σ : Schema) (fdOf : GoMap (List GoString) → FilterDec) (raw : GoString)
    (u : URL) (h : newURLFromRaw σ fdOf raw = .ok u) (hcol : u.isCol = true)
    (hdash : ∀ a ∈ (σ.getType u.resType).attrs.vals.map (·.name), a.head? ≠ some 45) :
    ∀ rule ∈ u.params.sortingRules, Spec.stripDash rule = idName ∨
      Spec.stripDash rule ∈ (σ.getType u.resType).attrs.vals.map (·.name) := by
  obtain ⟨path, values, _, _, hu⟩ := C07B_parsed σ fdOf raw u h
  exact C07_sort_names σ path values _ u hu hcol hdash

/-- The model lists `Query()`'s keys in order of first occurrence; the Go map is ranged over
in any order. It does not matter: for every reordering `values'` of the values map of a raw
string, `NewSimpleURL`/`NewURL` succeed or fail alike, and two URLs differ at most in the
association-list order of their field and page maps — `String()` is the same. -/
theorem C07B_order_independent (σ : Schema) (fd : FilterDec) (raw path : GoString)
    (values values' : GoMap (List GoString)) (hp : Spec.goUrlParse raw = some (path, values))
    (hperm : values.Perm values') :
    (newURLFrom σ (some (path, values, fd))).isOk = (newURLFrom σ (some (path, values', fd))).isOk ∧
    ∀ u₁ u₂, newURLFrom σ (some (path, values, fd)) = .ok u₁ →
      newURLFrom σ (some (path, values', fd)) = .ok u₂ →
      u₁.fragments = u₂.fragments ∧ u₁.isCol = u₂.isCol ∧ u₁.resType = u₂.resType ∧
      u₁.resID = u₂.resID ∧ u₁.rel = u₂.rel ∧
      u₁.params.sortingRules = u₂.params.sortingRules ∧
      u₁.params.filterLabel = u₂.params.filterLabel ∧ u₁.params.filter = u₂.params.filter ∧
      u₁.params.incl = u₂.params.incl ∧
      (∀ t, u₁.params.fields.get? t = u₂.params.fields.get? t) ∧
      (∀ k, u₁.params.page.get? k = u₂.params.page.get? k) ∧
      ∀ env, u₁.string env = u₂.string env := by
  have hnd := C07B_values_nodup raw path values hp
  refine ⟨C07_order_independent_isOk σ path values values' fd hperm hnd, ?_⟩
  intro u₁ u₂ h₁ h₂
  have := C07_order_independent σ path values values' fd hperm hnd u₁ u₂ h₁ h₂
  exact ⟨this.1, this.2.1, this.2.2.1, this.2.2.2.1, this.2.2.2.2.1, this.2.2.2.2.2.1,
    this.2.2.2.2.2.2.1, this.2.2.2.2.2.2.2.1, this.2.2.2.2.2.2.2.2.1, this.2.2.2.2.2.2.2.2.2.1,
    this.2.2.2.2.2.2.2.2.2.2.1, this.2.2.2.2.2.2.2.2.2.2.2.2.2.2.2⟩

/-! ### the full parser extends the parser of `String()`'s grammar -/

/-- On a plain reference — no control byte, no '#', no ':' before the first '/' or '?', no
`//authority` (three slashes are a path), no ';' in the query — `url.Parse` + `Query()` are
`Spec.parseRaw`: the path is the text before the first '?', unescaped; the query is split on
'&' and '=' and unescaped. (`Spec.parseRaw` itself accepts every string whose path unescapes;
outside `plainRef` it is not net/url: `C07B_parseRaw_differs`.) -/
theorem C07B_extends_parseRaw (s : GoString) (h : Spec.plainRef s = true) :
    Spec.goUrlParse s = Spec.parseRaw s :=
  goUrlParse_plain s h

/-- Hence `NewURLFromRaw` on a plain reference is C08's re-parse: `newURLFrom` on what
`Spec.parseRaw` returns. -/
theorem C07B_raw_eq_reparse (σ : Schema) (fdOf : GoMap (List GoString) → FilterDec) (s : GoString)
    (h : Spec.plainRef s = true) :
    newURLFromRaw σ fdOf s = newURLFrom σ ((Spec.parseRaw s).map (fun p => (p.1, p.2, fdOf p.2))) := by
  unfold newURLFromRaw
  rw [C07B_extends_parseRaw s h]

theorem C07B_rawFd_eq (labelDec filterDec : GoString → Option GoString)
    (values : GoMap (List GoString)) :
    rawFd labelDec filterDec values = c08_reparseFd labelDec filterDec values := rfl

/-- Each condition of `plainRef` is needed: `a:b` (opaque: empty path), `//h/p` (the host is
not part of the path), `/p?a=1;b=2` (the piece is dropped), `/p#f` (the fragment is cut off),
and a control byte (rejected) are read differently by `Spec.parseRaw`. -/
theorem C07B_parseRaw_differs :
    Spec.goUrlParse [97, 58, 98] = some ([], []) ∧ Spec.parseRaw [97, 58, 98] = some ([97, 58, 98], []) ∧
    Spec.goUrlParse [47, 47, 104, 47, 112] = some ([47, 112], []) ∧
    Spec.parseRaw [47, 47, 104, 47, 112] = some ([47, 47, 104, 47, 112], []) ∧
    Spec.goUrlParse [47, 112, 63, 97, 61, 49, 59, 98, 61, 50] = some ([47, 112], []) ∧
    Spec.parseRaw [47, 112, 63, 97, 61, 49, 59, 98, 61, 50] = some ([47, 112], [([97], [[49, 59, 98, 61, 50]])]) ∧
    Spec.goUrlParse [47, 112, 35, 102] = some ([47, 112], []) ∧
    Spec.parseRaw [47, 112, 35, 102] = some ([47, 112, 35, 102], []) ∧
    Spec.goUrlParse [47, 112, 1] = none ∧ Spec.parseRaw [47, 112, 1] = some ([47, 112, 1], []) := by
  refine ⟨?_, ?_, ?_, ?_, ?_, ?_, ?_, ?_, ?_, ?_⟩ <;> decide +kernel

/-! ### `String()` is read by the full parser as C08 says -/

/-- the fragments of a parsed URL are not empty (`parseFragments` drops empty items) -/
theorem C07B_fragments_nonempty (σ : Schema) (path : GoString) (values : GoMap (List GoString))
    (fd : FilterDec) (u : URL) (h : newURLFrom σ (some (path, values, fd)) = .ok u) :
    [] ∉ u.fragments := by
  obtain ⟨path', values', fd', su, hpar, hsu, hu⟩ := newURLFrom_ok σ _ u h
  cases hpar
  obtain ⟨_, _, _, _, hfr, _⟩ := (newURL_parts hu).2
  rw [hfr, newSimpleURL_fragments hsu]
  intro hm
  unfold parseFragments at hm
  have := (List.mem_filter.1 hm).2
  simp at this

/-- Everything `URL.String()` writes for a URL without an empty fragment is a plain
reference: no control byte, '#' or ';', one leading '/', no scheme, no authority. -/
theorem C07B_string_plainRef (u : URL) (env : StringEnv) (hfr : [] ∉ u.fragments) :
    Spec.plainRef (u.string env) = true :=
  string_plainRef u env hfr

/-- `C08_parse_string` for the full parser: `url.Parse` + `Query()` of `u.String()` are the
path `"/" + join(fragments, "/")` and exactly the emitted parameters, one value each. -/
theorem C07B_parse_string (u : URL) (env : StringEnv) (hne : NoEmptySelection u)
    (hfr : [] ∉ u.fragments) (hfk : u.params.fields.keys.Nodup)
    (hpk : u.isCol = true → u.params.page.keys.Nodup) :
    Spec.goUrlParse (u.string env) = some (Spec.emittedPath u, Spec.emittedValues u env) := by
  rw [C07B_extends_parseRaw _ (C07B_string_plainRef u env hfr)]
  exact Esc.parse_string u env hne hfk hpk

/-- C08's re-parse theorem through the full parser and the modelled JSON codec, from raw
string to raw string: if `NewURLFromRaw(raw)` returns `u`, then `NewURLFromRaw(u.String())`
returns a URL with the same fragments, resource type and ID, relationship, field selection
(as sets), sorting rules, page parameters (collection URLs), filter label and filter, and the
same `String()`. Hypotheses as in `C08F_reparse_real`: schema invariant, member names, no
empty field selection (known finding C08-type-without-fields), a label whose JSON body does
not start with '{' (`C07G_reparse` in Props/C08G.lean is this theorem without that last
hypothesis). -/
theorem C07B_reparse (nc : GoString → GoString) (hnc : NumCanonLaws nc) (σ : Schema)
    (raw : GoString) (u : URL) (hσ : Inv σ) (hn : NamesOK σ)
    (h : newURLFromRawReal nc σ raw = .ok u) (hne : NoEmptySelection u)
    (hbrace : u.params.filterLabel ≠ [] → (labelBody u.params.filterLabel).head? ≠ some 123) :
    ∃ u', newURLFromRawReal nc σ (u.string (c08_env labelBody u)) = .ok u' ∧
      u'.fragments = u.fragments ∧ u'.resType = u.resType ∧ u'.resID = u.resID ∧
      u'.rel = u.rel ∧ u'.isCol = u.isCol ∧
      (∀ t, (u'.params.fields.get? t).map Typ.sortStrings =
            (u.params.fields.get? t).map Typ.sortStrings) ∧
      u'.params.sortingRules = u.params.sortingRules ∧
      (u.isCol = true → ∀ k, u'.params.page.get? k = u.params.page.get? k) ∧
      u'.params.filterLabel = u.params.filterLabel ∧ u'.params.filter = u.params.filter ∧
      u'.string (c08_env labelBody u') = u.string (c08_env labelBody u) := by
  obtain ⟨path, values, _, hnd, hu⟩ := C07B_parsed σ _ raw u h
  rw [C07B_rawFd_eq] at hu
  obtain ⟨u', hparse, hu', rest⟩ := C08F_reparse_real nc hnc σ path values u hσ hn hu hnd hne hbrace
  refine ⟨u', ?_, rest⟩
  have hfr := C07B_fragments_nonempty σ path values _ u hu
  unfold newURLFromRawReal newURLFromRaw
  rw [C07B_extends_parseRaw _ (C07B_string_plainRef u _ hfr), hparse]
  exact hu'

/-! ### `Query()` -/

/-- `Query()` of an accepted raw string is the list of its `&`-separated pieces that are kept
(non-empty, without ';', key and value unescape), decoded, grouped by key in order. -/
theorem C07B_query_spec (q : GoString) :
    Spec.goParseQuery q = Spec.groupPairs ((splitOn 38 q).filterMap Spec.pairEntry) :=
  goParseQuery_eq_group q

/-- Permuting the `&`-separated pieces of a query whose kept pieces have pairwise different
decoded names permutes the entries of the values map (each `name ↦ [value]`) and changes
nothing else. -/
theorem C07B_order (ps₁ ps₂ : List GoString) (hp : ps₁.Perm ps₂) (hne : ps₁ ≠ [])
    (hamp : ∀ p ∈ ps₁, (38 : UInt8) ∉ p)
    (hd : ((ps₁.filterMap Spec.pairEntry).map (·.1)).Nodup) :
    (Spec.goParseQuery (joinWith [38] ps₁)).Perm (Spec.goParseQuery (joinWith [38] ps₂)) :=
  goParseQuery_perm ps₁ ps₂ hp hne hamp hd

/-- The same at the level of the raw string `pre?p₁&…&pₙ` (no '#'): permuting differently
named pieces changes neither whether `url.Parse` accepts the string nor the path, and permutes
the values map. -/
theorem C07B_order_url (pre : GoString) (ps₁ ps₂ : List GoString) (hperm : ps₁.Perm ps₂)
    (hne : ps₁ ≠ []) (hamp : ∀ p ∈ ps₁, (38 : UInt8) ∉ p) (hhash : ∀ p ∈ ps₁, (35 : UInt8) ∉ p)
    (hd : ((ps₁.filterMap Spec.pairEntry).map (·.1)).Nodup)
    (h63 : (63 : UInt8) ∉ pre) (h35 : (35 : UInt8) ∉ pre) :
    (Spec.goUrlParse (pre ++ 63 :: joinWith [38] ps₁) = none ∧
      Spec.goUrlParse (pre ++ 63 :: joinWith [38] ps₂) = none) ∨
    ∃ path v₁ v₂, Spec.goUrlParse (pre ++ 63 :: joinWith [38] ps₁) = some (path, v₁) ∧
      Spec.goUrlParse (pre ++ 63 :: joinWith [38] ps₂) = some (path, v₂) ∧ v₁.Perm v₂ :=
  goUrlParse_perm pre ps₁ ps₂ hperm hne hamp hhash hd h63 h35

/-- the decode of the filter parameter reads the values map by lookup only -/
theorem C07B_rawFd_perm (labelDec filterDec : GoString → Option GoString)
    (v v' : GoMap (List GoString)) (hp : v.Perm v') (hnd : v.keys.Nodup) :
    rawFd labelDec filterDec v = rawFd labelDec filterDec v' := by
  unfold rawFd
  rw [DetL.get?_eq_of_perm hp hnd sFilter]

/-- End to end, from raw string to raw string: `NewURLFromRaw` on `pre?p₁&…&pₙ` and on the
same string with its differently named pieces permuted succeed or fail alike, and two
returned URLs have the same `String()` (for every decode of the filter parameter that reads
the values map by lookup, e.g. `rawFd`). -/
theorem C07B_raw_order (σ : Schema) (fdOf : GoMap (List GoString) → FilterDec)
    (hfd : ∀ v v' : GoMap (List GoString), v.Perm v' → v.keys.Nodup → fdOf v = fdOf v')
    (pre : GoString) (ps₁ ps₂ : List GoString) (hperm : ps₁.Perm ps₂)
    (hne : ps₁ ≠ []) (hamp : ∀ p ∈ ps₁, (38 : UInt8) ∉ p) (hhash : ∀ p ∈ ps₁, (35 : UInt8) ∉ p)
    (hd : ((ps₁.filterMap Spec.pairEntry).map (·.1)).Nodup)
    (h63 : (63 : UInt8) ∉ pre) (h35 : (35 : UInt8) ∉ pre) :
    (newURLFromRaw σ fdOf (pre ++ 63 :: joinWith [38] ps₁)).isOk =
      (newURLFromRaw σ fdOf (pre ++ 63 :: joinWith [38] ps₂)).isOk ∧
    ∀ u₁ u₂, newURLFromRaw σ fdOf (pre ++ 63 :: joinWith [38] ps₁) = .ok u₁ →
      newURLFromRaw σ fdOf (pre ++ 63 :: joinWith [38] ps₂) = .ok u₂ →
      u₁.fragments = u₂.fragments ∧ u₁.isCol = u₂.isCol ∧ u₁.resType = u₂.resType ∧
      u₁.resID = u₂.resID ∧ u₁.rel = u₂.rel ∧
      u₁.params.sortingRules = u₂.params.sortingRules ∧ u₁.params.incl = u₂.params.incl ∧
      ∀ env, u₁.string env = u₂.string env := by
  rcases C07B_order_url pre ps₁ ps₂ hperm hne hamp hhash hd h63 h35 with ⟨h1, h2⟩ | ⟨path, v₁, v₂, h1, h2, hp⟩
  · unfold newURLFromRaw
    rw [h1, h2]
    exact ⟨rfl, fun u₁ u₂ h => by cases h⟩
  · have hnd := C07B_values_nodup _ path v₁ h1
    unfold newURLFromRaw
    rw [h1, h2]
    simp only [Option.map_some]
    rw [← hfd v₁ v₂ hp hnd]
    refine ⟨C07_order_independent_isOk σ path v₁ v₂ _ hp hnd, ?_⟩
    intro u₁ u₂ e₁ e₂
    have := C07_order_independent σ path v₁ v₂ _ hp hnd u₁ u₂ e₁ e₂
    exact ⟨this.1, this.2.1, this.2.2.1, this.2.2.2.1, this.2.2.2.2.1, this.2.2.2.2.2.1,
      this.2.2.2.2.2.2.2.2.1, this.2.2.2.2.2.2.2.2.2.2.2.2.2.2.2⟩

/-! ### non-vacuity: concrete raw strings -/

/-- a plain collection URL with escapes in the path and in the query -/
example : Spec.goUrlParse (gs "/as/a%2Fb?sort=-name%2Cid&fields%5Bas%5D=x+y") =
    some (gs "/as/a/b", [(sSort, [gs "-name,id"]), (Spec.fieldsName (gs "as"), [gs "x y"])]) := by
  rw [gs_ofList]; decide +kernel

/-- scheme, userinfo, host and port are validated and dropped; the fragment is cut off -/
example : Spec.goUrlParse (gs "HTTP://u:p@example.com:80/as/1?include=many&include=r#top") =
    some (gs "/as/1", [(sInclude, [gs "many", gs "r"])]) := by
  rw [gs_ofList]; decide +kernel

/-- an IPv6 literal with a zone; an opaque URL keeps its query and has no path -/
example : Spec.goUrlParse (gs "x://[fe80::1%25en0]:8080/p") = some (gs "/p", []) := by
  rw [gs_ofList]; decide +kernel
example : Spec.goUrlParse (gs "mailto:as?sort=id") = some ([], [(sSort, [gs "id"])]) := by
  rw [gs_ofList]; decide +kernel

/-- an invalid escape: in the path (or the host, the userinfo, the fragment) `url.Parse`
fails; in the query only the piece is dropped -/
example : Spec.goUrlParse (gs "/as%zz") = none := by
  rw [gs_ofList]; decide +kernel
example : Spec.goUrlParse (gs "/as#%zz") = none := by
  rw [gs_ofList]; decide +kernel
example : Spec.goUrlParse (gs "//h%41/as") = none := by
  rw [gs_ofList]; decide +kernel
example : Spec.goUrlParse (gs "/as?a=%zz&b=1&%zz=2") = some (gs "/as", [(gs "b", [gs "1"])]) := by
  rw [gs_ofList]; decide +kernel

/-- a piece with a ';' is dropped whole (Go ≥ 1.17), the others are kept -/
example : Spec.goUrlParse (gs "/as?a=1;b=2&c=3") = some (gs "/as", [(gs "c", [gs "3"])]) := by
  rw [gs_ofList]; decide +kernel

/-- a colon in the first segment of a relative reference, a port that is not a number, a
missing ']' and a leading ':' are errors; a control byte is one except in the fragment -/
example : Spec.goUrlParse (gs "1a:b") = none := by
  rw [gs_ofList]; decide +kernel
example : Spec.goUrlParse (gs "//h:80x/as") = none := by
  rw [gs_ofList]; decide +kernel
example : Spec.goUrlParse (gs "//[::1/as") = none := by
  rw [gs_ofList]; decide +kernel
example : Spec.goUrlParse (gs ":as") = none := by
  rw [gs_ofList]; decide +kernel
example : Spec.goUrlParse [47, 97, 115, 9] = none := by decide +kernel
example : Spec.goUrlParse [47, 97, 115, 35, 9] = some (gs "/as", []) := by
  rw [gs_ofList]; decide +kernel

/-- `parse`'s special case `"*"` is the general path -/
example : Spec.goUrlParse (gs "*") = some (gs "*", []) := by
  rw [gs_ofList]; decide +kernel

/-- the whole `NewURLFromRaw` on raw strings, against the schema of Props/C07.lean (one type
"t" with the attribute "-x"): with scheme and host; rejected by net/url; rejected by the
library (unknown parameter) -/
example : (newURLFromRaw c07_σ (rawFd labelDec (filterDec id)) (gs "https://example.com/t?sort=id#f")).isOk
    = true := by
  rw [gs_ofList]; decide +kernel
example : (newURLFromRaw c07_σ (rawFd labelDec (filterDec id)) (gs "/t%zz")).isOk = false := by
  rw [gs_ofList]; decide +kernel
example : (newURLFromRaw c07_σ (rawFd labelDec (filterDec id)) (gs "/t?bogus=1")).isOk = false := by
  rw [gs_ofList]; decide +kernel
/-- … and the dropped piece is not seen by the library: `bogus=1;x` does not make it fail -/
example : (newURLFromRaw c07_σ (rawFd labelDec (filterDec id)) (gs "/t?bogus=1;x")).isOk = true := by
  rw [gs_ofList]; decide +kernel

/-- `plainRef` holds of what `String()` writes and fails with a scheme -/
example : Spec.plainRef (gs "/as?fields%5Bas%5D=x&sort=x%2Cid") = true := by
  rw [gs_ofList]; decide +kernel
example : Spec.plainRef (gs "http://h/as") = false := by
  rw [gs_ofList]; decide +kernel

/-- `C07B_order` applies: `b=2&a=1&c` and a permutation of it -/
example : (Spec.goParseQuery (gs "b=2&a=1&c")).Perm (Spec.goParseQuery (gs "c&b=2&a=1")) := by
  rw [show gs "b=2&a=1&c" = joinWith [38] [gs "b=2", gs "a=1", gs "c"] by decide +kernel,
    show gs "c&b=2&a=1" = joinWith [38] [gs "c", gs "b=2", gs "a=1"] by decide +kernel]
  exact C07B_order _ _ (by decide +kernel) (by decide +kernel) (by decide +kernel) (by decide +kernel)

end Jsonapi

section Axioms
open Jsonapi
#print axioms C07B_total
#print axioms C07B_total_real
#print axioms C07B_parse_error
#print axioms C07B_values_nodup
#print axioms C07B_parsed
#print axioms C07B_consistent
#print axioms C07B_sort_names
#print axioms C07B_order_independent
#print axioms C07B_extends_parseRaw
#print axioms C07B_raw_eq_reparse
#print axioms C07B_rawFd_eq
#print axioms C07B_parseRaw_differs
#print axioms C07B_fragments_nonempty
#print axioms C07B_string_plainRef
#print axioms C07B_parse_string
#print axioms C07B_reparse
#print axioms C07B_query_spec
#print axioms C07B_order
#print axioms C07B_order_url
#print axioms C07B_rawFd_perm
#print axioms C07B_raw_order
end Axioms
