/-
Lemmas for Props/GenC10b.lean and Props/GenC09.lean: the loops of checkBytes and checkSlice as the
translator prints them (stated for any step function with the printed behaviour, so that they
do not depend on the auxiliary matchers of the generated definitions), and the arms of
`Gen.checkVal`. Also two hypotheses of the published theorems: `GoVal.WF` and `CheckValDomain`.
-/
import Jsonapi.Generated.Funcs
import Jsonapi.Proofs.FilterLemmas
import Jsonapi.Proofs.DetLemmas
import Jsonapi.Props.GenC10
namespace Jsonapi
set_option linter.unusedSimpArgs false
set_option linter.unusedVariables false

/-- the byte loop of `checkBytes`: the first position where the two slices differ -/
theorem bytes_mismatch_fold {c : Bool} (a b : List UInt8) (f : Option Bool → Nat → Option Bool)
    (h0 : ∀ i, f none i = if (decide ((a.getD i (0 : UInt8)) ≠ (b.getD i (0 : UInt8)))) then some c else none)
    (h1 : ∀ v i, f (some v) i = some v) :
    (List.range (min a.length b.length)).foldl f none
    = if a.take (min a.length b.length) = b.take (min a.length b.length) then none else some c := by
  induction a generalizing b f with
  | nil => simp
  | cons x a ih =>
    cases b with
    | nil => simp
    | cons y b =>
      simp only [List.length_cons, Nat.succ_min_succ, List.range_succ_eq_map, List.foldl_cons, List.foldl_map,
        List.take_succ_cons]
      rw [h0 0]
      simp only [List.getD_cons_zero]
      by_cases hxy : x = y
      · subst hxy
        simp only [ne_eq, not_true_eq_false, decide_false, Bool.false_eq_true, if_false]
        rw [ih b (fun r i => f r (i + 1)) (fun i => by rw [h0 (i + 1)]; simp only [List.getD_cons_succ]) (fun v i => h1 v (i + 1))]
        simp
      · simp only [ne_eq, hxy, not_false_eq_true, decide_true, if_true]
        rw [foldl_fix]
        · simp [hxy]
        · intro b; exact h1 _ _

theorem take_min_eq_iff (a b : List UInt8) :
    (a.take (min a.length b.length) = b.take (min a.length b.length) ∧ a.length = b.length) ↔ a = b := by
  constructor
  · rintro ⟨h, hl⟩
    rw [← hl, Nat.min_self, List.take_length] at h
    rw [h, hl, List.take_length]
  · rintro rfl; simp



theorem Gen_checkBytes_eq' (op : GoString) (a b : List UInt8) :
    Gen.checkBytes op a b = cmpOps op (a = b) (a < b) (b < a) := by
  unfold Gen.checkBytes
  rw [bytes_mismatch_fold a b _ (fun i => rfl) (fun v i => rfl)]
  rw [bytes_mismatch_fold a b _ (fun i => rfl) (fun v i => rfl)]
  simp only [cmpOps, Op.eq, Op.ne, Op.lt, Op.le, Op.gt, Op.ge]
  have hlen : (((a.length : Int) = (b.length : Int)) ↔ a.length = b.length) := by omega
  have heq : a = b ↔ (a.take (min a.length b.length) = b.take (min a.length b.length) ∧ a.length = b.length) :=
    (take_min_eq_iff a b).symm
  rcases Std.lt_trichotomy a b with h | h | h
  · have h1 : ¬ b < a := fun h' => List.lt_asymm h h'
    have h2 : a ≠ b := fun e => by rw [e] at h; exact List.lt_irrefl _ h
    have h3 : ¬ (a.take (min a.length b.length) = b.take (min a.length b.length) ∧ a.length = b.length) := fun e => h2 (heq.2 e)
    rcases opCases op with rfl | rfl | rfl | rfl | rfl | rfl | ⟨n1, n2, n3, n4, n5, n6⟩ <;> simp [*] <;>
      (split <;> simp_all)
  · subst h
    have h1 : ¬ a < a := List.lt_irrefl _
    rcases opCases op with rfl | rfl | rfl | rfl | rfl | rfl | ⟨n1, n2, n3, n4, n5, n6⟩ <;> simp [*]
  · have h1 : ¬ a < b := fun h' => List.lt_asymm h h'
    have h2 : a ≠ b := fun e => by rw [e] at h; exact List.lt_irrefl _ h
    have h3 : ¬ (a.take (min a.length b.length) = b.take (min a.length b.length) ∧ a.length = b.length) := fun e => h2 (heq.2 e)
    rcases opCases op with rfl | rfl | rfl | rfl | rfl | rfl | ⟨n1, n2, n3, n4, n5, n6⟩ <;> simp [*] <;>
      (split <;> simp_all)



/-- filter.go `checkBytes` (a nil and an empty slice compare alike: the loops and bytes.Compare see
the length and the elements only) -/
theorem Gen_checkBytes_eq (op : GoString) (a b : Option (List UInt8)) :
    cmpPay op (.bs a) (.bs b) = some (Gen.checkBytes op (a.getD []) (b.getD [])) := by
  have ha : Pay.bytesOf a = a.getD [] := by cases a <;> rfl
  have hb : Pay.bytesOf b = b.getD [] := by cases b <;> rfl
  simp only [cmpPay, ha, hb, Gen_checkBytes_eq']

abbrev SliceSt := Bool × Bool × Option (Res Bool)

/-- the element loop of `checkSlice` on two slices of one length: no read is out of range, the
loop stops at the first difference -/
theorem slice_fold (ra cb : List GoString) (f : SliceSt → Nat → SliceSt)
    (hs : ∀ e i y, cb[i]? = some y → f (e, false, none) i =
      if (decide ((ra.getD i ([] : GoString)) ≠ y)) then (false, true, none) else (e, false, none))
    (hb : ∀ e i, f (e, true, none) i = (e, true, none))
    (hl : ra.length = cb.length) :
    (List.range ra.length).foldl f (true, false, none)
      = if ra = cb then (true, false, none) else (false, true, none) := by
  induction ra generalizing cb f with
  | nil =>
    cases cb with
    | nil => simp
    | cons y cb => simp at hl
  | cons x ra ih =>
    cases cb with
    | nil => simp at hl
    | cons y cb =>
      simp only [List.length_cons, List.range_succ_eq_map, List.foldl_cons, List.foldl_map]
      rw [hs true 0 y (by simp)]
      simp only [List.getD_cons_zero]
      by_cases hxy : x = y
      · subst hxy
        simp only [ne_eq, not_true_eq_false, decide_false, Bool.false_eq_true, if_false]
        rw [ih cb (fun r i => f r (i + 1))
          (fun e i y h => by rw [hs e (i + 1) y (by simpa using h)]; simp only [List.getD_cons_succ])
          (fun e i => hb e (i + 1)) (by simpa using hl)]
        simp
      · simp only [ne_eq, hxy, not_false_eq_true, decide_true, if_true]
        rw [foldl_fix]
        · simp [hxy]
        · intro b; exact hb _ _

theorem sortStrings_length (l : List GoString) : (Typ.sortStrings l).length = l.length :=
  (DetL.sortStrings_perm l).length_eq

/-- filter.go `checkSlice`: the translated function never panics (the read `cval[i]`, whose
range the translator cannot establish, is in range because the lengths are equal) and is the
model's -/
theorem Gen_checkSlice_eq (op : GoString) (a b : List GoString) :
    Gen.checkSlice op a b = .ok (checkSlice op a b) := by
  unfold Gen.checkSlice checkSlice
  simp only [Op.eq, Op.ne]
  by_cases hl : a.length = b.length
  · have hl' : ((a.length : Int) = (b.length : Int)) := by omega
    simp only [decide_true, if_true, hl, true_and]
    rw [slice_fold (Typ.sortStrings a) (Typ.sortStrings b) _
      (fun e i y h => by simp only [h, Bool.false_eq_true, if_false])
      (fun e i => rfl)
      (by rw [sortStrings_length, sortStrings_length, hl])]
    by_cases he : Typ.sortStrings a = Typ.sortStrings b
    · simp only [he, if_true]
      rcases opCases op with rfl | rfl | rfl | rfl | rfl | rfl | ⟨n1, n2, n3, n4, n5, n6⟩ <;> simp [*]
    · simp only [he, if_false]
      rcases opCases op with rfl | rfl | rfl | rfl | rfl | rfl | ⟨n1, n2, n3, n4, n5, n6⟩ <;> simp [*]
  · have hl' : ¬ ((a.length : Int) = (b.length : Int)) := by omega
    simp only [hl', decide_false, Bool.false_eq_true, if_false, hl, false_and]
    rcases opCases op with rfl | rfl | rfl | rfl | rfl | rfl | ⟨n1, n2, n3, n4, n5, n6⟩ <;> simp [*]



/-- The GoVal is the image of a Go value: the payload has the shape and the range of its kind. -/
def GoVal.WF : GoVal → Prop
  | .val k p => k.payOk p = true
  | .ptr k (some p) => k.payOk p = true
  | _ => True

/-- The hypothesis of `Gen_checkVal_eq`. When the resource's value is a nil pointer `(*T)(nil)` the
code asserts the type of the filter's value only for `=` and `!=`; for any other operator it returns
false without looking at it, where the model panics on a filter value of another type. -/
def CheckValDomain (op : GoString) (rval cval : GoVal) : Prop :=
  ∀ k, rval = .ptr k none → (∃ p, cval = .ptr k p) ∨ op = Op.eq ∨ op = Op.ne


/-! ### The arms of `Gen.checkVal`

`Gen.checkVal` is a printed `match` with one arm per `case` of the source (28 arms of two shapes,
`case T:` and `case *T:`) whose right-hand sides repeat the type assertion on the filter's value as an
inner `match` on literal patterns. An arm is therefore known once its value on arguments in
constructor form is known, and on such arguments the printed function evaluates: the fields of
`ValArm` and `PtrArm` hold by `rfl` for each arm, and the comparison with the model's `checkVal` is
made once per shape, about variables. -/

/-- The values of kind `K` are the images `c a` of what the arm of `K` binds. -/
def Kind.ReadBy {α : Type} (K : Kind) (c : α → Pay) : Prop := ∀ p, K.payOk p = true → ∃ a, p = c a

theorem Kind.readBy_int {K : Kind} (hK : K.range?.isSome = true) : K.ReadBy Pay.i := by
  intro p h
  cases p with
  | i v => exact ⟨v, rfl⟩
  | _ => simp only [Kind.payOk, decide_eq_true_eq] at h; subst h; cases hK

theorem Kind.readBy_uint {K : Kind} {hi : Int} (hK : K.range? = some (0, hi)) :
    K.ReadBy (fun n : Nat => Pay.i (Int.ofNat n)) := by
  intro p h
  cases p with
  | i v =>
    rw [Kind.payOk, hK] at h
    obtain ⟨n, rfl⟩ := Int.eq_ofNat_of_zero_le (of_decide_eq_true h).1
    exact ⟨n, rfl⟩
  | _ => simp only [Kind.payOk, decide_eq_true_eq] at h; subst h; cases hK

/-- The arm `case T:` of a printed type switch over two values, applied to a value `.val K p` of its own type
and any second value: `G p v`. `r` is what the arm computes from the two values it binds, `pn` its answer when
the assertion `v.(T)` fails. -/
structure ValArm {α β : Type} (K : Kind) (c : α → Pay) (r : α → α → β) (pn : β) (G : Pay → GoVal → β) : Prop where
  same : ∀ a b, G (c a) (.val K (c b)) = r a b
  other : ∀ a v, (∀ b, v ≠ .val K (c b)) → G (c a) v = pn

theorem ValArm.eq {α β : Type} {K : Kind} {c : α → Pay} {r : α → α → β} {pn : β} {G : Pay → GoVal → β}
    (arm : ValArm K c r pn G) (hK : K.ReadBy c) (m : Pay → Pay → β) (hr : ∀ a b, m (c a) (c b) = r a b)
    (v : GoVal) (hv : v.WF) (p : Pay) (hp : K.payOk p = true) :
    G p v = match (generalizing := false) v with | .val k' p' => if K = k' then m p p' else pn | _ => pn := by
  obtain ⟨a, rfl⟩ := hK p hp
  by_cases h : ∃ b, v = .val K (c b)
  · obtain ⟨b, rfl⟩ := h
    simp only [if_true, hr, arm.same]
  · rw [arm.other a v (fun b e => h ⟨b, e⟩)]
    cases v with
    | val k' p' =>
      by_cases hk : K = k'
      · subst hk
        obtain ⟨b, rfl⟩ := hK p' hv
        exact absurd ⟨b, rfl⟩ h
      · simp only [hk, if_false]
    | _ => rfl

/-- The arm `case *T:`, applied to a pointer `.ptr K p` of its own type and any second value. `nn`, `ns`, `sn`
are its answers when one of the two pointers is nil, `r s` what it computes from two non-nil ones (`s`: whether
they are the same pointer, which the model of values does not say), `pnN` / `pn` its answers with a nil /
non-nil first pointer when the assertion `v.(*T)` fails. -/
structure PtrArm {α β : Type} (K : Kind) (c : α → Pay) (nn ns sn : β) (r : Bool → α → α → β) (pnN pn : β)
    (G : Option Pay → GoVal → β) : Prop where
  nilNil : G none (.ptr K none) = nn
  nilSome : ∀ b, G none (.ptr K (some (c b))) = ns
  someNil : ∀ a, G (some (c a)) (.ptr K none) = sn
  someSome : ∀ a b, ∃ s, G (some (c a)) (.ptr K (some (c b))) = r s a b
  nilOther : ∀ v, (∀ q, v ≠ .ptr K q) → G none v = pnN
  someOther : ∀ a v, (∀ q, v ≠ .ptr K q) → G (some (c a)) v = pn

theorem PtrArm.eq {α β : Type} {K : Kind} {c : α → Pay} {nn ns sn : β} {r : Bool → α → α → β} {pnN pn : β}
    {G : Option Pay → GoVal → β} (arm : PtrArm K c nn ns sn r pnN pn G) (hK : K.ReadBy c)
    (m : Pay → Pay → β) (hr : ∀ s a b, m (c a) (c b) = r s a b)
    (v : GoVal) (hv : v.WF) (p : Option Pay) (hp : (GoVal.ptr K p).WF)
    (hN : p = none → (∀ q, v ≠ .ptr K q) → pnN = pn) :
    G p v = match (generalizing := false) v with
      | .ptr k' q => if K ≠ k' then pn else
        (match (generalizing := false) p, q with
        | none, none => nn
        | none, some _ => ns
        | some _, none => sn
        | some a, some b => m a b)
      | _ => pn := by
  by_cases h : ∃ q, v = .ptr K q
  · obtain ⟨q, rfl⟩ := h
    simp only [ne_eq, not_true_eq_false, if_false]
    cases p with
    | none =>
      cases q with
      | none => exact arm.nilNil
      | some q => obtain ⟨b, rfl⟩ := hK q hv; exact arm.nilSome b
    | some p =>
      obtain ⟨a, rfl⟩ := hK p hp
      cases q with
      | none => exact arm.someNil a
      | some q =>
        obtain ⟨b, rfl⟩ := hK q hv
        obtain ⟨s, hs⟩ := arm.someSome a b
        rw [hs]; exact (hr s a b).symm
  · have hq : ∀ q, v ≠ .ptr K q := fun q e => h ⟨q, e⟩
    have hG : G p v = pn := by
      cases p with
      | none => rw [arm.nilOther v hq, hN rfl hq]
      | some p => obtain ⟨a, rfl⟩ := hK p hp; exact arm.someOther a v hq
    rw [hG]
    cases v with
    | ptr k' q =>
      by_cases hk : K = k'
      · subst hk; exact absurd rfl (hq q)
      · simp only [ne_eq, hk, not_false_eq_true, if_true]
    | _ => rfl

/-- the usual case: the arm asserts the type of the second value whatever the first -/
theorem PtrArm.eq_of_assert {α β : Type} {K : Kind} {c : α → Pay} {nn ns sn : β} {r : Bool → α → α → β} {pn : β}
    {G : Option Pay → GoVal → β} (arm : PtrArm K c nn ns sn r pn pn G) (hK : K.ReadBy c)
    (m : Pay → Pay → β) (hr : ∀ s a b, m (c a) (c b) = r s a b)
    (v : GoVal) (hv : v.WF) (p : Option Pay) (hp : (GoVal.ptr K p).WF) :
    G p v = match (generalizing := false) v with
      | .ptr k' q => if K ≠ k' then pn else
        (match (generalizing := false) p, q with
        | none, none => nn
        | none, some _ => ns
        | some _, none => sn
        | some a, some b => m a b)
      | _ => pn :=
  arm.eq hK m hr v hv p hp (fun _ _ => rfl)

/-- `rval == cval` / `rval != cval` in `checkVal` when one of the two pointers is nil (`e`: both are) -/
def nilCmp (op : GoString) (e : Bool) : Res Bool :=
  if (decide (op = ([61] : GoString))) then .ok e
  else if (decide (op = ([33, 61] : GoString))) then .ok (!e)
  else .ok false

theorem nilCmp_eq (op : GoString) : nilCmp op true = .ok (if op = Op.eq then true else false) ∧
    nilCmp op false = .ok (if op = Op.ne then true else false) := by
  rcases opCases op with rfl | rfl | rfl | rfl | rfl | rfl | ⟨n1, n2, n3, n4, n5, n6⟩ <;> simp [nilCmp, Op.eq, Op.ne, *]

/-- How the source reads and compares the values of kind `K`: what the arms `case T:` and `case *T:` bind, and
the helper they call. -/
structure KindCmp (K : Kind) where
  α : Type
  deq : DecidableEq α
  c : α → Pay
  r : GoString → α → α → Bool
  readBy : K.ReadBy c
  r_eq : ∀ op a b, cmpPay op (c a) (c b) = some (r op a b)

def KindCmp.int {K : Kind} (hK : K.range?.isSome = true) : KindCmp K :=
  ⟨Int, inferInstance, Pay.i, Gen.checkInt, Kind.readBy_int hK, Gen_checkInt_eq⟩

def KindCmp.uint {K : Kind} {hi : Int} (hK : K.range? = some (0, hi)) : KindCmp K :=
  ⟨Nat, inferInstance, fun n => Pay.i (Int.ofNat n), Gen.checkUint, Kind.readBy_uint hK, Gen_checkUint_eq⟩

/-- filter.go `checkVal`: which helper compares which kind -/
def kindCmp : (K : Kind) → KindCmp K
  | .string => ⟨GoString, inferInstance, Pay.s, Gen.checkStr, (fun p h => by cases p <;> first | exact ⟨_, rfl⟩ | cases h), Gen_checkStr_eq⟩
  | .int => .int rfl | .int8 => .int rfl | .int16 => .int rfl | .int32 => .int rfl | .int64 => .int rfl
  | .uint => .uint rfl | .uint8 => .uint rfl | .uint16 => .uint rfl | .uint32 => .uint rfl | .uint64 => .uint rfl
  | .bool => ⟨Bool, inferInstance, Pay.b, Gen.checkBool, (fun p h => by cases p <;> first | exact ⟨_, rfl⟩ | cases h), Gen_checkBool_eq⟩
  | .time => ⟨Time, inferInstance, Pay.t, Gen.checkTime, (fun p h => by cases p <;> first | exact ⟨_, rfl⟩ | cases h), Gen_checkTime_eq⟩
  | .bytes => ⟨Option (List UInt8), inferInstance, Pay.bs, fun op a b => Gen.checkBytes op (a.getD []) (b.getD []),
      (fun p h => by cases p <;> first | exact ⟨_, rfl⟩ | cases h), Gen_checkBytes_eq⟩

set_option hygiene false in
/-- Closes `G … v = pn` where `hv` says that `v` is not of the arm's own form (`ValArm.other`, `PtrArm.nilOther`,
`PtrArm.someOther`): `G` is a printed `match` on literal patterns, so it evaluates on every constructor form of
`v`; the forms that `hv` excludes are the contradictions. -/
macro "eval_other_forms" : tactic => `(tactic| (
  cases v with
  | val k' p' =>
    first
    | rfl
    | (cases k' <;> first
        | rfl
        | (cases p' <;> first
            | rfl
            | exact absurd rfl (hv _)
            | (rename_i z; cases z <;> first | rfl | exact absurd rfl (hv _))))
  | ptr k' q => first | rfl | (cases k' <;> first | rfl | exact absurd rfl (hv _))
  | _ => rfl))

/-- Every arm of the printed `checkVal` has the shape `ValArm` / `PtrArm` with the helper of its kind: the arm
evaluates on each constructor form of the filter's value. With a nil pointer the source asserts the type of
the filter's value only under `=` and `!=`. -/
theorem Gen_checkVal_valArm (same' : Nat → List Nat → Bool) (op : GoString) (K : Kind) :
    ValArm K (kindCmp K).c (fun a b => .ok ((kindCmp K).r op a b)) .panic
      (fun p v => Gen.checkVal op (.val K p) v same') := by
  cases K <;> refine ⟨fun _ _ => rfl, fun a v hv => ?_⟩ <;> eval_other_forms

theorem Gen_checkVal_ptrArm (same' : Nat → List Nat → Bool) (op : GoString) (K : Kind) :
    PtrArm K (kindCmp K).c (nilCmp op true) (nilCmp op false) (nilCmp op false)
      (fun _ a b => .ok ((kindCmp K).r op a b))
      (if (decide (op = ([61] : GoString))) then .panic else if (decide (op = ([33, 61] : GoString))) then .panic else .ok false)
      .panic (fun p v => Gen.checkVal op (.ptr K p) v same') := by
  cases K <;> refine ⟨rfl, fun _ => rfl, fun _ => rfl, fun _ _ => ⟨true, rfl⟩, fun v hv => ?_, fun a v hv => ?_⟩ <;>
    eval_other_forms

end Jsonapi
