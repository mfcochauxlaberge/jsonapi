/-
The rendered text of a JSON tree is valid JSON denoting exactly that tree:
`Spec.parseJson t.render = some t` for every tree whose number literals match the JSON
number grammar (`parseJson_render`), hence rendering is injective on such trees
(`render_injective`); the integer literals the model emits match the grammar
(`printInt_numOk`).
-/
import Jsonapi.Model.JsonText
import Jsonapi.Spec.JsonFull
import Jsonapi.Proofs.RoundTripLemmas
namespace Jsonapi
open Spec

theorem Json.numsOkList_iff (l : List Json) :
    Json.numsOkList l = true ↔ ∀ v ∈ l, v.numsOk = true := by
  induction l with
  | nil => simp [Json.numsOkList]
  | cons v vs ih => simp only [Json.numsOkList, Bool.and_eq_true, ih, List.forall_mem_cons]

theorem Json.numsOkMembers_iff (ms : List (GoString × Json)) :
    Json.numsOkMembers ms = true ↔ ∀ p ∈ ms, p.2.numsOk = true := by
  induction ms with
  | nil => simp [Json.numsOkMembers]
  | cons m ms ih => simp only [Json.numsOkMembers, Bool.and_eq_true, ih, List.forall_mem_cons]

namespace JsonL

/-! ### numbers -/

theorem isNumByte_of_isDigit (c : UInt8) (h : isDigit c = true) : isNumByte c = true := by
  simp [isNumByte, h]

/-- the next input byte cannot extend a number token -/
def numStop : GoString → Bool
  | [] => true
  | c :: _ => !isNumByte c

theorem all_isNumByte_of_digits (l : GoString) (h : l.all isDigit = true) :
    l.all isNumByte = true := by
  rw [List.all_eq_true] at h ⊢
  exact fun a ha => isNumByte_of_isDigit a (h a ha)

theorem all_of_dropDigits (l : GoString) (h : (l.dropWhile isDigit).all isNumByte = true) :
    l.all isNumByte = true := by
  rw [← List.takeWhile_append_dropWhile (p := isDigit) (l := l), List.all_append, h, Bool.and_true]
  exact all_isNumByte_of_digits _ List.all_takeWhile

theorem expPartOk_all (s : GoString) (h : expPartOk s = true) : s.all isNumByte = true := by
  cases s with
  | nil => rfl
  | cons e t =>
    simp only [expPartOk, Bool.and_eq_true, decide_eq_true_eq] at h
    obtain ⟨he, _, hd⟩ := h
    have ht : t.all isNumByte = true := by
      have hd := all_isNumByte_of_digits _ hd
      cases t with
      | nil => rfl
      | cons c u =>
        simp only [dropSign] at hd
        split at hd
        · rename_i hc
          rw [List.all_cons, hd, Bool.and_true]
          rcases hc with rfl | rfl <;> rfl
        · exact hd
    rw [List.all_cons, ht, Bool.and_true]
    rcases he with rfl | rfl <;> rfl

theorem fracPartOk_all (s : GoString) (h : fracPartOk s = true) : s.all isNumByte = true := by
  cases s with
  | nil => rfl
  | cons c t =>
    simp only [fracPartOk] at h
    split at h
    · rename_i hc
      rw [Bool.and_eq_true] at h
      rw [List.all_cons, all_of_dropDigits t (expPartOk_all _ h.2), hc]; rfl
    · exact expPartOk_all _ h

theorem intPartOk_all (s : GoString) (h : intPartOk s = true) : s.all isNumByte = true := by
  cases s with
  | nil => rfl
  | cons c t =>
    simp only [intPartOk] at h
    split at h
    · rename_i hc
      rw [List.all_cons, fracPartOk_all _ h, hc]; rfl
    · split at h
      · rename_i hd
        rw [List.all_cons, all_of_dropDigits t (fracPartOk_all _ h), isNumByte_of_isDigit c hd]; rfl
      · cases h

theorem numOk_all (s : GoString) (h : numOk s = true) : s.all isNumByte = true := by
  cases s with
  | nil => rfl
  | cons c t =>
    simp only [numOk] at h
    split at h
    · rename_i hc
      rw [List.all_cons, intPartOk_all _ h, hc]; rfl
    · exact intPartOk_all _ h

theorem span_numOk (lit r : GoString) (h : numOk lit = true) (hr : numStop r = true) :
    (lit ++ r).takeWhile isNumByte = lit ∧ (lit ++ r).dropWhile isNumByte = r := by
  have hall := List.all_eq_true.1 (numOk_all lit h)
  rw [List.takeWhile_append_of_pos hall, List.dropWhile_append_of_pos hall]
  cases r with
  | nil => simp
  | cons c t =>
    have hc : ¬ isNumByte c = true := by simpa [numStop] using hr
    rw [List.takeWhile_cons_of_neg hc, List.dropWhile_cons_of_neg hc, List.append_nil]
    exact ⟨rfl, rfl⟩

theorem dropWhile_of_all {α : Type} (p : α → Bool) (l : List α) (h : l.all p = true) :
    l.dropWhile p = [] := by
  induction l with
  | nil => rfl
  | cons a t ih =>
    rw [List.all_cons, Bool.and_eq_true] at h
    rw [List.dropWhile_cons_of_pos h.1, ih h.2]

theorem printNat_head_ne_zero (n : Nat) (hn : n ≠ 0) :
    ∃ c r, printNat n = c :: r ∧ c ≠ 48 := by
  fun_induction printNat n with
  | case1 n h =>
    refine ⟨_, _, rfl, fun e => ?_⟩
    have h1 := RtL.digitChar_toNat n
    rw [e] at h1
    have h2 : (48 : UInt8).toNat = 48 := rfl
    omega
  | case2 n h ih =>
    obtain ⟨c, r, hc, hne⟩ := ih (by omega)
    exact ⟨c, r ++ [digitChar (n % 10)], by rw [hc]; rfl, hne⟩

theorem intPartOk_printNat (n : Nat) : intPartOk (printNat n) = true := by
  by_cases hn : n = 0
  · rw [hn, RtL.printNat_lt 0 (by omega)]; decide
  · obtain ⟨c, r, hc, hne⟩ := printNat_head_ne_zero n hn
    have hall := RtL.printNat_all_digit n
    rw [hc, List.all_cons, Bool.and_eq_true] at hall
    rw [hc, intPartOk, if_neg hne, if_pos hall.1, dropWhile_of_all isDigit r hall.2]
    rfl

theorem printInt_numOk (i : Int) : numOk (printInt i) = true := by
  unfold printInt
  by_cases hi : i < 0
  · rw [if_pos hi]; exact intPartOk_printNat _
  · rw [if_neg hi]
    obtain ⟨c, r, hc, hd⟩ := RtL.printNat_head i.natAbs
    have h := intPartOk_printNat i.natAbs
    rw [hc] at h ⊢
    rw [numOk, if_neg (RtL.isDigit_ne hd).2.1]
    exact h

/-! ### strings -/

theorem jsonHexVal_hexDigit (n : Nat) : jsonHexVal (jsonHexDigit n) = some (n % 16) := by
  have h : ∀ d, d < 16 → jsonHexVal (jsonHexDigit d) = some d := by decide
  have e : jsonHexDigit n = jsonHexDigit (n % 16) := by simp [jsonHexDigit]
  rw [e, h _ (Nat.mod_lt _ (by omega))]

theorem parseStrBody_plain (b : UInt8) (rest : GoString) (h1 : b ≠ 34) (h2 : b ≠ 92)
    (h3 : ¬ b < 32) : parseStrBody (b :: rest) = consStr [b] (parseStrBody rest) := by
  rw [parseStrBody.eq_def]
  simp [h1, h2, h3]

theorem parseStrBody_simple (e c : UInt8) (rest : GoString) (h : jsonUnescape e = some c)
    (hu : e ≠ 117) :
    parseStrBody (92 :: e :: rest) = consStr [c] (parseStrBody rest) := by
  rw [parseStrBody.eq_def]
  simp [h, hu]

theorem parseStrBody_u (h1 h2 h3 h4 : UInt8) (cp : Nat) (rest : GoString)
    (h : hex4 h1 h2 h3 h4 = some cp) (hs : ¬ (0xD800 ≤ cp ∧ cp < 0xE000)) :
    parseStrBody (92 :: 117 :: h1 :: h2 :: h3 :: h4 :: rest)
      = consStr (utf8Enc cp) (parseStrBody rest) := by
  unfold hex4 at h
  split at h
  · next a b c d e1 e2 e3 e4 =>
    cases h
    rw [parseStrBody.eq_def]
    simp only [e1, e2, e3, e4, if_neg hs]
    rfl
  · cases h

theorem hex4_escU00 (b : UInt8) :
    hex4 48 48 (jsonHexDigit (b.toNat / 16)) (jsonHexDigit b.toNat) = some b.toNat := by
  have h0 : jsonHexVal 48 = some 0 := by decide
  have := b.toNat_lt
  simp only [hex4, h0, jsonHexVal_hexDigit]
  congr 1; omega

theorem parseStrBody_u00 (b : UInt8) (rest : GoString) (hb : b.toNat < 128) :
    parseStrBody (escU00 b ++ rest) = consStr [b] (parseStrBody rest) := by
  have h := parseStrBody_u 48 48 _ _ _ rest (hex4_escU00 b) (by omega)
  rwa [utf8Enc, if_pos hb, UInt8.ofNat_toNat] at h

theorem escByte_self {b : UInt8} (h1 : b ≠ 34) (h2 : b ≠ 92)
    (h3 : ¬ (b < 32 ∨ b = 60 ∨ b = 62 ∨ b = 38)) : escByte b = [b] := by
  have ne : ∀ k : UInt8, k < 32 → b ≠ k := fun k hk e => h3 (.inl (e ▸ hk))
  rw [escByte, if_neg h1, if_neg h2, if_neg (ne 8 (by decide)), if_neg (ne 12 (by decide)),
    if_neg (ne 10 (by decide)), if_neg (ne 13 (by decide)), if_neg (ne 9 (by decide)), if_neg h3]

theorem rsb_cons_ne (b : UInt8) (rest : GoString) (hb : b ≠ 0xE2) :
    renderStrBody (b :: rest) = escByte b ++ renderStrBody rest := by
  cases rest with
  | nil => simp only [renderStrBody]
  | cons c r =>
    cases r with
    | nil => simp only [renderStrBody]
    | cons d r' =>
      have h1 : ¬ (b = 0xE2 ∧ c = 0x80 ∧ d = 0xA8) := fun h => hb h.1
      have h2 : ¬ (b = 0xE2 ∧ c = 0x80 ∧ d = 0xA9) := fun h => hb h.1
      simp only [renderStrBody, if_neg h1, if_neg h2]

theorem escByte_hi (b : UInt8) (h : ¬ b < 0x80) : escByte b = [b] := by
  have ne : ∀ k : UInt8, k < 0x80 → b ≠ k := fun k hk e => h (e ▸ hk)
  refine escByte_self (ne 34 (by decide)) (ne 92 (by decide)) ?_
  rintro (h' | h' | h' | h')
  · exact h (UInt8.lt_trans h' (by decide))
  · exact ne 60 (by decide) h'
  · exact ne 62 (by decide) h'
  · exact ne 38 (by decide) h'

theorem rsb_hi (b : UInt8) (rest : GoString) (h1 : b ≠ 0xE2) (h2 : ¬ b < 0x80) :
    renderStrBody (b :: rest) = b :: renderStrBody rest := by
  rw [rsb_cons_ne b rest h1, escByte_hi b h2]; rfl

/-- a continuation byte is neither ASCII nor E2: it is copied -/
theorem rsb_cont (c lo hi : UInt8) (rest : GoString) (h : (decide (lo ≤ c) && decide (c ≤ hi)) = true)
    (hlo : 128 ≤ lo.toNat) (hhi : hi.toNat ≤ 191) :
    renderStrBody (c :: rest) = c :: renderStrBody rest := by
  simp only [Bool.and_eq_true, decide_eq_true_eq, UInt8.le_iff_toNat_le] at h
  refine rsb_hi c rest (fun e => ?_) fun h' => ?_
  · have : (0xE2 : UInt8).toNat = 226 := rfl
    rw [e] at h; omega
  · have := UInt8.lt_iff_toNat_lt.1 h'
    have : (0x80 : UInt8).toNat = 128 := rfl
    omega

theorem escByte_cases (b : UInt8) :
    (∃ e, escByte b = [92, e] ∧ jsonUnescape e = some b ∧ e ≠ 117) ∨
    (escByte b = escU00 b ∧ b.toNat < 128) ∨
    (escByte b = [b] ∧ b ≠ 34 ∧ b ≠ 92 ∧ ¬ b < 32) := by
  by_cases hm : b ∈ [34, 92, 8, 12, 10, 13, 9]
  · simp only [List.mem_cons, List.not_mem_nil, or_false] at hm
    rcases hm with rfl | rfl | rfl | rfl | rfl | rfl | rfl <;> exact .inl ⟨_, rfl, rfl, by decide⟩
  simp only [List.mem_cons, List.not_mem_nil, or_false, not_or] at hm
  obtain ⟨h1, h2, h3, h4, h5, h6, h7⟩ := hm
  by_cases h8 : b < 32 ∨ b = 60 ∨ b = 62 ∨ b = 38
  · refine .inr (.inl ⟨?_, ?_⟩)
    · rw [escByte, if_neg h1, if_neg h2, if_neg h3, if_neg h4, if_neg h5, if_neg h6, if_neg h7,
        if_pos h8]
    · rcases h8 with h | rfl | rfl | rfl
      · exact Nat.lt_trans (UInt8.lt_iff_toNat_lt.1 h) (by decide)
      all_goals decide
  · exact .inr (.inr ⟨escByte_self h1 h2 h8, h1, h2, fun h => h8 (.inl h)⟩)

theorem parseStrBody_escByte (b : UInt8) (rest : GoString) :
    parseStrBody (escByte b ++ rest) = consStr [b] (parseStrBody rest) := by
  rcases escByte_cases b with ⟨e, h, he, hu⟩ | ⟨h, hb⟩ | ⟨h, h1, h2, h3⟩
  · rw [h]; exact parseStrBody_simple e b rest he hu
  · rw [h]; exact parseStrBody_u00 b rest hb
  · rw [h]; exact parseStrBody_plain b rest h1 h2 h3

theorem parseStrBody_render (s r : GoString) :
    parseStrBody (renderStrBody s ++ 34 :: r) = some (s, r) := by
  fun_induction renderStrBody s with
  | case1 => rw [parseStrBody.eq_def]; simp
  | case2 b c d rest h ih =>
    obtain ⟨rfl, rfl, rfl⟩ := h
    rw [List.append_assoc]
    refine (parseStrBody_u 50 48 50 56 0x2028 (renderStrBody rest ++ 34 :: r) (by decide)
      (by decide)).trans ?_
    rw [ih]; rfl
  | case3 b c d rest _ h ih =>
    obtain ⟨rfl, rfl, rfl⟩ := h
    rw [List.append_assoc]
    refine (parseStrBody_u 50 48 50 57 0x2029 (renderStrBody rest ++ 34 :: r) (by decide)
      (by decide)).trans ?_
    rw [ih]; rfl
  | case4 b c d rest _ _ ih => rw [List.append_assoc, parseStrBody_escByte, ih]; rfl
  | case5 b rest _ ih => rw [List.append_assoc, parseStrBody_escByte, ih]; rfl

theorem stripPrefix_append (p r : GoString) : stripPrefix p (p ++ r) = some r := by
  induction p with
  | nil => cases r <;> rfl
  | cons a p ih => simp [stripPrefix, ih]

theorem parseValue_num (f : Nat) (lit r : GoString) (h : numOk lit = true)
    (hr : numStop r = true) : parseValue (f + 1) (lit ++ r) = some (.num lit, r) := by
  cases lit with
  | nil => cases h
  | cons c t =>
    have hs := span_numOk (c :: t) r h hr
    have hc : isNumByte c = true := (List.all_eq_true.1 (numOk_all _ h)) c List.mem_cons_self
    rw [List.cons_append] at hs ⊢
    rw [parseValue.eq_def]
    simp only [hc, if_true, hs.1, hs.2, h]

theorem parseValue_str (f : Nat) (s r : GoString) :
    parseValue (f + 1) (renderStr s ++ r) = some (.str s, r) := by
  have h : isNumByte 34 = false := by decide
  rw [parseValue.eq_def]
  simp [renderStr, h, parseStrBody_render]

mutual
/-- nesting of parser calls needed for the rendered text of a tree -/
def need : Json → Nat
  | .arr l => 1 + needList l
  | .obj ms => 1 + needMembers ms
  | _ => 1
def needList : List Json → Nat
  | [] => 0
  | v :: vs => 1 + need v + needList vs
def needMembers : List (GoString × Json) → Nat
  | [] => 0
  | (_, v) :: ms => 1 + need v + needMembers ms
end

theorem need_pos (t : Json) : 1 ≤ need t := by
  cases t <;> simp [need] <;> omega

theorem render_arr_append (l : List Json) (r : GoString) :
    (Json.arr l).render ++ r = 91 :: (Json.renderList l ++ 93 :: r) := by
  simp [Json.render]

theorem render_obj_append (ms : List (GoString × Json)) (r : GoString) :
    (Json.obj ms).render ++ r = 123 :: (Json.renderMembers ms ++ 125 :: r) := by
  simp [Json.render]

theorem renderList_one (v : Json) (x : GoString) :
    Json.renderList [v] ++ x = v.render ++ x := by
  simp [Json.renderList, sepBefore]

theorem renderList_two (v w : Json) (ws : List Json) (x : GoString) :
    Json.renderList (v :: w :: ws) ++ x = v.render ++ 44 :: (Json.renderList (w :: ws) ++ x) := by
  simp [Json.renderList, sepBefore]

theorem renderMembers_one (k : GoString) (v : Json) (x : GoString) :
    Json.renderMembers [(k, v)] ++ x = 34 :: (renderStrBody k ++ 34 :: 58 :: (v.render ++ x)) := by
  simp [Json.renderMembers, sepBefore, renderStr]

theorem renderMembers_two (k : GoString) (v : Json) (m : GoString × Json)
    (ms : List (GoString × Json)) (x : GoString) :
    Json.renderMembers ((k, v) :: m :: ms) ++ x
      = 34 :: (renderStrBody k ++ 34 :: 58 :: (v.render ++ 44 :: (Json.renderMembers (m :: ms) ++ x))) := by
  simp [Json.renderMembers, sepBefore, renderStr]

theorem render_head (t : Json) (h : t.numsOk = true) :
    ∃ c u, t.render = c :: u ∧ c ≠ 93 ∧ isWs c = false := by
  cases t with
  | num lit =>
    cases lit with
    | nil => cases h
    | cons c u =>
      have hc : isNumByte c = true :=
        (List.all_eq_true.1 (numOk_all (c :: u) h)) c List.mem_cons_self
      refine ⟨c, u, rfl, ?_, ?_⟩
      · rintro rfl; cases hc
      · cases hw : isWs c with
        | false => rfl
        | true =>
          simp only [isWs, Bool.or_eq_true, decide_eq_true_eq] at hw
          rcases hw with ((rfl | rfl) | rfl) | rfl <;> cases hc
  | bool b => cases b <;> exact ⟨_, _, rfl, by decide, by decide⟩
  | _ => exact ⟨_, _, rfl, by decide, by decide⟩

theorem renderList_head (v : Json) (vs : List Json) (x : GoString) (h : v.numsOk = true) :
    ∃ c u, Json.renderList (v :: vs) ++ x = c :: u ∧ c ≠ 93 ∧ isWs c = false := by
  obtain ⟨c, u, hc, h⟩ := render_head v h
  exact ⟨c, _, by rw [Json.renderList, hc]; rfl, h⟩


mutual
theorem need_le (t : Json) : need t ≤ 2 * t.render.length + 1 :=
  match t with
  | .arr l => by
    have := needList_le l
    simp only [need, Json.render, List.length_cons, List.length_append, List.length_nil]
    omega
  | .obj ms => by
    have := needMembers_le ms
    simp only [need, Json.render, List.length_cons, List.length_append, List.length_nil]
    omega
  | .null | .bool _ | .num _ | .str _ => by simp [need]
theorem needList_le (l : List Json) : needList l ≤ 2 * (Json.renderList l).length + 2 :=
  match l with
  | [] => Nat.zero_le _
  | v :: vs => by
    have h1 := need_le v
    have h2 := needList_le vs
    simp only [needList, Json.renderList, List.length_append]
    cases vs <;> simp only [needList, Json.renderList, sepBefore, List.length_cons,
      List.length_nil] at h2 ⊢ <;> omega
theorem needMembers_le (ms : List (GoString × Json)) :
    needMembers ms ≤ 2 * (Json.renderMembers ms).length + 2 :=
  match ms with
  | [] => Nat.zero_le _
  | (k, v) :: ms => by
    have h1 := need_le v
    have h2 := needMembers_le ms
    simp only [needMembers, Json.renderMembers, List.length_append, List.length_cons]
    cases ms <;> simp only [needMembers, Json.renderMembers, sepBefore, List.length_cons,
      List.length_nil] at h2 ⊢ <;> omega
end

/-! ### the tree round trip -/

/-- The three readers on rendered text, by induction on the fuel: each reader calls the others
with one unit less. -/
theorem parse_render (f : Nat) :
    (∀ t r, t.numsOk = true → numStop r = true → need t ≤ f →
      parseValue f (t.render ++ r) = some (t, r)) ∧
    (∀ l r, Json.numsOkList l = true → needList l ≤ f → l ≠ [] →
      parseElems f (Json.renderList l ++ 93 :: r) = some (l, r)) ∧
    (∀ ms r, Json.numsOkMembers ms = true → needMembers ms ≤ f → ms ≠ [] →
      parseMembers f (Json.renderMembers ms ++ 125 :: r) = some (ms, r)) := by
  induction f with
  | zero =>
    refine ⟨fun t _ _ _ hf => ?_, fun l _ _ hf hne => ?_, fun ms _ _ hf hne => ?_⟩
    · have := need_pos t; omega
    · cases l with
      | nil => exact absurd rfl hne
      | cons v vs => rw [needList] at hf; omega
    · cases ms with
      | nil => exact absurd rfl hne
      | cons m ms => rw [needMembers] at hf; omega
  | succ f ih =>
    obtain ⟨ihV, ihE, ihM⟩ := ih
    refine ⟨fun t r h hr hf => ?_, fun l r h hf hne => ?_, fun ms r h hf hne => ?_⟩
    · cases t with
      | null => rfl
      | bool b => cases b <;> rfl
      | num lit => exact parseValue_num f lit r h hr
      | str s => exact parseValue_str f s r
      | arr l =>
        cases l with
        | nil => rfl
        | cons v vs =>
          have ih := ihE (v :: vs) r h (by rw [need] at hf; omega) (List.cons_ne_nil _ _)
          obtain ⟨c, u, e, hne, _⟩ := renderList_head v vs (93 :: r) (Bool.and_eq_true_iff.1 h).1
          rw [e] at ih
          rw [render_arr_append, e, parseValue]
          simp (config := { decide := true }) only [↓reduceIte, hne, ih]
          rfl
      | obj ms =>
        cases ms with
        | nil => rfl
        | cons m ms =>
          rw [render_obj_append]
          show (parseMembers f (Json.renderMembers (m :: ms) ++ 125 :: r)).map _ = _
          rw [ihM _ r h (by rw [need] at hf; omega) (List.cons_ne_nil _ _)]
          rfl
    · cases l with
      | nil => exact absurd rfl hne
      | cons v vs =>
        rw [Json.numsOkList, Bool.and_eq_true] at h
        rw [needList] at hf
        obtain ⟨hfv, hfs⟩ : need v ≤ f ∧ needList vs ≤ f := by omega
        have hv := fun x hx => ihV v x h.1 hx hfv
        cases vs with
        | nil => rw [renderList_one, parseElems, hv _ rfl]; rfl
        | cons w ws =>
          rw [renderList_two, parseElems, hv _ rfl]
          simp only [ihE _ r h.2 hfs (List.cons_ne_nil _ _)]
          rfl
    · cases ms with
      | nil => exact absurd rfl hne
      | cons m ms =>
        obtain ⟨k, v⟩ := m
        rw [Json.numsOkMembers, Bool.and_eq_true] at h
        rw [needMembers] at hf
        obtain ⟨hfv, hfs⟩ : need v ≤ f ∧ needMembers ms ≤ f := by omega
        have hv := fun x hx => ihV v x h.1 hx hfv
        cases ms with
        | nil =>
          rw [renderMembers_one, parseMembers]
          simp only [parseStrBody_render, hv (125 :: r) rfl]
          rfl
        | cons m ms =>
          rw [renderMembers_two, parseMembers]
          simp only [parseStrBody_render, hv (44 :: _) rfl,
            ihM _ r h.2 hfs (List.cons_ne_nil _ _)]
          rfl

theorem parseElems_render (l : List Json) (h : Json.numsOkList l = true) (r : GoString)
    (f : Nat) (hf : needList l ≤ f) (hne : l ≠ []) :
    parseElems f (Json.renderList l ++ 93 :: r) = some (l, r) :=
  (parse_render f).2.1 l r h hf hne

theorem parseMembers_render (ms : List (GoString × Json)) (h : Json.numsOkMembers ms = true)
    (r : GoString) (f : Nat) (hf : needMembers ms ≤ f) (hne : ms ≠ []) :
    parseMembers f (Json.renderMembers ms ++ 125 :: r) = some (ms, r) :=
  (parse_render f).2.2 ms r h hf hne

theorem parseJson_render (t : Json) (h : t.numsOk) : Spec.parseJson t.render = some t := by
  have hf : need t ≤ 2 * t.render.length + 2 := by have := need_le t; omega
  have hp := (parse_render _).1 t [] h rfl hf
  rw [List.append_nil] at hp
  simp [parseJson, hp]

theorem render_injective (a b : Json) (ha : a.numsOk) (hb : b.numsOk)
    (h : a.render = b.render) : a = b := by
  have h1 := parseJson_render a ha
  have h2 := parseJson_render b hb
  rw [h, h2] at h1
  exact (Option.some.inj h1).symm

/-! ### non-vacuity -/

/-- every constructor; in the key: a quote, a backslash, a newline, the control byte 01, `<`,
U+2028 (E2 80 A8), and the two-byte character U+00E9 (C3 A9); in the string element: U+2029
followed by a truncated E2 80 (copied verbatim) -/
def jtSample : Json :=
  .obj [([97, 34, 92, 10, 1, 60, 0xE2, 0x80, 0xA8, 0xC3, 0xA9],
          .arr [.null, .bool true, .bool false, .num [45, 49, 46, 53, 101, 43, 50],
                .str [0xE2, 0x80, 0xA9, 0xE2, 0x80], .arr [], .obj []]),
        ([], .num [48])]

/-- the rendered bytes, spelled out: the quote and the backslash of the key get a backslash
(92 34, 92 92), the newline is 92 110, the control byte 01 is the six bytes 92 117 48 48 48 49,
`<` is 92 117 48 48 51 99 (backslash u 0 0 3 c), U+2028 is 92 117 50 48 50 56 (backslash u
2 0 2 8), C3 A9 is copied (195 169), U+2029 is 92 117 50 48 50 57 -/
example : jtSample.render =
    [123, 34, 97, 92, 34, 92, 92, 92, 110, 92, 117, 48, 48, 48, 49, 92, 117, 48, 48, 51, 99,
     92, 117, 50, 48, 50, 56, 195, 169, 34, 58, 91, 110, 117, 108, 108, 44, 116, 114, 117, 101,
     44, 102, 97, 108, 115, 101, 44, 45, 49, 46, 53, 101, 43, 50, 44, 34, 92, 117, 50, 48, 50,
     57, 226, 128, 34, 44, 91, 93, 44, 123, 125, 93, 44, 34, 34, 58, 48, 125] := by decide +kernel

example : Spec.parseJson jtSample.render = some jtSample := rfl

example : jtSample.numsOk = true := by decide +kernel

example : Spec.parseJson jtSample.render = some jtSample := parseJson_render jtSample (by decide)

/-- the other forms the parser accepts and the renderer never writes: `\/`, upper-case hex,
a `\u` escape of a two-byte and of a three-byte character, `E` exponents -/
example : Spec.parseJson [91, 34, 92, 47, 92, 117, 48, 48, 69, 57, 92, 117, 50, 48, 97, 99, 34,
      44, 45, 48, 46, 53, 69, 45, 55, 93]
    = some (.arr [.str [47, 0xC3, 0xA9, 0xE2, 0x82, 0xAC], .num [45, 48, 46, 53, 69, 45, 55]]) :=
  rfl

def jtRejects (s : GoString) : Bool := (Spec.parseJson s).isNone

example : jtRejects [123, 34, 97, 34, 58, 125] = true := by decide +kernel          -- {"a":}
example : jtRejects [91, 49, 44, 93] = true := by decide +kernel                     -- [1,]
example : jtRejects [48, 49] = true := by decide +kernel                             -- 01
example : jtRejects [34, 97] = true := by decide +kernel                             -- "a
example : jtRejects [110, 117, 108] = true := by decide +kernel                      -- nul
example : jtRejects [110, 117, 108, 108, 49] = true := by decide +kernel             -- null1
example : jtRejects [91, 49, 93, 93] = true := by decide +kernel                     -- [1]]
example : jtRejects [49, 32] = true := by decide +kernel                             -- 1 followed by a space
example : jtRejects [91, 49, 44, 32, 50, 93] = true := by decide +kernel             -- [1, 2]
example : jtRejects [49, 46] = true := by decide +kernel                             -- 1.
example : jtRejects [49, 101] = true := by decide +kernel                            -- 1e
example : jtRejects [45] = true := by decide +kernel                                 -- -
example : jtRejects [43, 49] = true := by decide +kernel                             -- +1
example : jtRejects [] = true := by decide +kernel                                   -- empty input
example : jtRejects [34, 1, 34] = true := by decide +kernel                          -- raw control byte
example : jtRejects [34, 92, 120, 34] = true := by decide +kernel                    -- "\x"
example : jtRejects [34, 92, 117, 48, 48, 103, 48, 34] = true := by decide +kernel   -- "\u00g0"
example : jtRejects [34, 92, 117, 100, 56, 48, 48, 34] = true := by decide +kernel   -- "\ud800"
example : jtRejects [123, 49, 58, 49, 125] = true := by decide +kernel               -- {1:1}
example : jtRejects [123, 34, 97, 34, 58, 49, 44, 125] = true := by decide +kernel   -- {"a":1,}
example : jtRejects [91, 93] = false := by decide +kernel                            -- []
example : jtRejects [123, 125] = false := by decide +kernel                          -- {}
example : jtRejects [45, 48] = false := by decide +kernel                            -- -0

example : Spec.numOk [48, 49] = false := by decide +kernel
example : Spec.numOk [45, 49, 46, 53, 101, 43, 50] = true := by decide +kernel

/-- rendering distinguishes the trees the parser distinguishes: a number and the string of
its digits -/
example : (Json.num [49]).render ≠ (Json.str [49]).render := by decide +kernel

#print axioms parseStrBody_render
#print axioms parseJson_render
#print axioms render_injective
#print axioms printInt_numOk

end JsonL
end Jsonapi



