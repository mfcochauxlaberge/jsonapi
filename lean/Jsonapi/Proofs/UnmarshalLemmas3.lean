/- Helper lemmas for C05 / C06 / C13, part 3: the entries of a resource payload, the loops
that `UnmarshalResource` and `UnmarshalPartialResource` share, and full unmarshaling. -/
import Jsonapi.Proofs.UnmarshalLemmas2
namespace Jsonapi
open GoMap
namespace UnmL

theorem getType_some {σ : SSchema} {n : GoString} {st : SType} (h : σ.getType n = some st) :
    st ∈ σ ∧ st.typ.name = n :=
  ⟨List.mem_of_find?_eq_some h, by simpa using List.find?_some h⟩

theorem getType_isSome_iff (σ : SSchema) (n : GoString) :
    (σ.getType n).isSome = σ.toSchema.hasType n := by
  unfold SSchema.getType SSchema.toSchema Schema.hasType
  rw [List.isSome_find?, List.any_map]
  rfl

/-! ### the entries of a payload -/

/-- The Set an attribute entry of the payload performs (`none`: the entry is rejected). -/
def attrEntry (t : Typ) (p : GoString × RawVal) : Option (GoString × GoVal) :=
  match t.attrs.get? p.1 with
  | some a => (match unmarshalToType a p.2 with | .ok v => some (a.name, v) | _ => none)
  | none => none

/-- The Set a relationship entry performs (`none`: no data member). -/
def relEntry (t : Typ) (p : GoString × RelRaw) : Option (GoString × GoVal) :=
  match t.rels.get? p.1 with
  | some rel => (relValue rel p.2).1.map (fun x => (rel.fromName, x))
  | none => none

/-- The relationship entry is accepted. -/
def relOk (t : Typ) (p : GoString × RelRaw) : Bool :=
  match t.rels.get? p.1 with
  | some rel => !(relValue rel p.2).2
  | none => false

def attrsOk (t : Typ) (l : GoMap RawVal) : Bool := l.all (fun p => (attrEntry t p).isSome)
def relsOk (t : Typ) (l : GoMap RelRaw) : Bool := l.all (relOk t)

def idEntry (sk : ResSke) : GoString × GoVal := (idName, .val .string (.s sk.id))

/-- All the Sets a payload performs, in order. -/
def fullHist (t : Typ) (sk : ResSke) : Hist :=
  idEntry sk :: (sk.attrs.filterMap (attrEntry t) ++ sk.rels.filterMap (relEntry t))

theorem relEntry_of_none {t : Typ} {p : GoString × RelRaw} (hr : t.rels.get? p.1 = none) :
    relEntry t p = none ∧ relOk t p = false := by
  simp only [relEntry, relOk, hr, and_self]

theorem relEntry_of_some {t : Typ} {p : GoString × RelRaw} {rel : Rel} (hr : t.rels.get? p.1 = some rel) :
    relEntry t p = (relValue rel p.2).1.map (fun x => (rel.fromName, x)) ∧
      relOk t p = !(relValue rel p.2).2 := by
  simp only [relEntry, relOk, hr, and_self]

theorem attrEntry_some {t : Typ} (ht : TypWF t) {p : GoString × RawVal} {e : GoString × GoVal}
    (h : attrEntry t p = some e) :
    ∃ a, t.attrs.get? p.1 = some a ∧ unmarshalToType a p.2 = .ok e.2 ∧ e.1 = p.1 ∧ a.name = p.1 := by
  revert h
  fun_cases attrEntry t p
  · rename_i a ha v hv
    have := (attr_of_get? ht ha).1.symm
    intro h; cases h; exact ⟨a, ha, hv, this, this⟩
  · nofun
  · nofun

theorem relEntry_some {t : Typ} (ht : TypWF t) {p : GoString × RelRaw} {e : GoString × GoVal}
    (h : relEntry t p = some e) :
    ∃ rel, t.rels.get? p.1 = some rel ∧ (relValue rel p.2).1 = some e.2 ∧ e.1 = p.1 ∧ rel.fromName = p.1 := by
  revert h
  fun_cases relEntry t p
  · rename_i rel hr
    have := (rel_of_get? ht hr).1.symm
    cases hv : (relValue rel p.2).1 with
    | none => nofun
    | some x => intro h; cases h; exact ⟨rel, hr, hv, this, this⟩
  · nofun

theorem attrEntry_isSome {t : Typ} {p : GoString × RawVal} :
    (attrEntry t p).isSome = true ↔ ∃ a v, t.attrs.get? p.1 = some a ∧ unmarshalToType a p.2 = .ok v := by
  fun_cases attrEntry t p
  · exact ⟨fun _ => ⟨_, _, ‹_›, ‹_›⟩, fun _ => rfl⟩
  · rename_i a ha hno
    refine ⟨Bool.noConfusion, ?_⟩
    rintro ⟨a', v, ha', hv⟩
    cases ha.symm.trans ha'
    exact (hno v hv).elim
  · rename_i ha
    refine ⟨Bool.noConfusion, ?_⟩
    rintro ⟨_, _, ha', _⟩
    cases ha.symm.trans ha'

theorem relOk_iff {t : Typ} {p : GoString × RelRaw} :
    relOk t p = true ↔ ∃ rel, t.rels.get? p.1 = some rel ∧ (relValue rel p.2).2 = false := by
  unfold relOk
  cases t.rels.get? p.1 <;> simp

theorem all_attrEntry {t : Typ} {l : GoMap RawVal} (h : attrsOk t l = true) {p : GoString × RawVal}
    (hp : p ∈ l) : ∃ e, attrEntry t p = some e :=
  Option.isSome_iff_exists.1 (List.all_eq_true.1 h p hp)

theorem all_relOk {t : Typ} {l : GoMap RelRaw} (h : relsOk t l = true) {p : GoString × RelRaw}
    (hp : p ∈ l) : ∃ rel, t.rels.get? p.1 = some rel ∧ (relValue rel p.2).2 = false :=
  relOk_iff.1 (List.all_eq_true.1 h p hp)

theorem relEntry_of_present {t : Typ} {p : GoString × RelRaw} {rel : Rel}
    (hr : t.rels.get? p.1 = some rel) (hp : p.2.present = true) :
    ∃ x, (relValue rel p.2).1 = some x ∧ relEntry t p = some (rel.fromName, x) := by
  obtain ⟨x, hx⟩ := Option.isSome_iff_exists.1 ((relValue_isSome rel p.2).trans hp)
  exact ⟨x, hx, by rw [(relEntry_of_some hr).1, hx]; rfl⟩

theorem setOk_attr {t2 : Typ} {a : Attr} {k : Kind} {v : GoVal} (hid : a.name ≠ idName)
    (hg : t2.attrs.get? a.name = some a) (hk : Kind.ofCode? a.ty = some k)
    (hv : v.hasAttrType k a.nullable = true) : Spec.setOk t2 a.name v = true := by
  unfold Spec.setOk
  rw [if_neg hid, hg]
  simp only [hk, hv, Bool.true_or]

theorem setOk_rel {t2 : Typ} (wf2 : TypWF t2) {rel : Rel} {x : GoVal} (hid : rel.fromName ≠ idName)
    (hg : t2.rels.get? rel.fromName = some rel)
    (hx : if rel.toOne then ∃ id, x = .val .string (.s id) else ∃ l, x = .strs l) :
    Spec.setOk t2 rel.fromName x = true := by
  unfold Spec.setOk
  rw [if_neg hid, (rel_of_get? wf2 hg).2.2.2, hg]
  split at hx <;> obtain ⟨_, rfl⟩ := hx <;> simp [*]

theorem toType_setOk {t : Typ} (ht : TypWF t) (hn : Spec.namesOk t = true) {f : GoString} {a : Attr}
    (ha : t.attrs.get? f = some a) {raw : RawVal} {v : GoVal} (hv : unmarshalToType a raw = .ok v) :
    Spec.setOk t a.name v = true := by
  obtain ⟨rfl, _, k, hk⟩ := attr_of_get? ht ha
  exact setOk_attr (namesOk_mem hn (List.mem_append_left _ (mem_keys_of_get? ha))).1 ha hk
    (toType_hasAttrType a raw v k hv hk)

theorem rel_setOk {t : Typ} (ht : TypWF t) (hn : Spec.namesOk t = true) {f : GoString} {rel : Rel}
    (hr : t.rels.get? f = some rel) {v : RelRaw} {x : GoVal} (hv : (relValue rel v).1 = some x) :
    Spec.setOk t rel.fromName x = true := by
  obtain ⟨rfl, _⟩ := rel_of_get? ht hr
  exact setOk_rel ht (namesOk_mem hn (List.mem_append_right _ (mem_keys_of_get? hr))).1 hr
    (relValue_typed rel v x hv)

/-! ### the loops over the entries

`UnmarshalResource` and `UnmarshalPartialResource` run the same two loops and differ in the
Set they perform and in the invariant it keeps: the lemmas below take the loop bodies `f`,
`g` and the invariant `I` as parameters. -/

/-- `f` is the body of a loop over payload entries that keeps `I`: an error stays; from a
state `a` reached by the Sets `h`, an entry leads to a state `a'` in which its Set (if it has
one) has been performed, and the step returns `a'` when the entry is `good`, an error
otherwise. -/
def Steps {α β : Type} (I : Hist → α → Prop) (f : Res α → β → Res α)
    (entry : β → Option (GoString × GoVal)) (good : β → Bool) : Prop :=
  (∀ b, f .err b = .err) ∧ ∀ h a b, I h a →
    ∃ a', I (h ++ (entry b).toList) a' ∧ f (.ok a) b = bif good b then .ok a' else .err

theorem Steps.stay {α : Type} {I : Hist → α → Prop} {h : Hist} {a : α} (inv : I h a) :
    I (h ++ (none : Option (GoString × GoVal)).toList) a := by simpa using inv

theorem fold_sets {α β : Type} {I : Hist → α → Prop} {f : Res α → β → Res α}
    {entry : β → Option (GoString × GoVal)} {good : β → Bool} (hf : Steps I f entry good)
    (l : List β) (h : Hist) (a : α) (inv : I h a) :
    ∃ a', I (h ++ l.filterMap entry) a' ∧
      l.foldl f (.ok a) = bif l.all good then .ok a' else .err := by
  induction l generalizing h a with
  | nil => exact ⟨a, by simpa using inv, rfl⟩
  | cons b l ih =>
    obtain ⟨a1, inv1, e1⟩ := hf.2 h a b inv
    obtain ⟨a', inv', e'⟩ := ih _ a1 inv1
    refine ⟨a', ?_, ?_⟩
    · have : (b :: l).filterMap entry = (entry b).toList ++ l.filterMap entry := by
        rw [List.filterMap_cons]; cases entry b <;> rfl
      rw [this, ← List.append_assoc]; exact inv'
    · rw [List.foldl_cons, e1, List.all_cons]
      cases good b
      · exact foldl_fix f .err hf.1 l
      · exact e'

theorem loops_spec {α : Type} {t : Typ} {I : Hist → α → Prop}
    {f : Res α → GoString × RawVal → Res α} {g : Res α → GoString × RelRaw → Res α}
    (hf : Steps I f (attrEntry t) fun p => (attrEntry t p).isSome)
    (hg : Steps I g (relEntry t) (relOk t)) (sk : ResSke) {r1 : α} (inv : I [idEntry sk] r1) :
    ∃ r, I (fullHist t sk) r ∧ sk.rels.foldl g (sk.attrs.foldl f (.ok r1)) =
      bif attrsOk t sk.attrs && relsOk t sk.rels then .ok r else .err := by
  obtain ⟨r2, inv2, e2⟩ := fold_sets hf sk.attrs _ r1 inv
  obtain ⟨r3, inv3, e3⟩ := fold_sets hg sk.rels _ r2 inv2
  refine ⟨r3, by rw [List.append_assoc] at inv3; exact inv3, ?_⟩
  rw [e2]
  unfold attrsOk relsOk
  cases sk.attrs.all fun p => (attrEntry t p).isSome
  · exact foldl_fix g .err hg.1 _
  · exact e3

/-- The prologue both entry points share: the type is looked up and a type without name is
refused. -/
def withType {α : Type} (σ : SSchema) (n : GoString) (body : SType → Res α) : Res α :=
  match σ.getType n with
  | none => .err
  | some st => if st.typ.name = [] then .err else body st

/-- When the body of an entry point, for a type of the schema, accepts exactly the payloads
whose entries are all accepted and errs on the others, the entry point accepts exactly the
payloads that name a type and have all entries accepted, and never panics. -/
theorem entry_spec {α : Type} {σ : SSchema} (hσ : σ.WF) (sk : ResSke) {body : SType → Res α}
    {I : SType → α → Prop}
    (hb : ∀ st ∈ σ, TypWF st.typ → Spec.namesOk st.typ = true →
      (st.backed = true → Spec.structable st.typ = true) → ∃ r, I st r ∧
        body st = bif attrsOk st.typ sk.attrs && relsOk st.typ sk.rels then .ok r else .err) :
    withType σ sk.typ body ≠ .panic ∧
    (∀ r, withType σ sk.typ body = .ok r ↔ ∃ st, σ.getType sk.typ = some st ∧
      attrsOk st.typ sk.attrs = true ∧ relsOk st.typ sk.rels = true ∧ body st = .ok r ∧ I st r) ∧
    ((∃ r, withType σ sk.typ body = .ok r) ↔ ∃ st, σ.getType sk.typ = some st ∧
      attrsOk st.typ sk.attrs = true ∧ relsOk st.typ sk.rels = true) := by
  unfold withType
  cases hg : σ.getType sk.typ with
  | none => exact ⟨nofun, fun _ => ⟨nofun, nofun⟩, nofun, nofun⟩
  | some st =>
    obtain ⟨hm, _⟩ := getType_some hg
    obtain ⟨h1, h2, h3, h4⟩ := hσ.2 st hm
    obtain ⟨r, inv, eb⟩ := hb st hm h2 h3 h4
    simp only [if_neg h1, Option.some.injEq, exists_eq_left']
    cases hA : attrsOk st.typ sk.attrs <;> cases hR : relsOk st.typ sk.rels <;>
      simp [eb, hA, hR, inv]

/-! ### the wrapper: what `Set` leaves alone, what `Get` never returns -/

namespace Wrapped

theorem set_maps {w w' : Wrapped} {k : GoString} {v : GoVal} (h : w.set k v = .ok w') :
    w'.attrs = w.attrs ∧ w'.rels = w.rels := by
  revert w'
  fun_cases Wrapped.set w k v
  · fun_cases Wrapped.setID w _ <;> intro _ h <;> cases h <;> exact ⟨rfl, rfl⟩
  · fun_cases Wrapped.setField w k v <;> intro _ h <;> cases h <;> exact ⟨rfl, rfl⟩

theorem get_ne_ptr_none {w : Wrapped} {f : GoString} {x : GoVal} (h : w.get f = .ok x)
    (k' : Kind) : x ≠ .ptr k' none := by
  revert x
  fun_cases Wrapped.get w f
  · intro _ h; cases h; nofun
  · fun_cases Wrapped.getField w f <;> intro _ h <;> cases h
    · nofun
    · rename_i hne _; exact hne k'

end Wrapped

/-! ### the invariant of a resource under construction -/

/-- After the Sets of `h`: the soft resource / the wrapped struct of type `t` reads as the
abstract resource, and its stored values are typed. -/
def AInv (t : Typ) (h : Hist) : AnyRes → Prop
  | .soft s => SoftInv t h s ∧ SoftTyped t s.data
  | .wrapped w => WInv t h w ∧ w.attrs.keys.Perm t.attrs.keys ∧ w.rels.keys.Perm t.rels.keys

namespace AInv

theorem step {t : Typ} (ht : TypWF t) (hn : Spec.namesOk t = true) {h : Hist} {r : AnyRes}
    (inv : AInv t h r) (k : GoString) (v : GoVal) (hok : Spec.setOk t k v = true) :
    ∃ r', r.set k v = .ok r' ∧ AInv t (h ++ [(k, v)]) r' := by
  cases r with
  | soft s =>
    exact ⟨_, rfl, SoftInv.step ht hn inv.1 k v hok, SoftTyped.step ht inv.1.typ inv.1.keys inv.2 k v⟩
  | wrapped w =>
    obtain ⟨w', e, i1'⟩ := WInv.step ht hn inv.1 k v hok
    obtain ⟨ea, er⟩ := Wrapped.set_maps e
    refine ⟨.wrapped w', ?_, i1', ea ▸ inv.2.1, er ▸ inv.2.2⟩
    simp only [AnyRes.set, e]

theorem new {st : SType} (ht : TypWF st.typ) (hn : Spec.namesOk st.typ = true)
    (hs : st.backed = true → Spec.structable st.typ = true) :
    ∃ r0, st.new = .ok r0 ∧ AInv st.typ [] r0 := by
  unfold SType.new
  cases hb : st.backed with
  | false => exact ⟨_, rfl, SoftInv.init st.typ, fun _ _ _ _ hx => nomatch hx⟩
  | true =>
    have hs' := hs hb
    obtain ⟨w0, hw, hd, hv, hty, hat, hre⟩ :=
      wrap_declOfTyp ht hn hs' (Wrapped.zeroVals (declOfTyp st.typ))
    rw [structRels_declOfTyp_eq ht hs', Res.ok.injEq] at hre
    refine ⟨.wrapped w0, ?_, WInv.init ht hn w0 hd hv hty, ?_, ?_⟩
    · simp only [if_true, hw]
    · rw [hat, structAttrs_declOfTyp ht hs']; exact sortByKey_keys_perm _
    · rw [← hre, keys, List.map_map]; exact sortByKey_keys_perm _

theorem view {t : Typ} (ht : TypWF t) (hn : Spec.namesOk t = true) {h : Hist} {r : AnyRes}
    (inv : AInv t h r) :
    ∃ v, r.view? = some v ∧ v.typeName = t.name ∧ v.id = Spec.specId h ∧
      (∀ f ∈ t.fieldKeys, Spec.canon (v.get f) = Spec.specGet t h f) ∧
      (∀ f a k, t.attrs.get? f = some a → Kind.ofCode? a.ty = some k →
        ∀ k', v.get f = .ptr k' none → k' = k) := by
  cases r with
  | soft s =>
    obtain ⟨i1, i2⟩ := inv
    have hget : ∀ f ∈ t.fieldKeys, s.view.get f = (s.data.get? f).getD (rawZero t f) := fun f hf =>
      (Soft.view_get ht s i1.typ i1.keys hf (namesOk_mem hn hf).1).trans
        (Soft.get_field ht s i1.typ i1.keys hf (namesOk_mem hn hf).1)
    refine ⟨s.view, rfl, i1.typ ▸ rfl, i1.id, fun f hf => ?_, fun f a k ha hk k' hx => ?_⟩
    · rw [hget f hf]; exact i1.vals f hf
    · rw [hget f (List.mem_append_left _ (mem_keys_of_get? ha))] at hx
      have hty : (GoVal.ptr k' none).attrType = (a.ty, a.nullable) := by
        rw [← hx]
        cases hd : s.data.get? f with
        | some y => exact i2 f a y ha hd
        | none => simp only [Option.getD_none, rawZero, ha]; exact zero_attrType hk
      exact Kind.code_inj ((Prod.mk.inj hty).1.trans (Kind.code_of_ofCode? hk).symm)
  | wrapped w =>
    obtain ⟨i1, i2, i3⟩ := inv
    obtain ⟨v, hview, e1, e2, _, _, e5⟩ := i1.view ht hn i2 i3
    refine ⟨v, hview, e1.trans i1.typ, e2, fun f hf => ?_, fun f a k ha _ k' hx => ?_⟩
    · obtain ⟨x, hx, hc⟩ := i1.get_field ht hn hf
      rw [e5 f hf x hx]; exact hc
    · have hf : f ∈ t.fieldKeys := List.mem_append_left _ (mem_keys_of_get? ha)
      obtain ⟨x, hx', _⟩ := i1.get_field ht hn hf
      rw [e5 f hf x hx'] at hx
      exact absurd hx (Wrapped.get_ne_ptr_none hx' k')

end AInv

/-! ### `UnmarshalResource` -/

def attrStep (t : Typ) (acc : Res AnyRes) (p : GoString × RawVal) : Res AnyRes :=
  match acc with
  | .ok r =>
    (match t.attrs.get? p.1 with
      | some a => (match unmarshalToType a p.2 with
        | .ok v => r.set a.name v
        | .err => .err
        | .panic => .panic)
      | none => .err)
  | e => e

def relStep (t : Typ) (acc : Res AnyRes) (p : GoString × RelRaw) : Res AnyRes :=
  match acc with
  | .ok r =>
    (match t.rels.get? p.1 with
      | some rel =>
        let (v, bad) := relValue rel p.2
        (match v with
          | some x => (match r.set rel.fromName x with
            | .ok r' => if bad then .err else .ok r'
            | .err => .err
            | .panic => .panic)
          | none => if bad then .err else .ok r)
      | none => .err)
  | e => e

def resBody (st : SType) (sk : ResSke) : Res AnyRes :=
  match st.new with
  | .ok r0 =>
    (match r0.set idName (.val .string (.s sk.id)) with
    | .ok r1 => sk.rels.foldl (relStep st.typ) (sk.attrs.foldl (attrStep st.typ) (.ok r1))
    | .err => .err
    | .panic => .panic)
  | .err => .err
  | .panic => .panic

theorem unmarshalResource_eq (σ : SSchema) (sk : ResSke) :
    unmarshalResource σ sk = withType σ sk.typ (resBody · sk) := rfl

theorem attrStep_spec {t : Typ} (ht : TypWF t) (hn : Spec.namesOk t = true) :
    Steps (AInv t) (attrStep t) (attrEntry t) fun p => (attrEntry t p).isSome := by
  refine ⟨fun _ => rfl, ?_⟩
  intro h r p inv
  dsimp only
  have stay := Steps.stay inv
  fun_cases attrEntry t p
  · rename_i a ha v hv
    obtain ⟨r', e, inv'⟩ := inv.step ht hn _ _ (toType_setOk ht hn ha hv)
    exact ⟨r', inv', by simp only [attrStep, ha, hv]; exact e⟩
  · rename_i a ha hno
    refine ⟨r, stay, ?_⟩
    simp only [attrStep, ha]
    cases hv : unmarshalToType a p.2 with
    | ok v => exact absurd hv (hno v)
    | err => rfl
    | panic => exact absurd hv (toType_no_panic _ _)
  · rename_i ha
    exact ⟨r, stay, by simp only [attrStep, ha]; rfl⟩

theorem relStep_spec {t : Typ} (ht : TypWF t) (hn : Spec.namesOk t = true) :
    Steps (AInv t) (relStep t) (relEntry t) (relOk t) := by
  refine ⟨fun _ => rfl, ?_⟩
  intro h r p inv
  have stay := Steps.stay inv
  cases hr : t.rels.get? p.1 with
  | none =>
    rw [(relEntry_of_none hr).1, (relEntry_of_none hr).2]
    exact ⟨r, stay, by simp only [relStep, hr]; rfl⟩
  | some rel =>
    rw [(relEntry_of_some hr).1, (relEntry_of_some hr).2]
    rcases hvb : relValue rel p.2 with ⟨_ | x, bad⟩
    · exact ⟨r, stay, by simp only [relStep, hr, hvb]; cases bad <;> rfl⟩
    · obtain ⟨r', e, inv'⟩ := inv.step ht hn _ x (rel_setOk ht hn hr (congrArg Prod.fst hvb))
      exact ⟨r', inv', by simp only [relStep, hr, hvb, e]; cases bad <;> rfl⟩

/-- `UnmarshalResource` after the type lookup: accepted exactly when every entry is, and
then the result has gone through exactly the Sets of `fullHist`; never a panic. -/
theorem resBody_spec {st : SType} (ht : TypWF st.typ) (hn : Spec.namesOk st.typ = true)
    (hs : st.backed = true → Spec.structable st.typ = true) (sk : ResSke) :
    ∃ r, AInv st.typ (fullHist st.typ sk) r ∧ resBody st sk =
      bif attrsOk st.typ sk.attrs && relsOk st.typ sk.rels then .ok r else .err := by
  obtain ⟨r0, e0, inv0⟩ := AInv.new ht hn hs
  obtain ⟨r1, e1, inv1⟩ := inv0.step ht hn idName (.val .string (.s sk.id)) rfl
  unfold resBody
  rw [e0]
  simp only [e1]
  exact loops_spec (attrStep_spec ht hn) (relStep_spec ht hn) sk inv1

theorem resource_spec {σ : SSchema} (hσ : σ.WF) (sk : ResSke) :
    unmarshalResource σ sk ≠ .panic ∧
    ∀ r, unmarshalResource σ sk = .ok r ↔
      ∃ st, σ.getType sk.typ = some st ∧ attrsOk st.typ sk.attrs = true ∧ relsOk st.typ sk.rels = true ∧
        resBody st sk = .ok r ∧ AInv st.typ (fullHist st.typ sk) r := by
  rw [unmarshalResource_eq]
  exact (entry_spec hσ sk fun _ _ ht hn hs => resBody_spec ht hn hs sk).imp id And.left

/-- `UnmarshalResource` accepts exactly the payloads whose type exists and whose entries are
all accepted (and so does `UnmarshalPartialResource`: `partial_accept`). -/
theorem resource_accept {σ : SSchema} (hσ : σ.WF) (sk : ResSke) :
    (∃ r, unmarshalResource σ sk = .ok r) ↔
      ∃ st, σ.getType sk.typ = some st ∧ attrsOk st.typ sk.attrs = true ∧ relsOk st.typ sk.rels = true := by
  rw [unmarshalResource_eq]
  exact (entry_spec hσ sk fun _ _ ht hn hs => resBody_spec ht hn hs sk).2.2

theorem fullHist_ok {t : Typ} (ht : TypWF t) (hn : Spec.namesOk t = true) (sk : ResSke) :
    SetHistOk t (fullHist t sk) := by
  intro e he
  simp only [fullHist, List.mem_cons, List.mem_append, List.mem_filterMap] at he
  rcases he with rfl | ⟨p, _, hp⟩ | ⟨p, _, hp⟩
  · rfl
  · obtain ⟨a, ha, hv, e1, e2⟩ := attrEntry_some ht hp
    rw [e1, ← e2]; exact toType_setOk ht hn ha hv
  · obtain ⟨rel, hr, hv, e1, e2⟩ := relEntry_some ht hp
    rw [e1, ← e2]; exact rel_setOk ht hn hr hv

theorem attrHist_keys {t : Typ} (ht : TypWF t) (l : GoMap RawVal) (f : GoString) :
    f ∈ (l.filterMap (attrEntry t)).map (·.1) → f ∈ keys l ∧ f ∈ t.attrs.keys := by
  intro h
  obtain ⟨e, he, rfl⟩ := List.mem_map.1 h
  obtain ⟨p, hp, hpe⟩ := List.mem_filterMap.1 he
  obtain ⟨a, ha, _, e1, _⟩ := attrEntry_some ht hpe
  rw [e1]
  exact ⟨List.mem_map.2 ⟨p, hp, rfl⟩, mem_keys_of_get? ha⟩

theorem relHist_keys {t : Typ} (ht : TypWF t) (l : GoMap RelRaw) (f : GoString) :
    f ∈ (l.filterMap (relEntry t)).map (·.1) →
      (∃ p ∈ l, p.1 = f ∧ p.2.present = true) ∧ f ∈ t.rels.keys := by
  intro h
  obtain ⟨e, he, rfl⟩ := List.mem_map.1 h
  obtain ⟨p, hp, hpe⟩ := List.mem_filterMap.1 he
  obtain ⟨rel, hr, hv, e1, _⟩ := relEntry_some ht hpe
  rw [e1]
  refine ⟨⟨p, hp, rfl, ?_⟩, mem_keys_of_get? hr⟩
  rw [← relValue_isSome rel p.2, hv]; rfl

theorem mem_fullHist_keys {t : Typ} (ht : TypWF t) (sk : ResSke) (f : GoString)
    (h : f ∈ (fullHist t sk).map (·.1)) :
    f = idName ∨ (f ∈ keys sk.attrs ∧ f ∈ t.attrs.keys) ∨
      ((∃ p ∈ sk.rels, p.1 = f ∧ p.2.present = true) ∧ f ∈ t.rels.keys) := by
  simp only [fullHist, List.map_cons, List.map_append, List.mem_cons, List.mem_append] at h
  exact h.imp id (Or.imp (attrHist_keys ht _ _) (relHist_keys ht _ _))

theorem id_not_mem_hist {t : Typ} (ht : TypWF t) (hn : Spec.namesOk t = true) (sk : ResSke) :
    idName ∉ (sk.attrs.filterMap (attrEntry t) ++ sk.rels.filterMap (relEntry t)).map (·.1) := by
  rw [List.map_append, List.mem_append]
  rintro (h | h)
  · exact (namesOk_mem hn (List.mem_append_left _ (attrHist_keys ht _ _ h).2)).1 rfl
  · exact (namesOk_mem hn (List.mem_append_right _ (relHist_keys ht _ _ h).2)).1 rfl

theorem fullHist_nodup {t : Typ} (ht : TypWF t) (hn : Spec.namesOk t = true) (sk : ResSke)
    (hA : sk.attrs.keys.Nodup) (hR : sk.rels.keys.Nodup) : ((fullHist t sk).map (·.1)).Nodup := by
  have sA := filterMap_keys_sublist (attrEntry t)
    (fun p e he => (attrEntry_some ht he).choose_spec.2.2.1) sk.attrs
  have sR := filterMap_keys_sublist (relEntry t)
    (fun p e he => (relEntry_some ht he).choose_spec.2.2.1) sk.rels
  refine List.nodup_cons.2 ⟨id_not_mem_hist ht hn sk, ?_⟩
  rw [List.map_append, List.nodup_append]
  exact ⟨sA.nodup hA, sR.nodup hR, fun a ha b hb e =>
    ht.disj a (attrHist_keys ht _ _ ha).2 (e ▸ (relHist_keys ht _ _ hb).2)⟩

theorem specId_fullHist {t : Typ} (ht : TypWF t) (hn : Spec.namesOk t = true) (sk : ResSke) :
    Spec.specId (fullHist t sk) = sk.id :=
  specId_append_of_not_mem [idEntry sk] _ (id_not_mem_hist ht hn sk)

theorem mem_fullHist_attr {t : Typ} (sk : ResSke) {p : GoString × RawVal} (hp : p ∈ sk.attrs)
    {e : GoString × GoVal} (he : attrEntry t p = some e) : e ∈ fullHist t sk :=
  List.mem_cons_of_mem _ (List.mem_append_left _ (List.mem_filterMap.2 ⟨p, hp, he⟩))

theorem mem_fullHist_rel {t : Typ} (sk : ResSke) {p : GoString × RelRaw} (hp : p ∈ sk.rels)
    {e : GoString × GoVal} (he : relEntry t p = some e) : e ∈ fullHist t sk :=
  List.mem_cons_of_mem _ (List.mem_append_right _ (List.mem_filterMap.2 ⟨p, hp, he⟩))

end UnmL
end Jsonapi
