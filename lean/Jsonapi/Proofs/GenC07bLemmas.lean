/-
Lemmas and definitions for Props/GenC07b: how the structures the translator generates from the
Go struct declarations (`Gen.SimpleURL`, `Gen.Params`, `Gen.URL`) are read as the hand-written
model's (`SimpleURL`, `Params`, `URL` of Model/Url.lean), how a Go result pair `(*T, error)` /
`(T, error)` is read as the model's `Res`, and the list facts the proofs use.
-/
import Jsonapi.Generated.Funcs
import Jsonapi.Model.Url
import Jsonapi.Proofs.UrlLemmas
import Jsonapi.Props.GenC15
namespace Jsonapi

/-- the model's view of a translated `SimpleURL` (the model does not keep `Route`) -/
def SimpleURL.ofGen (g : Gen.SimpleURL) : SimpleURL :=
  { fragments := g.fragments, fields := g.fields, filterLabel := g.filterLabel, filter := g.filter,
    sortingRules := g.sortingRules, page := g.page, incl := g.include_ }

/-- the model's view of a translated `Params` (the model does not keep `Attrs`, `Rels`, `RelData`) -/
def Params.ofGen (g : Gen.Params) : Params :=
  { fields := g.fields, filterLabel := g.filterLabel, filter := g.filter,
    sortingRules := g.sortingRules, page := g.page, incl := g.include_ }

/-- the model's view of a translated `URL` (the model does not keep `Route`, `RelKind`,
`BelongsToFilter`; a nil `Params` pointer reads as the default) -/
def URL.ofGen (g : Gen.URL) : URL :=
  { fragments := g.fragments, isCol := g.isCol, resType := g.resType, resID := g.resID, rel := g.rel,
    params := (g.params.map Params.ofGen).getD default }

/-- A Go result `(*T, error)` represents the model's outcome `m` through the view `f`:
`(p, nil)` with `p` non-nil and `f *p` the model's value, or `(nil, err)` with `err` non-nil. -/
def PtrPairIs {α β : Type} (f : α → β) (r : Option α × Res Unit) (m : Res β) : Prop :=
  match m with
  | .ok b => ∃ a, r = (some a, .ok ()) ∧ f a = b
  | .err => r = (none, .err)
  | .panic => r = (none, .panic)

/-- A Go result `(T, error)` represents the model's outcome `m` through the view `f`: the error
is nil exactly when the model succeeds, and then `f` of the value is the model's value (the
value that accompanies a non-nil error is not compared: the model drops it). -/
def ValPairIs {α β : Type} (f : α → β) (r : α × Res Unit) (m : Res β) : Prop :=
  match m with
  | .ok b => r.2 = .ok () ∧ f r.1 = b
  | .err => r.2 = .err
  | .panic => r.2 = .panic

theorem ValPairIs.of_ok {α β : Type} {f : α → β} {r : α × Res Unit} {m : Res β} (h : ValPairIs f r m)
    (hok : r.2 = .ok ()) : m = .ok (f r.1) := by
  cases m with
  | ok b => rw [← h.2]
  | err => exact nomatch hok.symm.trans h
  | panic => exact nomatch hok.symm.trans h

theorem ValPairIs.of_not_ok {α β : Type} {f : α → β} {r : α × Res Unit} {m : Res β} (h : ValPairIs f r m)
    (hne : r.2 ≠ .ok ()) : (m = .err ∧ r.2 = .err) ∨ (m = .panic ∧ r.2 = .panic) := by
  cases m with
  | ok b => exact absurd h.1 hne
  | err => exact .inl ⟨rfl, h⟩
  | panic => exact .inr ⟨rfl, h⟩

namespace GenC07b
open GoMap

theorem getD_length_sub_one (l : List GoString) :
    l.getD (l.length - 1) [] = l.getLast?.getD [] := by
  rw [List.getD_eq_getElem?_getD, List.getLast?_eq_getElem?]

theorem take_drop_dropLast (l : GoString) (k : Nat) : List.drop k (List.take (l.length - 1) l) = (l.drop k).dropLast := by
  rw [List.dropLast_eq_take, List.length_drop, List.drop_take]
  congr 1
  omega

theorem int_lt_length (k : Nat) (l : GoString) : decide ((k : Int) < (l.length : Int)) = decide (l.length > k) := by
  simp

theorem foldl_append_flatMap {α β : Type} (f : α → List β) (l : List α) (acc : List β) :
    l.foldl (fun acc x => acc ++ f x) acc = acc ++ l.flatMap f :=
  foldl_append_eq_flatMap l f _ (fun _ _ _ => rfl) acc

/-- What the state `(s, ret')` of a translated loop with early `return` says of the model's outcome:
no return yet and the states related, or a return value (with an error) where the model fails. -/
def EarlyIs {σ τ ρ : Type} (R : σ → τ → Prop) (P : ρ → Prop) (out : σ × Option ρ) : Res τ → Prop
  | .ok t => out.2 = none ∧ R out.1 t
  | .err => ∃ r, out.2 = some r ∧ P r
  | .panic => False

/-- a loop with early exit, as the translator renders it (the state carries `ret'` and is left
alone once it is set), against the model's `rfold`; `I` may speak of the entries still to come -/
theorem fold_early {α σ τ ρ : Type} (f : σ × Option ρ → α → σ × Option ρ) (g : τ → α → Res τ)
    (R : σ → τ → Prop) (P : ρ → Prop) (I : List α → σ → Prop)
    (hstop : ∀ s r a, f (s, some r) a = (s, some r))
    (hstep : ∀ a rest s t, I (a :: rest) s → R s t →
      EarlyIs (fun s' t' => R s' t' ∧ I rest s') P (f (s, none) a) (g t a)) :
    ∀ (l : List α) (s : σ) (t : τ), I l s → R s t →
      EarlyIs R P (l.foldl f (s, none)) (UrlL.rfold g (.ok t) l) := by
  have stuck : ∀ (l : List α) s r, l.foldl f (s, some r) = (s, some r) :=
    fun l s r => foldl_fix f _ (hstop s r) l
  intro l
  induction l with
  | nil => intro s t _ hR; exact ⟨rfl, hR⟩
  | cons a rest ih =>
    intro s t hI hR
    have h := hstep a rest s t hI hR
    rw [List.foldl_cons, UrlL.rfold]
    cases hg : g t a with
    | ok t' =>
      rw [hg] at h
      rw [show f (s, none) a = ((f (s, none) a).1, none) from Prod.ext rfl h.1]
      exact ih _ _ h.2.2 h.2.1
    | err =>
      rw [hg] at h
      obtain ⟨r, h1, hP⟩ := h
      rw [UrlL.rfold_err, show f (s, none) a = ((f (s, none) a).1, some r) from Prod.ext rfl h1, stuck]
      exact ⟨r, rfl, hP⟩
    | panic => rw [hg] at h; exact h.elim

theorem foldl_sorting (f : GoString → List GoString) (vs : List GoString) (s : Gen.SimpleURL) :
    vs.foldl (fun (g : Gen.SimpleURL) e => { g with sortingRules := g.sortingRules ++ f e }) s =
      { s with sortingRules := s.sortingRules ++ vs.flatMap f } := by
  induction vs generalizing s with
  | nil => cases s; simp
  | cons a t ih => simp [ih, List.append_assoc]

theorem foldl_include (f : GoString → List GoString) (vs : List GoString) (s : Gen.SimpleURL) :
    vs.foldl (fun (g : Gen.SimpleURL) e => { g with include_ := g.include_ ++ f e }) s =
      { s with include_ := s.include_ ++ vs.flatMap f } := by
  induction vs generalizing s with
  | nil => cases s; simp
  | cons a t ih => simp [ih, List.append_assoc]

theorem foldl_ext {α β : Type} (f g : β → α → β) (h : ∀ s a, f s a = g s a) (l : List α) (init : β) :
    l.foldl f init = l.foldl g init :=
  (funext fun s => funext (h s) : f = g) ▸ rfl

/-- `make([]string, len(l))` followed by `copy(dst, l)` -/
theorem make_copy (l : List GoString) :
    (l.take (List.replicate l.length ([] : GoString)).length) ++ ((List.replicate l.length ([] : GoString)).drop l.length) = l := by
  simp

/-! ### the pruning loop (params.go, right to left) -/

def pruneStep (incs : List GoString) (i : Nat) : List GoString :=
  if (decide ((0 : Int) < Int.ofNat i)) then
    (if (decide (incs.getD i [] = incs.getD (i - 1) []) || hasPrefix (incs.getD i []) (incs.getD (i - 1) [] ++ [46])) then
      incs.take (i - 1) ++ incs.drop i
    else incs)
  else incs

theorem pruneIncludes_ne_nil (a : GoString) (l : List GoString) : pruneIncludes (a :: l) ≠ [] := by
  unfold pruneIncludes
  split
  · simp
  · split <;> simp

theorem pruneStep_at (pre : List GoString) (a b : GoString) (rest' : List GoString) :
    pruneStep (pre ++ a :: b :: rest') (pre.length + 1) =
      pre ++ (if extendsPath b a then b :: rest' else a :: b :: rest') := by
  have g1 : (pre ++ a :: b :: rest').getD (pre.length + 1) [] = b := by
    have := getD_append_at (pre ++ [a]) b rest' ([] : GoString)
    simpa using this
  have g0 : (pre ++ a :: b :: rest').getD (pre.length + 1 - 1) [] = a := by
    simpa using getD_append_at pre a (b :: rest') ([] : GoString)
  have t0 : (pre ++ a :: b :: rest').take (pre.length + 1 - 1) = pre := by
    simp
  have d0 : (pre ++ a :: b :: rest').drop (pre.length + 1) = b :: rest' := by
    have := List.drop_left' (l₁ := pre ++ [a]) (l₂ := b :: rest') (i := pre.length + 1) (by simp)
    simpa using this
  have hpos : decide ((0 : Int) < Int.ofNat (pre.length + 1)) = true := by
    simp only [decide_eq_true_eq, Int.ofNat_eq_natCast]; omega
  unfold pruneStep extendsPath
  rw [hpos, g1, g0, t0, d0]
  simp only [if_true]
  by_cases h : (decide (b = a) || hasPrefix b (a ++ [46])) = true
  · simp only [h, if_true]
  · simp only [h]; simp

theorem pruneStep_zero (l : List GoString) : pruneStep l 0 = l := by
  simp [pruneStep]

theorem prune_fold_aux : ∀ (n : Nat) (pre suf : List GoString), pre.length = n → suf ≠ [] →
    (List.range (n + 1)).reverse.foldl pruneStep (pre ++ pruneIncludes suf) = pruneIncludes (pre ++ suf) := by
  intro n
  induction n with
  | zero =>
    intro pre suf hp _
    have : pre = [] := List.eq_nil_of_length_eq_zero hp
    subst this
    simp [pruneStep_zero]
  | succ n ih =>
    intro pre suf hp hs
    rcases List.eq_nil_or_concat pre with h | ⟨pre', a, h⟩
    · subst h; simp at hp
    · subst h
      have hp' : pre'.length = n := by simpa using hp
      rw [List.range_succ, List.reverse_append, List.reverse_singleton, List.singleton_append, List.foldl_cons]
      obtain ⟨s0, srest, hs0⟩ : ∃ s0 srest, suf = s0 :: srest := by
        cases suf with
        | nil => exact absurd rfl hs
        | cons s0 srest => exact ⟨s0, srest, rfl⟩
      obtain ⟨b, rest', hb⟩ : ∃ b rest', pruneIncludes suf = b :: rest' := by
        cases h : pruneIncludes suf with
        | nil => rw [hs0] at h; exact absurd h (pruneIncludes_ne_nil _ _)
        | cons b r => exact ⟨b, r, rfl⟩
      have e1 : pre'.concat a ++ pruneIncludes suf = pre' ++ a :: b :: rest' := by
        rw [hb]; simp
      have e2 : pruneStep (pre' ++ a :: b :: rest') (n + 1) = pre' ++ pruneIncludes (a :: suf) := by
        rw [← hp', pruneStep_at]
        congr 1
        rw [pruneIncludes, hb]
      rw [e1, e2]
      have := ih pre' (a :: suf) hp' (by simp)
      rw [this]
      simp

theorem prune_fold (l : List GoString) :
    (List.range l.length).reverse.foldl pruneStep l = pruneIncludes l := by
  rcases List.eq_nil_or_concat l with h | ⟨pre, a, h⟩
  · subst h; rfl
  · subst h
    have := prune_fold_aux pre.length pre [a] rfl (by simp)
    simpa [pruneIncludes] using this

/-! ### the inclusion check loop (params.go "Check inclusions") -/

def zeroRel : Rel := { fromType := [], fromName := [], toOne := false, toType := [], toName := [], fromOne := false }

/-- one word of one include, as the translated inner loop does it; the state is
(incRel, incs, params, brk') -/
def walkStep (σ : Schema) (i : Nat) (st : Rel × List GoString × Gen.Params × Bool) (w : GoString) :
    Rel × List GoString × Gen.Params × Bool :=
  if st.2.2.2 then st else
  if decide ((σ.getType st.1.toType).name ≠ []) then
    if ((σ.getType st.1.toType).rels.get? w).isSome &&
        Gen.Schema_HasType σ (((σ.getType st.1.toType).rels.get? w).getD zeroRel).toType then
      (((σ.getType st.1.toType).rels.get? w).getD zeroRel, st.2.1,
        { st.2.2.1 with fields := GoMap.set st.2.2.1.fields (((σ.getType st.1.toType).rels.get? w).getD zeroRel).toType [] },
        false)
    else (((σ.getType st.1.toType).rels.get? w).getD zeroRel, st.2.1.take i ++ st.2.1.drop (i + 1), st.2.2.1, true)
  else (st.1, st.2.1, st.2.2.1, false)

theorem walk_brk (σ : Schema) (i : Nat) (ws : List GoString) (st : Rel × List GoString × Gen.Params × Bool)
    (h : st.2.2.2 = true) : ws.foldl (walkStep σ i) st = st :=
  foldl_fix _ _ (fun w => by unfold walkStep; rw [if_pos h]) ws

theorem walk_fold (σ : Schema) (i : Nat) : ∀ (ws : List GoString) (rel : Rel) (incs : List GoString) (p : Gen.Params),
    ∃ rel', ws.foldl (walkStep σ i) (rel, incs, p, false) =
      (rel', (if (checkInclusions.walk σ rel.toType ws).2 then incs else incs.take i ++ incs.drop (i + 1)),
        { p with fields := (checkInclusions.walk σ rel.toType ws).1.foldl (fun (m : GoMap (List GoString)) t => m.set t []) p.fields },
        !(checkInclusions.walk σ rel.toType ws).2) := by
  intro ws
  induction ws with
  | nil => intro rel incs p; exact ⟨rel, by simp [checkInclusions.walk]⟩
  | cons w ws ih =>
    intro rel incs p
    simp only [List.foldl_cons]
    unfold checkInclusions.walk
    by_cases hn : (σ.getType rel.toType).name = []
    · have e : walkStep σ i (rel, incs, p, false) w = (rel, incs, p, false) := by
        unfold walkStep; simp [hn]
      rw [e]
      simp only [hn, if_true]
      exact ih rel incs p
    · cases hr : (σ.getType rel.toType).rels.get? w with
      | none =>
        have e : walkStep σ i (rel, incs, p, false) w = (zeroRel, incs.take i ++ incs.drop (i + 1), p, true) := by
          unfold walkStep; simp [hn, hr]
        rw [e, walk_brk _ _ _ _ rfl]
        exact ⟨zeroRel, by simp [hn, hr]⟩
      | some r =>
        by_cases ht : σ.hasType r.toType = true
        · have e : walkStep σ i (rel, incs, p, false) w =
              (r, incs, { p with fields := GoMap.set p.fields r.toType [] }, false) := by
            unfold walkStep; simp [hn, hr, ht, Gen_Schema_HasType_eq]
          rw [e]
          obtain ⟨rel', h'⟩ := ih r incs { p with fields := GoMap.set p.fields r.toType [] }
          refine ⟨rel', ?_⟩
          rw [h']
          simp [hn, hr, ht]
        · have e : walkStep σ i (rel, incs, p, false) w = (r, incs.take i ++ incs.drop (i + 1), p, true) := by
            unfold walkStep; simp [hn, hr, ht, Gen_Schema_HasType_eq]
          rw [e, walk_brk _ _ _ _ rfl]
          exact ⟨r, by simp [hn, hr, ht]⟩

theorem walk_false_resolve (σ : Schema) : ∀ (ws : List GoString) (cur : GoString),
    (checkInclusions.walk σ cur ws).2 = false → resolvePath.go σ cur ws = none := by
  intro ws
  induction ws with
  | nil => intro cur h; simp [checkInclusions.walk] at h
  | cons w ws ih =>
    intro cur h
    unfold checkInclusions.walk at h
    unfold resolvePath.go
    by_cases hn : (σ.getType cur).name = []
    · cases hr : (σ.getType cur).rels.get? w <;> simp [hn, hr]
    · cases hr : (σ.getType cur).rels.get? w with
      | none => simp [hr]
      | some r =>
        by_cases ht : σ.hasType r.toType = true
        · simp only [hn, hr, ht, if_false, if_true] at h
          have := ih r.toType h
          simp [hn, hr, ht, this]
        · simp [hr, ht]

def checkStep (σ : Schema) (rt : GoString) (st : List GoString × Gen.Params) (i : Nat) : List GoString × Gen.Params :=
  if !(decide (i < st.1.length)) then st else
    ((((splitOn 46 (st.1.getD i [])).foldl (walkStep σ i) ({ zeroRel with toType := rt }, st.1, st.2, false)).2.1),
     (((splitOn 46 (st.1.getD i [])).foldl (walkStep σ i) ({ zeroRel with toType := rt }, st.1, st.2, false)).2.2.1))

theorem check_noop (σ : Schema) (rt : GoString) (l : List GoString) (p : Gen.Params) :
    ∀ (k s : Nat), l.length ≤ s → (List.range' s k).foldl (checkStep σ rt) (l, p) = (l, p) := by
  intro k
  induction k with
  | zero => intro s _; rfl
  | succ k ih =>
    intro s hs
    rw [List.range'_succ, List.foldl_cons]
    have : checkStep σ rt (l, p) s = (l, p) := by
      unfold checkStep
      have : ¬ s < l.length := by omega
      simp [this]
    rw [this]
    exact ih (s + 1) (by omega)

theorem checkInclusions_cons_ok (σ : Schema) (rt inc : GoString) (rest : List GoString)
    (h : (checkInclusions.walk σ rt (splitOn 46 inc)).2 = true) :
    checkInclusions σ rt (inc :: rest) = (checkInclusions.walk σ rt (splitOn 46 inc)).1 ++ checkInclusions σ rt rest := by
  conv => lhs; rw [checkInclusions.eq_def]
  simp [h]

theorem checkInclusions_cons_bad (σ : Schema) (rt inc : GoString) (rest : List GoString)
    (h : (checkInclusions.walk σ rt (splitOn 46 inc)).2 = false) :
    checkInclusions σ rt (inc :: rest) = (checkInclusions.walk σ rt (splitOn 46 inc)).1 ++ checkInclusions σ rt rest.tail := by
  conv => lhs; rw [checkInclusions.eq_def]
  cases rest with
  | nil => simp [h, checkInclusions]
  | cons r rest' => simp [h]

theorem check_fold (σ : Schema) (rt : GoString) : ∀ (k : Nat) (pre suf : List GoString) (p : Gen.Params),
    suf.length ≤ k →
    ∃ suf', (List.range' pre.length k).foldl (checkStep σ rt) (pre ++ suf, p) =
        (pre ++ suf', { p with fields := (checkInclusions σ rt suf).foldl (fun (m : GoMap (List GoString)) t => m.set t []) p.fields }) ∧
      suf'.filterMap (fun inc => resolvePath σ rt (splitOn 46 inc)) =
        suf.filterMap (fun inc => resolvePath σ rt (splitOn 46 inc)) := by
  intro k
  induction k with
  | zero =>
    intro pre suf p hs
    have : suf = [] := List.eq_nil_of_length_eq_zero (by omega)
    subst this
    refine ⟨[], ?_, rfl⟩
    simp [checkInclusions]
  | succ k ih =>
    intro pre suf p hs
    cases suf with
    | nil =>
      refine ⟨[], ?_, rfl⟩
      rw [check_noop σ rt _ p _ _ (by simp)]
      simp [checkInclusions]
    | cons inc rest =>
      rw [List.range'_succ, List.foldl_cons]
      obtain ⟨rel', hw⟩ := walk_fold σ pre.length (splitOn 46 inc) { zeroRel with toType := rt } (pre ++ inc :: rest) p
      have hstep : checkStep σ rt (pre ++ inc :: rest, p) pre.length =
          ((if (checkInclusions.walk σ rt (splitOn 46 inc)).2 then pre ++ inc :: rest else pre ++ rest),
           { p with fields := (checkInclusions.walk σ rt (splitOn 46 inc)).1.foldl (fun (m : GoMap (List GoString)) t => m.set t []) p.fields }) := by
        unfold checkStep
        have hlt : pre.length < (pre ++ inc :: rest).length := by simp
        have hget : (pre ++ inc :: rest).getD pre.length [] = inc := getD_append_at pre inc rest []
        simp only [hlt, decide_true, Bool.not_true, Bool.false_eq_true, if_false, hget, hw]
        congr 1
        split
        · rfl
        · have t0 : (pre ++ inc :: rest).take pre.length = pre := by simp
          have d0 : (pre ++ inc :: rest).drop (pre.length + 1) = rest := by
            have := List.drop_left' (l₁ := pre ++ [inc]) (l₂ := rest) (i := pre.length + 1) (by simp)
            simpa using this
          rw [t0, d0]
      rw [hstep]
      cases hok : (checkInclusions.walk σ rt (splitOn 46 inc)).2 with
      | true =>
        simp only [if_true]
        obtain ⟨s', h1, h2⟩ := ih (pre ++ [inc]) rest
          { p with fields := (checkInclusions.walk σ rt (splitOn 46 inc)).1.foldl (fun (m : GoMap (List GoString)) t => m.set t []) p.fields }
          (by simp at hs; omega)
        refine ⟨inc :: s', ?_, ?_⟩
        · have e : (pre ++ [inc]).length = pre.length + 1 := by simp
          rw [e] at h1
          simp only [List.append_assoc, List.singleton_append] at h1
          rw [h1, checkInclusions_cons_ok σ rt inc rest hok, List.foldl_append]
        · simp only [List.filterMap_cons, h2]
      | false =>
        simp only [Bool.false_eq_true, if_false]
        have hres : resolvePath σ rt (splitOn 46 inc) = none := walk_false_resolve σ _ _ hok
        cases rest with
        | nil =>
          refine ⟨[], ?_, ?_⟩
          · rw [check_noop σ rt _ _ _ _ (by simp)]
            rw [checkInclusions_cons_bad σ rt inc [] hok]
            simp [checkInclusions]
          · simp [hres]
        | cons r rest' =>
          obtain ⟨s', h1, h2⟩ := ih (pre ++ [r]) rest'
            { p with fields := (checkInclusions.walk σ rt (splitOn 46 inc)).1.foldl (fun (m : GoMap (List GoString)) t => m.set t []) p.fields }
            (by simp at hs; omega)
          refine ⟨r :: s', ?_, ?_⟩
          · have e : (pre ++ [r]).length = pre.length + 1 := by simp
            rw [e] at h1
            simp only [List.append_assoc, List.singleton_append] at h1
            rw [h1, checkInclusions_cons_bad σ rt inc (r :: rest') hok, List.foldl_append]
            rfl
          · simp only [List.filterMap_cons, h2, hres]

/-! ### building `params.Include` -/

/-- one word of one include in the loop that builds the path; the state is (incRel, path, brk') with
`path : Option (List Rel)` (a slice that is set to nil on failure) -/
def pathStep (σ : Schema) (st : Rel × Option (List Rel) × Bool) (w : GoString) : Rel × Option (List Rel) × Bool :=
  if st.2.2 then st else
  if decide ((σ.getType st.1.toType).name = []) || !((σ.getType st.1.toType).rels.get? w).isSome ||
      !Gen.Schema_HasType σ (((σ.getType st.1.toType).rels.get? w).getD zeroRel).toType then
    (st.1, none, true)
  else (((σ.getType st.1.toType).rels.get? w).getD zeroRel,
    some (st.2.1.getD [] ++ [((σ.getType st.1.toType).rels.get? w).getD zeroRel]), false)

theorem path_brk (σ : Schema) (ws : List GoString) (st : Rel × Option (List Rel) × Bool) (h : st.2.2 = true) :
    ws.foldl (pathStep σ) st = st :=
  foldl_fix _ _ (fun w => by unfold pathStep; rw [if_pos h]) ws

theorem path_fold (σ : Schema) : ∀ (ws : List GoString) (rel : Rel) (acc : List Rel),
    ∃ rel' b, ws.foldl (pathStep σ) (rel, some acc, false) =
      (rel', (resolvePath.go σ rel.toType ws).map (fun l => acc ++ l), b) := by
  intro ws
  induction ws with
  | nil => intro rel acc; exact ⟨rel, false, by simp [resolvePath.go]⟩
  | cons w ws ih =>
    intro rel acc
    simp only [List.foldl_cons]
    unfold resolvePath.go
    cases hr : (σ.getType rel.toType).rels.get? w with
    | none =>
      have e : pathStep σ (rel, some acc, false) w = (rel, none, true) := by unfold pathStep; simp [hr]
      rw [e, path_brk _ _ _ rfl]
      exact ⟨rel, true, by simp [hr]⟩
    | some r =>
      by_cases hc : (decide ((σ.getType rel.toType).name = []) || !σ.hasType r.toType) = true
      · have e : pathStep σ (rel, some acc, false) w = (rel, none, true) := by
          unfold pathStep; simp [hr, hc, Gen_Schema_HasType_eq]
        rw [e, path_brk _ _ _ rfl]
        exact ⟨rel, true, by simp [hr, hc]⟩
      · have e : pathStep σ (rel, some acc, false) w = (r, some (acc ++ [r]), false) := by
          unfold pathStep; simp [hr, hc, Gen_Schema_HasType_eq]
        rw [e]
        obtain ⟨rel', b, h'⟩ := ih r (acc ++ [r])
        refine ⟨rel', b, ?_⟩
        rw [h']
        simp only [hr, hc]
        cases resolvePath.go σ r.toType ws <;> simp

def inclStep (σ : Schema) (rt : GoString) (p : Gen.Params) (inc : GoString) : Gen.Params :=
  if (((splitOn 46 inc).foldl (pathStep σ) ({ zeroRel with toType := rt }, some [], false)).2.1).isSome then
    { p with include_ := p.include_ ++ [(((splitOn 46 inc).foldl (pathStep σ) ({ zeroRel with toType := rt }, some [], false)).2.1).getD []] }
  else p

theorem incl_fold (σ : Schema) (rt : GoString) (incs : List GoString) (p : Gen.Params) :
    incs.foldl (inclStep σ rt) p =
      { p with include_ := p.include_ ++ incs.filterMap (fun inc => resolvePath σ rt (splitOn 46 inc)) } := by
  induction incs generalizing p with
  | nil => cases p; simp
  | cons inc rest ih =>
    simp only [List.foldl_cons, List.filterMap_cons]
    obtain ⟨rel', b, h⟩ := path_fold σ (splitOn 46 inc) { zeroRel with toType := rt } []
    have hs : inclStep σ rt p inc =
        (match resolvePath σ rt (splitOn 46 inc) with
          | some l => { p with include_ := p.include_ ++ [l] }
          | none => p) := by
      unfold inclStep resolvePath
      rw [h]
      cases resolvePath.go σ rt (splitOn 46 inc) <;> simp
    rw [hs, ih]
    cases resolvePath σ rt (splitOn 46 inc) <;> simp

/-! ### the fields validation (params.go "Fields") -/

theorem set_set {β : Type} (m : GoMap β) (k : GoString) (a b : β) : GoMap.set (GoMap.set m k a) k b = GoMap.set m k b := by
  induction m with
  | nil => simp [GoMap.set]
  | cons p m ih =>
    obtain ⟨k', v'⟩ := p
    by_cases h : k' = k
    · subst h; simp [GoMap.set]
    · simp [GoMap.set, h, ih]

theorem foldl_first_some {α ρ : Type} (c : α → Bool) (E : ρ) (l : List α) :
    l.foldl (fun (ret : Option ρ) x => match ret with | some _ => ret | none => if c x then some E else none) none =
      if l.any c then some E else none := by
  have stuck : ∀ (l : List α) (r : ρ), l.foldl (fun (ret : Option ρ) x => match ret with | some _ => ret | none => if c x then some E else none) (some r) = some r :=
    fun l r => foldl_fix _ _ (fun _ => rfl) l
  induction l with
  | nil => rfl
  | cons a t ih =>
    simp only [List.foldl_cons, List.any_cons]
    by_cases h : c a = true
    · simp only [h, if_true, stuck, Bool.true_or]
    · have h' : c a = false := by simpa using h
      simp only [h', Bool.false_eq_true, if_false, Bool.false_or]
      exact ih

def selInner (t f : GoString) (p : Gen.Params) (ff : GoString) : Gen.Params :=
  if decide (f = ff) then { p with fields := GoMap.set p.fields t (((GoMap.get? p.fields t).getD []) ++ [f]) } else p

def selStep (typ : Typ) (t : GoString) (p : Gen.Params) (f : GoString) : Gen.Params :=
  if decide (f = idName) then { p with fields := GoMap.set p.fields t (((GoMap.get? p.fields t).getD []) ++ [idName]) }
  else typ.fields.foldl (selInner t f) p

theorem selInner_fold (t f : GoString) (p0 : Gen.Params) (m : GoMap (List GoString)) :
    ∀ (l : List GoString) (acc : List GoString),
      l.foldl (selInner t f) { p0 with fields := GoMap.set m t acc } =
        { p0 with fields := GoMap.set m t (acc ++ l.filter (fun ff => decide (ff = f))) } := by
  intro l
  induction l with
  | nil => intro acc; simp
  | cons a l ih =>
    intro acc
    simp only [List.foldl_cons, List.filter_cons]
    by_cases h : a = f
    · subst h
      have : selInner t a { p0 with fields := GoMap.set m t acc } a = { p0 with fields := GoMap.set m t (acc ++ [a]) } := by
        simp [selInner, get?_set_self, set_set]
      rw [this, ih]; simp
    · have h' : ¬ f = a := fun e => h e.symm
      have : selInner t f { p0 with fields := GoMap.set m t acc } a = { p0 with fields := GoMap.set m t acc } := by
        simp [selInner, h']
      rw [this, ih]; simp [h]

theorem sel_fold (typ : Typ) (t : GoString) (p0 : Gen.Params) (m : GoMap (List GoString)) :
    ∀ (fs : List GoString) (acc : List GoString),
      fs.foldl (selStep typ t) { p0 with fields := GoMap.set m t acc } =
        { p0 with fields := GoMap.set m t (acc ++ UrlL.Perm.sel typ fs) } := by
  intro fs
  induction fs with
  | nil => intro acc; simp [UrlL.Perm.sel]
  | cons f fs ih =>
    intro acc
    simp only [List.foldl_cons]
    by_cases h : f = idName
    · have : selStep typ t { p0 with fields := GoMap.set m t acc } f = { p0 with fields := GoMap.set m t (acc ++ [idName]) } := by
        simp [selStep, h, get?_set_self, set_set]
      rw [this, ih]
      simp [UrlL.Perm.sel, h]
    · have : selStep typ t { p0 with fields := GoMap.set m t acc } f =
          { p0 with fields := GoMap.set m t (acc ++ typ.fields.filter (fun ff => decide (ff = f))) } := by
        simp only [selStep, h, decide_false, Bool.false_eq_true, if_false]
        exact selInner_fold t f p0 m typ.fields acc
      rw [this, ih]
      simp [UrlL.Perm.sel, h]

/-- the two nested index loops that look for a duplicate -/
def dupInner {ρ : Type} (a : List GoString) (E : ρ) (i : Nat) (ret : Option ρ) (j : Nat) : Option ρ :=
  match ret with
  | some _ => ret
  | none => if decide (a.getD i [] = a.getD j []) then some E else none

def dupOuter {ρ : Type} (a : List GoString) (E : ρ) (ret : Option ρ) (i : Nat) : Option ρ :=
  match ret with
  | some _ => ret
  | none =>
    match (List.range' (i + 1) (a.length - (i + 1))).foldl (dupInner a E i) none with
    | some r => some r
    | none => none

theorem not_nodup_iff (a : List GoString) :
    ¬ a.Nodup ↔ ∃ i, i < a.length ∧ ∃ j, (i + 1 ≤ j ∧ j < i + 1 + (a.length - (i + 1))) ∧ a.getD i [] = a.getD j [] := by
  have hget : ∀ i (hi : i < a.length), a.getD i [] = a[i] := fun i hi => by
    rw [List.getD_eq_getElem?_getD, List.getElem?_eq_getElem hi]; rfl
  rw [List.Nodup, List.pairwise_iff_getElem]
  constructor
  · intro h
    apply Classical.byContradiction
    intro hne
    exact h fun i j hi hj hij e => hne ⟨i, hi, j, ⟨hij, by omega⟩, by rw [hget i hi, hget j hj, e]⟩
  · rintro ⟨i, hi, j, ⟨h1, h2⟩, e⟩ h
    have hj : j < a.length := by omega
    rw [hget i hi, hget j hj] at e
    exact h i j hi hj h1 e

theorem dup_fold {ρ : Type} (a : List GoString) (E : ρ) :
    (List.range a.length).foldl (dupOuter a E) none = if a.Nodup then none else some E := by
  have inner : ∀ i, (List.range' (i + 1) (a.length - (i + 1))).foldl (dupInner a E i) none =
      if (List.range' (i + 1) (a.length - (i + 1))).any (fun j => decide (a.getD i [] = a.getD j [])) then some E else none :=
    fun i => foldl_first_some (fun j => decide (a.getD i [] = a.getD j [])) E _
  have outer : (List.range a.length).foldl (dupOuter a E) none =
      if (List.range a.length).any (fun i => (List.range' (i + 1) (a.length - (i + 1))).any (fun j => decide (a.getD i [] = a.getD j []))) then some E else none := by
    rw [← foldl_first_some]
    apply foldl_ext
    intro s i
    cases s with
    | some r => rfl
    | none => simp only [dupOuter, inner]; split <;> next h => exact h.symm
  rw [outer]
  by_cases hnd : a.Nodup
  · rw [if_pos hnd, if_neg]
    simpa only [List.any_eq_true, List.mem_range, List.mem_range'_1, decide_eq_true_eq] using
      mt (not_nodup_iff a).2 (fun h => h hnd)
  · rw [if_neg hnd, if_pos]
    simpa only [List.any_eq_true, List.mem_range, List.mem_range'_1, decide_eq_true_eq] using (not_nodup_iff a).1 hnd
/-! ### filling the empty selections (params.go, `for t := range params.Fields`) -/

theorem set_append_of_not_mem {β : Type} (pre suf : GoMap β) (k : GoString) (v v' : β) (h : k ∉ GoMap.keys pre) :
    GoMap.set (pre ++ (k, v) :: suf) k v' = pre ++ (k, v') :: suf := by
  induction pre with
  | nil => simp [GoMap.set]
  | cons p pre ih =>
    obtain ⟨k', w⟩ := p
    have hk : k' ≠ k := by intro e; subst e; exact h (by simp [GoMap.keys])
    have h' : k ∉ GoMap.keys pre := by intro hm; exact h (by simp [GoMap.keys] at hm ⊢; exact Or.inr hm)
    simp only [List.cons_append, GoMap.set, hk, if_false, ih h']

def fillStep (σ : Schema) (p : Gen.Params) (e : GoString × List GoString) : Gen.Params :=
  if decide ((((GoMap.get? p.fields e.1).getD []).length : Int) = 0) then
    { p with fields := GoMap.set p.fields e.1 (σ.getType e.1).fields }
  else p

theorem fillDefault_append (σ : Schema) (a b : GoMap (List GoString)) :
    UrlL.fillDefault σ (a ++ b) = UrlL.fillDefault σ a ++ UrlL.fillDefault σ b := by
  simp [UrlL.fillDefault]

theorem fill_fold (σ : Schema) (p0 : Gen.Params) : ∀ (suf pre : GoMap (List GoString)),
    (GoMap.keys (pre ++ suf)).Nodup →
    suf.foldl (fillStep σ) { p0 with fields := UrlL.fillDefault σ pre ++ suf } =
      { p0 with fields := UrlL.fillDefault σ (pre ++ suf) } := by
  intro suf
  induction suf with
  | nil => intro pre _; simp
  | cons e suf ih =>
    intro pre hnd
    obtain ⟨k, v⟩ := e
    have hk : k ∉ GoMap.keys (UrlL.fillDefault σ pre) := by
      rw [UrlL.keys_fillDefault]
      intro hm
      simp only [GoMap.keys, List.map_append, List.map_cons] at hnd hm
      have := (List.nodup_append.1 hnd).2.2 k hm k (by simp)
      exact this rfl
    have hget : GoMap.get? (UrlL.fillDefault σ pre ++ (k, v) :: suf) k = some v := by
      rw [GoMap.get?_append_of_not_mem _ _ _ hk]; simp [GoMap.get?]
    have hstep : fillStep σ { p0 with fields := UrlL.fillDefault σ pre ++ (k, v) :: suf } (k, v) =
        { p0 with fields := UrlL.fillDefault σ (pre ++ [(k, v)]) ++ suf } := by
      unfold fillStep
      simp only [hget, Option.getD_some]
      rw [fillDefault_append]
      cases v with
      | nil =>
        simp only [List.length_nil, Int.natCast_zero, decide_true, if_true]
        rw [set_append_of_not_mem _ _ _ _ _ hk]
        simp [UrlL.fillDefault]
      | cons a t =>
        have : ¬ (((a :: t).length : Int) = 0) := by simp only [List.length_cons]; omega
        simp only [this, decide_false, Bool.false_eq_true, if_false]
        simp [UrlL.fillDefault]
    simp only [List.foldl_cons]
    rw [hstep]
    have := ih (pre ++ [(k, v)]) (by simpa using hnd)
    simpa using this

/-! ### the sorting rules (params.go "Sorting") -/

/-- `urule := rule; if urule[0] == '-' { urule = urule[1:] }` on a non-empty rule -/
theorem strip_eq (rule : GoString) (h : rule ≠ []) :
    (if decide (rule.getD 0 (0 : UInt8) = (45 : UInt8)) then rule.drop 1 else rule) = Spec.stripDash rule := by
  cases rule with
  | nil => exact absurd rfl h
  | cons c r =>
    simp only [List.getD_cons_zero, List.drop_succ_cons, List.drop_zero]
    by_cases hc : c = 45
    · subst hc; simp [Spec.stripDash]
    · simp only [hc, decide_false, Bool.false_eq_true, if_false]
      unfold Spec.stripDash
      split
      · rename_i r' heq; cases heq; exact absurd rfl hc
      · rfl

/-- `for _, attr := range typ.Attrs { if urule == attr.Name { sr = append(sr, rule); break } }`; the state is (sr, brk') -/
def matchStep (urule rule : GoString) (st : List GoString × Bool) (e : GoString × Attr) : List GoString × Bool :=
  if st.2 then st else if decide (urule = e.2.name) then (st.1 ++ [rule], true) else (st.1, false)

theorem match_fold (urule rule : GoString) : ∀ (attrs : GoMap Attr) (sr : List GoString),
    (attrs.foldl (matchStep urule rule) (sr, false)).1 =
      if (attrs.vals.map (·.name)).contains urule then sr ++ [rule] else sr := by
  have stuck : ∀ (attrs : GoMap Attr) (sr : List GoString), attrs.foldl (matchStep urule rule) (sr, true) = (sr, true) :=
    fun attrs sr => foldl_fix _ _ (fun _ => rfl) attrs
  intro attrs
  induction attrs with
  | nil => intro sr; simp [GoMap.vals]
  | cons e t ih =>
    intro sr
    simp only [List.foldl_cons, GoMap.vals, List.map_cons, List.contains_cons]
    by_cases h : urule = e.2.name
    · have : matchStep urule rule (sr, false) e = (sr ++ [rule], true) := by simp [matchStep, h]
      rw [this, stuck]; simp [h]
    · have : matchStep urule rule (sr, false) e = (sr, false) := by simp [matchStep, h]
      rw [this, ih]
      have h' : (urule == e.2.name) = false := by simpa using h
      simp only [GoMap.vals, h', Bool.false_or]
      rfl

/-- the first loop over `su.SortingRules`; the state is (idFound, sortingRules, ret') -/
def rule1Step {ρ : Type} (typ : Typ) (PANIC : ρ) (st : Bool × List GoString × Option ρ) (rule : GoString) :
    Bool × List GoString × Option ρ :=
  match st.2.2 with
  | some _ => st
  | none =>
    if decide (0 < rule.length) then
      if decide ((if decide (rule.getD 0 (0 : UInt8) = (45 : UInt8)) then rule.drop 1 else rule) = idName) then
        (true, st.2.1 ++ [rule], none)
      else
        (st.1, (typ.attrs.foldl (matchStep (if decide (rule.getD 0 (0 : UInt8) = (45 : UInt8)) then rule.drop 1 else rule) rule) (st.2.1, false)).1, none)
    else (st.1, st.2.1, some PANIC)

theorem rule1_fold {ρ : Type} (typ : Typ) (PANIC : ρ) : ∀ (l : List GoString) (idf : Bool) (sr : List GoString),
    (∀ r ∈ l, r ≠ []) →
    l.foldl (rule1Step typ PANIC) (idf, sr, none) =
      (idf || l.any (fun rule => decide (Spec.stripDash rule = idName)),
       sr ++ l.filter (fun rule => decide (Spec.stripDash rule = idName) || (typ.attrs.vals.map (·.name)).contains (Spec.stripDash rule)),
       none) := by
  intro l
  induction l with
  | nil => intro idf sr _; simp
  | cons rule l ih =>
    intro idf sr hne
    have hr : rule ≠ [] := hne rule List.mem_cons_self
    have hl : ∀ r ∈ l, r ≠ [] := fun r hm => hne r (List.mem_cons_of_mem _ hm)
    have hpos : decide (0 < rule.length) = true := decide_eq_true (List.length_pos_iff.2 hr)
    simp only [List.foldl_cons, List.any_cons, List.filter_cons]
    by_cases hid : Spec.stripDash rule = idName
    · have : rule1Step typ PANIC (idf, sr, none) rule = (true, sr ++ [rule], none) := by
        simp only [rule1Step, hpos, if_true, strip_eq rule hr, hid, decide_true]
      rw [this, ih _ _ hl]
      have hd : decide (Spec.stripDash rule = idName) = true := by simp [hid]
      simp only [hd, Bool.true_or, Bool.or_true, if_true, List.append_assoc, List.singleton_append]
    · have : rule1Step typ PANIC (idf, sr, none) rule =
          (idf, (if (typ.attrs.vals.map (·.name)).contains (Spec.stripDash rule) then sr ++ [rule] else sr), none) := by
        simp only [rule1Step, hpos, if_true, strip_eq rule hr, hid, decide_false, Bool.false_eq_true, if_false, match_fold]
      rw [this, ih _ _ hl]
      have hd : decide (Spec.stripDash rule = idName) = false := by simp [hid]
      by_cases hc : (typ.attrs.vals.map (·.name)).contains (Spec.stripDash rule) = true
      · simp only [hd, hc, Bool.false_or, if_true, List.append_assoc, List.singleton_append]
      · have hc' : (typ.attrs.vals.map (·.name)).contains (Spec.stripDash rule) = false := by simpa using hc
        simp only [hd, hc', Bool.false_or, Bool.false_eq_true, if_false]

/-- the loop over the rules kept that looks for the attribute `name`; the state is (found, brk', ret') -/
def foundStep {ρ : Type} (name : GoString) (PANIC : ρ) (st : Bool × Bool × Option ρ) (rule : GoString) :
    Bool × Bool × Option ρ :=
  match st.2.2 with
  | some _ => st
  | none =>
    if st.2.1 then st else
    if decide (0 < rule.length) then
      if decide ((if decide (rule.getD 0 (0 : UInt8) = (45 : UInt8)) then rule.drop 1 else rule) = name) then (true, true, none)
      else (st.1, false, none)
    else (st.1, false, some PANIC)

theorem found_fold {ρ : Type} (name : GoString) (PANIC : ρ) : ∀ (sr : List GoString), (∀ r ∈ sr, r ≠ []) →
    ∃ b, sr.foldl (foundStep name PANIC) (false, false, none) =
      (sr.any (fun rule => decide (Spec.stripDash rule = name)), b, none) := by
  have stuck : ∀ (sr : List GoString), sr.foldl (foundStep name PANIC) (true, true, none) = (true, true, none) :=
    foldl_fix _ _ (fun _ => rfl)
  intro sr
  induction sr with
  | nil => intro _; exact ⟨false, rfl⟩
  | cons rule sr ih =>
    intro hne
    have hr : rule ≠ [] := hne rule List.mem_cons_self
    have hl : ∀ r ∈ sr, r ≠ [] := fun r hm => hne r (List.mem_cons_of_mem _ hm)
    have hpos : decide (0 < rule.length) = true := decide_eq_true (List.length_pos_iff.2 hr)
    simp only [List.foldl_cons, List.any_cons]
    by_cases hn : Spec.stripDash rule = name
    · have : foundStep name PANIC (false, false, none) rule = (true, true, none) := by
        simp only [foundStep, hpos, if_true, strip_eq rule hr, hn, decide_true, Bool.false_eq_true, if_false]
      rw [this, stuck]
      have hd : decide (Spec.stripDash rule = name) = true := by simp [hn]
      exact ⟨true, by simp only [hd, Bool.true_or]⟩
    · have : foundStep name PANIC (false, false, none) rule = (false, false, none) := by
        simp only [foundStep, hpos, if_true, strip_eq rule hr, hn, decide_false, Bool.false_eq_true, if_false]
      rw [this]
      obtain ⟨b, hb⟩ := ih hl
      have hd : decide (Spec.stripDash rule = name) = false := by simp [hn]
      exact ⟨b, by rw [hb]; simp only [hd, Bool.false_or]⟩

/-- the loop over `typ.Attrs` that collects the attributes no rule names; the state is (restOfRules, ret') -/
def rule2Step {ρ : Type} (sr : List GoString) (PANIC : ρ) (st : List GoString × Option ρ) (e : GoString × Attr) :
    List GoString × Option ρ :=
  match st.2 with
  | some _ => st
  | none =>
    match (sr.foldl (foundStep e.2.name PANIC) (false, false, none)).2.2 with
    | some p => (st.1, some p)
    | none =>
      ((if !(sr.foldl (foundStep e.2.name PANIC) (false, false, none)).1 then st.1 ++ [e.2.name] else st.1), none)

theorem rule2_fold {ρ : Type} (sr : List GoString) (PANIC : ρ) (hsr : ∀ r ∈ sr, r ≠ []) :
    ∀ (attrs : GoMap Attr) (rest : List GoString),
    attrs.foldl (rule2Step sr PANIC) (rest, none) =
      (rest ++ (attrs.vals.map (·.name)).filter (fun a => !sr.any (fun rule => decide (Spec.stripDash rule = a))), none) := by
  intro attrs
  induction attrs with
  | nil => intro rest; simp [GoMap.vals]
  | cons e t ih =>
    intro rest
    obtain ⟨b, hb⟩ := found_fold e.2.name PANIC sr hsr
    have : rule2Step sr PANIC (rest, none) e =
        ((if !(sr.any (fun rule => decide (Spec.stripDash rule = e.2.name))) then rest ++ [e.2.name] else rest), none) := by
      simp only [rule2Step, hb]
    simp only [List.foldl_cons, this, ih, GoMap.vals, List.map_cons, List.filter_cons]
    by_cases hc : (sr.any (fun rule => decide (Spec.stripDash rule = e.2.name))) = true
    · simp only [hc, Bool.not_true, Bool.false_eq_true, if_false]
    · have hc' : (sr.any (fun rule => decide (Spec.stripDash rule = e.2.name))) = false := by simpa using hc
      simp only [hc', Bool.not_false, if_true, List.append_assoc, List.singleton_append]

end GenC07b
end Jsonapi
