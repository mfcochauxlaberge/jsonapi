/-
The round trip of one resource (C01, also used for the resources of a document in C02): the
skeleton `encoding/json` decodes from a resource object of the specification, what
unmarshaling makes of its relationship objects, the domain `ResDom`, and the round trip for
an arbitrary field selection.
-/
import Jsonapi.Proofs.RoundTripLemmas
import Jsonapi.Props.C04
import Jsonapi.Props.C05
import Jsonapi.Props.C06
namespace Jsonapi
namespace RtL
open GoMap UnmL MarshalL

/-! ### maps obtained by decoding the members of an object -/

def decMembers {β : Type} (g : Json → β) (l : List (GoString × Json)) : GoMap β :=
  l.map (fun p => (p.1, g p.2))

theorem get?_decMembers {β : Type} (g : Json → β) (l : List (GoString × Json)) (k : GoString) :
    GoMap.get? (decMembers g l) k = ((Json.obj l).get? k).map g := by
  induction l with
  | nil => rfl
  | cons p l ih =>
    obtain ⟨k', v⟩ := p
    by_cases h : k' = k
    · simp [decMembers, GoMap.get?, Json.get?, h]
    · have ih' : GoMap.get? (List.map (fun p => (p.1, g p.2)) l) k =
          Option.map g (Option.map (·.2) (List.find? (fun p => decide (p.1 = k)) l)) := ih
      simp [decMembers, GoMap.get?, Json.get?, h, ih']

theorem keys_decMembers {β : Type} (g : Json → β) (l : List (GoString × Json)) :
    keys (decMembers g l) = l.map (·.1) := by
  simp [decMembers, keys]

theorem mem_decMembers {β : Type} {g : Json → β} {l : List (GoString × Json)} {p : GoString × β}
    (h : p ∈ decMembers g l) : ∃ j, (p.1, j) ∈ l ∧ p.2 = g j := by
  simp only [decMembers, List.mem_map] at h
  obtain ⟨q, hq, rfl⟩ := h
  exact ⟨q.2, hq, rfl⟩

theorem sortMembers_nil : sortMembers [] = [] := by simp [sortMembers]

theorem keys_sorted_nodup {l : List (GoString × Json)} (h : (l.map (·.1)).Nodup) :
    ((sortMembers l).map (·.1)).Nodup :=
  ((sortMembers_perm l).map _).nodup_iff.2 h

/-! ### the skeleton of a resource object of the specification -/

theorem resObj_get_kmeta (r : ResView) (prepath : GoString) (fields : List GoString)
    (relData : GoMap (List GoString)) :
    (Spec.resourceObject r prepath fields relData).get? K.kmeta = none := by
  rw [resourceObject_eq]
  apply get?_sortMembers_none
  unfold topMembers
  cases (attrMembers r fields).isEmpty <;>
  cases (relMembers r prepath fields (wantOf r relData) r.rels).isEmpty <;>
  (simp only [Bool.false_eq_true, if_false, if_true, List.append_nil, List.cons_append,
    List.nil_append, List.map_cons, List.map_nil, List.isEmpty_nil]; decide)

theorem skeleton_eq (c : Spec.Codecs) (r : ResView) (prepath : GoString) (fields : List GoString)
    (relData : GoMap (List GoString)) :
    Spec.skeletonOf c (Spec.resourceObject r prepath fields relData) =
      { id := r.id, typ := r.typeName,
        attrs := decMembers (Spec.rawOf c) (sortMembers (attrMembers r fields)),
        rels := decMembers Spec.relRawOf
          (sortMembers (relMembers r prepath fields (wantOf r relData) r.rels)),
        smeta := [] } := by
  unfold Spec.skeletonOf
  rw [resObj_get_id, resObj_get_type, resObj_get_attributes, resObj_get_relationships,
    resObj_get_kmeta]
  congr 1
  · split
    · rename_i h
      rw [List.isEmpty_iff] at h
      rw [h, sortMembers_nil]; rfl
    · rfl
  · split
    · rename_i h
      rw [List.isEmpty_iff] at h
      rw [h, sortMembers_nil]; rfl
    · rfl

/-! ### relationship objects -/

theorem identOf_identifierJson (id t : GoString) :
    Spec.identOf (identifierJson id t) = some (id, t) := by
  have h : ¬ K.id = K.type := by decide
  simp [Spec.identOf, identifierJson, Json.get?, h]

theorem decIdents_identifiers (ids : List GoString) (t : GoString) :
    ((ids.map (fun id => identifierJson id t)).map Spec.identOf).foldr
      (fun x acc => match x, acc with
        | some i, some rest => some (i :: rest) | _, _ => none) (some []) =
    some (ids.map (fun id => (id, t))) := by
  induction ids with
  | nil => rfl
  | cons x l ih =>
    simp only [List.map_cons, List.foldr_cons, identOf_identifierJson]
    rw [ih]

theorem relRawOf_noData (r : ResView) (prepath : GoString) (rel : Rel) :
    Spec.relRawOf (Spec.relObject r prepath rel false) =
      { present := false, isNull := false, decIdent := none, decIdents := none } := by
  have : (Spec.relObject r prepath rel false).get? K.data = none := by
    simp [Spec.relObject, Json.get?]; decide
  simp [Spec.relRawOf, this]

theorem relRawOf_data (r : ResView) (prepath : GoString) (rel : Rel) :
    Spec.relRawOf (Spec.relObject r prepath rel true) =
      (match Spec.relDataJson r rel with
      | .null => { present := true, isNull := true, decIdent := some ([], []), decIdents := some [] }
      | .arr l => { present := true, isNull := false, decIdent := none,
                    decIdents := (l.map Spec.identOf).foldr (fun x acc => match x, acc with
                         | some i, some rest => some (i :: rest) | _, _ => none) (some []) }
      | d => { present := true, isNull := false, decIdent := Spec.identOf d, decIdents := none }) := by
  unfold Spec.relRawOf
  rw [relObject_get_data]
  cases Spec.relDataJson r rel <;> rfl

/-- the two fields of the schema's relationship that unmarshaling looks at agree with the
resource's -/
def RelAgree (rel rel' : Rel) : Prop := rel'.toOne = rel.toOne ∧ rel'.toType = rel.toType

theorem relValue_toOne (r : ResView) (prepath : GoString) {rel rel' : Rel} (ha : RelAgree rel rel')
    (hone : rel.toOne = true) {id : GoString} (hg : r.get rel.fromName = .val .string (.s id)) :
    relValue rel' (Spec.relRawOf (Spec.relObject r prepath rel true)) =
      (some (.val .string (.s id)), false) ∧
    (Spec.relRawOf (Spec.relObject r prepath rel true)).present = true := by
  rw [relRawOf_data]
  have hd : Spec.relDataJson r rel = if id = [] then .null else identifierJson id rel.toType := by
    simp [Spec.relDataJson, hone, hg]
  rw [hd]
  have ho : rel'.toOne = true := ha.1.trans hone
  by_cases h : id = []
  · subst h
    simp [relValue, ho]
  · simp only [h, if_false, identifierJson]
    have := identOf_identifierJson id rel.toType
    simp only [identifierJson] at this
    simp [relValue, ho, this, ha.2]

theorem relValue_toMany (r : ResView) (prepath : GoString) {rel rel' : Rel} (ha : RelAgree rel rel')
    (hmany : rel.toOne = false) {ids : List GoString} (hg : r.get rel.fromName = .strs ids) :
    relValue rel' (Spec.relRawOf (Spec.relObject r prepath rel true)) =
      (some (.strs (Typ.sortStrings ids)), false) ∧
    (Spec.relRawOf (Spec.relObject r prepath rel true)).present = true := by
  rw [relRawOf_data]
  have hd : Spec.relDataJson r rel =
      .arr ((Typ.sortStrings ids).map (fun id => identifierJson id rel.toType)) := by
    simp [Spec.relDataJson, hmany, hg]
  rw [hd]
  have ho : rel'.toOne = false := ha.1.trans hmany
  simp only [decIdents_identifiers]
  simp [relValue, ho, ha.2, List.map_map, Function.comp_def]

/-! ### the domain of C01 -/

/-- A resource of the schema type `st` in the domain of C01: a well-typed keyed view whose
attribute definitions are the type's, whose relationship definitions agree with the type's
on name, cardinality and target type, and whose attribute values are in the codec domain. -/
structure ResDom (c : Spec.Codecs) (st : SType) (r : ResView) : Prop where
  keyed : r.keyedWf
  tname : r.typeName = st.typ.name
  attrs : ∀ key a, r.attrs.get? key = some a ↔ st.typ.attrs.get? key = some a
  rels : ∀ key, (r.rels.get? key).map Spec.relCore = (st.typ.rels.get? key).map Spec.relCore
  dom : ∀ key ∈ r.attrs.keys, Spec.codecDom c (r.get key)

theorem getType_of_mem {σ : SSchema} (hnd : (σ.map (·.typ.name)).Nodup) {st : SType} (h : st ∈ σ) :
    σ.getType st.typ.name = some st := by
  unfold SSchema.getType
  induction σ with
  | nil => cases h
  | cons x l ih =>
    simp only [List.map_cons, List.nodup_cons] at hnd
    rcases List.mem_cons.1 h with rfl | h'
    · simp
    · have hne : x.typ.name ≠ st.typ.name := by
        intro e
        exact hnd.1 (e ▸ List.mem_map.2 ⟨st, h', rfl⟩)
      simp only [List.find?_cons, hne, decide_false]
      exact ih hnd.2 h'

theorem wf_attr {r : ResView} (hr : r.keyedWf) {p : GoString × Attr} (hp : p ∈ r.attrs) :
    r.attrs.get? p.1 = some p.2 ∧ p.1 = p.2.name ∧ p.1 ∉ r.rels.keys ∧
    ∃ k, Kind.ofCode? p.2.ty = some k ∧
      ((r.get p.1).hasAttrType k p.2.nullable = true ∨ (p.2.nullable = true ∧ r.get p.1 = .nil)) := by
  obtain ⟨hwf, hk, -, hnd⟩ := hr
  have hndA := (List.nodup_append.1 hnd).1
  have hget : r.attrs.get? p.1 = some p.2 := get?_of_mem_nodup hndA (by cases p; exact hp)
  unfold ResView.wf at hwf
  rw [Bool.and_eq_true] at hwf
  have h := (List.all_eq_true.1 hwf.1) p hp
  rw [hget] at h
  simp only [Bool.and_eq_true, Bool.not_eq_true'] at h
  obtain ⟨h1, h2⟩ := h
  refine ⟨hget, hk p hp, ?_, ?_⟩
  · intro hm
    have := has_iff_mem_keys.2 hm
    rw [this] at h1; cases h1
  · cases hc : Kind.ofCode? p.2.ty with
    | none => rw [hc] at h2; cases h2
    | some k =>
      rw [hc] at h2
      refine ⟨k, rfl, ?_⟩
      simpa using h2

theorem ResDom.attr_info {c : Spec.Codecs} {st : SType} {r : ResView} (hd : ResDom c st r)
    {a : Attr} (ha : a ∈ GoMap.vals r.attrs) :
    r.attrs.get? a.name = some a ∧ st.typ.attrs.get? a.name = some a ∧ a.name ∈ r.attrs.keys ∧
    ∃ v', unmarshalToType a (Spec.rawOf c (encodeAttr (r.get a.name))) = .ok v' ∧
      Spec.sameVal v' (r.get a.name) := by
  obtain ⟨p, hp, rfl⟩ := List.mem_map.1 ha
  obtain ⟨h1, h2, -, k, hk, hv⟩ := wf_attr hd.keyed hp
  rw [h2] at h1 hv
  have hmem : p.2.name ∈ r.attrs.keys := mem_keys_of_get? h1
  exact ⟨h1, (hd.attrs _ _).1 h1, hmem, value_roundtrip c p.2 k hk _ hv (hd.dom _ hmem)⟩

theorem ResDom.rel_agree {c : Spec.Codecs} {st : SType} {r : ResView} (hd : ResDom c st r)
    {f : GoString} {rel : Rel} (h : r.rels.get? f = some rel) :
    ∃ rel', st.typ.rels.get? f = some rel' ∧ RelAgree rel rel' := by
  have := hd.rels f
  rw [h] at this
  cases hs : st.typ.rels.get? f with
  | none => rw [hs] at this; cases this
  | some rel' =>
    rw [hs] at this
    simp only [Option.map_some, Option.some.injEq, Spec.relCore, Prod.mk.injEq] at this
    exact ⟨rel', rfl, this.2.1.symm, this.2.2.symm⟩

theorem ResDom.rel_info {c : Spec.Codecs} {st : SType} {r : ResView} (hd : ResDom c st r)
    {rel : Rel} (h : rel ∈ GoMap.vals r.rels) :
    r.rels.get? rel.fromName = some rel ∧ rel.fromName ∈ r.rels.keys ∧
    ∃ rel', st.typ.rels.get? rel.fromName = some rel' ∧ RelAgree rel rel' := by
  obtain ⟨p, hp, rfl⟩ := List.mem_map.1 h
  have hndR := (List.nodup_append.1 hd.keyed.2.2.2).2.1
  have hget : r.rels.get? p.2.fromName = some p.2 := by
    rw [← hd.keyed.2.2.1 p hp]; exact get?_of_mem_nodup hndR (by cases p; exact hp)
  exact ⟨hget, mem_keys_of_get? hget, hd.rel_agree hget⟩

theorem relValue_relObject {r : ResView} (hr : r.keyedWf) (prepath : GoString) {rel rel' : Rel}
    (hrel : rel ∈ GoMap.vals r.rels) (ha : RelAgree rel rel') (w : Bool) :
    ∃ x, relValue rel' (Spec.relRawOf (Spec.relObject r prepath rel w)) =
        (if w then some x else none, false) ∧
      (Spec.relRawOf (Spec.relObject r prepath rel w)).present = w ∧
      Spec.sameVal x (r.get rel.fromName) := by
  cases w with
  | false =>
    rw [relRawOf_noData]
    exact ⟨r.get rel.fromName, rfl, rfl, sameVal_refl _⟩
  | true =>
    rcases wf_rel_val hr hrel with ⟨hone, id, hg⟩ | ⟨hmany, ids, hg⟩
    · obtain ⟨h1, h2⟩ := relValue_toOne r prepath ha hone hg
      exact ⟨_, h1, h2, by rw [hg]; exact sameVal_refl _⟩
    · obtain ⟨h1, h2⟩ := relValue_toMany r prepath ha hmany hg
      refine ⟨_, h1, h2, ?_⟩
      rw [hg, sameVal_strs]
      exact sortStrings_perm ids

theorem mem_attrMembers {r : ResView} {fields : List GoString} {k : GoString} {j : Json}
    (h : (k, j) ∈ attrMembers r fields) :
    ∃ a ∈ GoMap.vals r.attrs, a.name ∈ fields ∧ k = a.name ∧ j = encodeAttr (r.get a.name) := by
  simp only [attrMembers, List.mem_map, List.mem_filter, List.contains_iff_mem] at h
  obtain ⟨a, ⟨ha, hf⟩, e⟩ := h
  cases e
  exact ⟨a, ha, hf, rfl, rfl⟩

theorem mem_relMembers {r : ResView} {prepath : GoString} {fields want : List GoString}
    {k : GoString} {j : Json} (h : (k, j) ∈ relMembers r prepath fields want r.rels) :
    ∃ rel ∈ GoMap.vals r.rels, rel.fromName ∈ fields ∧ k = rel.fromName ∧
      j = Spec.relObject r prepath rel (want.contains rel.fromName) := by
  simp only [relMembers, List.mem_map, List.mem_filter, List.contains_iff_mem] at h
  obtain ⟨a, ⟨ha, hf⟩, e⟩ := h
  cases e
  exact ⟨a, ha, hf, rfl, rfl⟩

theorem mem_sorted_of_dec {β : Type} {g : Json → β} {l : List (GoString × Json)} {p : GoString × β}
    (h : p ∈ decMembers g (sortMembers l)) : ∃ j, (p.1, j) ∈ l ∧ p.2 = g j := by
  obtain ⟨j, hj, e⟩ := mem_decMembers h
  exact ⟨j, (sortMembers_perm l).mem_iff.1 hj, e⟩

theorem get?_dec_sorted {β : Type} (g : Json → β) {l : List (GoString × Json)}
    (hnd : (l.map (·.1)).Nodup) {k : GoString} {j : Json} (h : (k, j) ∈ l) :
    GoMap.get? (decMembers g (sortMembers l)) k = some (g j) := by
  rw [get?_decMembers, get?_sortMembers_of_mem hnd h]; rfl

theorem get?_dec_sorted_some {β : Type} {g : Json → β} {l : List (GoString × Json)}
    {k : GoString} {x : β} (h : GoMap.get? (decMembers g (sortMembers l)) k = some x) :
    ∃ j, (k, j) ∈ l ∧ x = g j := by
  rw [get?_decMembers, Option.map_eq_some_iff] at h
  obtain ⟨j, hj, e⟩ := h
  exact ⟨j, mem_of_get?_sortMembers hj, e.symm⟩

theorem has_dec_sorted_false {β : Type} (g : Json → β) {l : List (GoString × Json)} {k : GoString}
    (h : k ∉ l.map (·.1)) : GoMap.has (decMembers g (sortMembers l)) k = false := by
  unfold GoMap.has
  rw [get?_decMembers, get?_sortMembers_none h]; rfl

theorem eq_of_name_eq {σ : SSchema} (hnd : (σ.map (·.typ.name)).Nodup) {a b : SType}
    (ha : a ∈ σ) (hb : b ∈ σ) (h : a.typ.name = b.typ.name) : a = b := by
  have h1 := getType_of_mem hnd ha
  have h2 := getType_of_mem hnd hb
  rw [h] at h1
  rw [h1] at h2
  exact Option.some.inj h2

theorem ResDom.keys_sub {c : Spec.Codecs} {st : SType} {r : ResView} (hd : ResDom c st r)
    {f : GoString} (hf : f ∈ r.attrs.keys ++ r.rels.keys) :
    f ∈ st.typ.attrs.keys ++ st.typ.rels.keys := by
  rcases List.mem_append.1 hf with h | h
  · obtain ⟨a, ha⟩ := mem_keys_get? h
    exact List.mem_append_left _ (mem_keys_of_get? ((hd.attrs _ _).1 ha))
  · obtain ⟨rel, hrel⟩ := mem_keys_get? h
    obtain ⟨rel', hs, -⟩ := hd.rel_agree hrel
    exact List.mem_append_right _ (mem_keys_of_get? hs)

/-! ### the round trip of one resource -/

/-- What comes back for a resource `r` marshaled with the selection `fields` and the
relationship-data list `want`: type, ID, every selected attribute and every selected and
requested relationship with the same value; every other field of the type reads its zero
value. -/
def RoundTrips (t : Typ) (fields want : List GoString) (r : ResView) (res : AnyRes) : Prop :=
  ∃ v', res.view? = some v' ∧ v'.typeName = r.typeName ∧ v'.id = r.id ∧
    (∀ f ∈ r.attrs.keys, f ∈ fields → Spec.sameVal (v'.get f) (r.get f)) ∧
    (∀ f ∈ r.rels.keys, f ∈ fields → f ∈ want → Spec.sameVal (v'.get f) (r.get f)) ∧
    (∀ f ∈ r.attrs.keys ++ r.rels.keys, (f ∉ fields ∨ (f ∈ r.rels.keys ∧ f ∉ want)) →
      Spec.canon (v'.get f) = Spec.zeroOf t f)

theorem resource_accepted (c : Spec.Codecs) (σ : SSchema) (hσ : σ.WF) (st : SType) (hst : st ∈ σ)
    (r : ResView) (hd : ResDom c st r) (prepath : GoString) (fields : List GoString)
    (relData : GoMap (List GoString)) :
    ∃ res, unmarshalResource σ (Spec.skeletonOf c (Spec.resourceObject r prepath fields relData))
      = .ok res := by
  rw [C05_accept_iff σ hσ, skeleton_eq]
  refine ⟨st, by rw [hd.tname]; exact getType_of_mem hσ.1 hst, ?_, ?_⟩
  · intro p hp
    obtain ⟨j, hj, e⟩ := mem_sorted_of_dec hp
    obtain ⟨a, ha, -, hk, rfl⟩ := mem_attrMembers hj
    obtain ⟨-, h2, -, v', hv', -⟩ := hd.attr_info ha
    exact ⟨a, v', by rw [hk]; exact h2, by rw [e]; exact hv'⟩
  · intro p hp
    obtain ⟨j, hj, e⟩ := mem_sorted_of_dec hp
    obtain ⟨rel, hrel, -, hk, rfl⟩ := mem_relMembers hj
    obtain ⟨-, -, rel', h2, hag⟩ := hd.rel_info hrel
    obtain ⟨x, hx, -, -⟩ := relValue_relObject hd.keyed prepath hrel hag
      ((wantOf r relData).contains rel.fromName)
    exact ⟨rel', by rw [hk]; exact h2, by rw [e, hx]⟩

theorem resource_roundtrip (c : Spec.Codecs) (σ : SSchema) (hσ : σ.WF) (st : SType) (hst : st ∈ σ)
    (r : ResView) (hd : ResDom c st r) (prepath : GoString) (fields : List GoString)
    (relData : GoMap (List GoString)) :
    ∃ res, unmarshalResource σ (Spec.skeletonOf c (Spec.resourceObject r prepath fields relData))
        = .ok res ∧ RoundTrips st.typ fields (wantOf r relData) r res := by
  obtain ⟨res, hres⟩ := resource_accepted c σ hσ st hst r hd prepath fields relData
  refine ⟨res, hres, ?_⟩
  have hr := hd.keyed
  have hndA := attrMembers_keys_nodup hr fields
  have hndR := relMembers_keys_nodup hr prepath fields (wantOf r relData)
  rw [skeleton_eq] at hres
  obtain ⟨st', hst', hname, v, hv, h1, h2, hA, hR, hZ⟩ := C06_stored σ hσ _ res
    (by rw [keys_decMembers]; exact keys_sorted_nodup hndA)
    (by rw [keys_decMembers]; exact keys_sorted_nodup hndR) hres
  simp only at hname h2 hA hR hZ
  have : st' = st := eq_of_name_eq hσ.1 hst' hst (by rw [hname, hd.tname])
  subst this
  refine ⟨v, hv, by rw [h1, hd.tname], h2, ?_, ?_, ?_⟩
  · -- selected attributes
    intro f hf hsel
    obtain ⟨a, ha⟩ := mem_keys_get? hf
    have hav : a ∈ GoMap.vals r.attrs := List.mem_map.2 ⟨(f, a), mem_of_get? ha, rfl⟩
    have hfa : f = a.name := hr.2.1 _ (mem_of_get? ha)
    subst hfa
    obtain ⟨-, hs, -, v', hv', hsame⟩ := hd.attr_info hav
    have hmem : (a.name, encodeAttr (r.get a.name)) ∈ attrMembers r fields := by
      simp only [attrMembers, List.mem_map, List.mem_filter, List.contains_iff_mem]
      exact ⟨a, ⟨hav, hsel⟩, rfl⟩
    obtain ⟨a', x, ha', hx, hc⟩ := hA a.name _ (get?_dec_sorted (Spec.rawOf c) hndA hmem)
    rw [hs] at ha'; cases ha'
    rw [hv'] at hx; cases hx
    exact sameVal_congr_left hc hsame
  · -- selected relationships whose data is requested
    intro f hf hsel hw
    obtain ⟨rel, hrel⟩ := mem_keys_get? hf
    have hrv : rel ∈ GoMap.vals r.rels := List.mem_map.2 ⟨(f, rel), mem_of_get? hrel, rfl⟩
    have hfr : f = rel.fromName := hr.2.2.1 _ (mem_of_get? hrel)
    subst hfr
    obtain ⟨-, -, rel', hs, hag⟩ := hd.rel_info hrv
    have hmem : (rel.fromName, Spec.relObject r prepath rel ((wantOf r relData).contains rel.fromName))
        ∈ relMembers r prepath fields (wantOf r relData) r.rels := by
      simp only [relMembers, List.mem_map, List.mem_filter, List.contains_iff_mem]
      exact ⟨rel, ⟨hrv, hsel⟩, rfl⟩
    obtain ⟨rel'', hs', -, hval⟩ := hR rel.fromName _ (get?_dec_sorted Spec.relRawOf hndR hmem)
    rw [hs] at hs'; cases hs'
    obtain ⟨x, hx, hp, hsame⟩ := relValue_relObject hr prepath hrv hag
      ((wantOf r relData).contains rel.fromName)
    have hwc : (wantOf r relData).contains rel.fromName = true := by simpa using hw
    rw [hwc] at hx hp hval
    have := hval hp
    rw [hx] at this
    simp only [if_true, Option.some.injEq] at this
    rw [← this]
    exact hsame
  · -- everything else: the zero value
    intro f hf hns
    apply hZ f (hd.keys_sub hf)
    · apply has_dec_sorted_false
      intro hk
      obtain ⟨⟨a, ha, rfl⟩, hsel⟩ := mem_keys_attrMembers.1 hk
      obtain ⟨-, -, hka, -⟩ := hd.attr_info ha
      rcases hns with h | ⟨h, -⟩
      · exact h hsel
      · have hnd := hr.2.2.2
        exact (List.nodup_append.1 hnd).2.2 _ hka _ h rfl
    · intro rv hrv
      obtain ⟨j, hj, rfl⟩ := get?_dec_sorted_some hrv
      obtain ⟨rel, hrel, hsel, rfl, rfl⟩ := mem_relMembers hj
      obtain ⟨-, hkr, rel', -, hag⟩ := hd.rel_info hrel
      obtain ⟨x, -, hp, -⟩ := relValue_relObject hr prepath hrel hag
        ((wantOf r relData).contains rel.fromName)
      rw [hp]
      rcases hns with h | ⟨-, h⟩
      · exact absurd hsel h
      · simpa using h

end RtL
end Jsonapi
