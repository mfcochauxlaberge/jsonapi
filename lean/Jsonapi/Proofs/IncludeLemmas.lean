/-
`Document.Include` (C03): the test it performs, that it touches the included list only, and
that distinct keys across primary data and included resources stay distinct over any history
of calls.
-/
import Jsonapi.Proofs.MarshalSpecLemmas
namespace Jsonapi.MarshalL
open Jsonapi

def resPair (r : ResView) : GoString × GoString := (r.typeName, r.id)

theorem resKey_of_resPair {a b : ResView} (h : resPair a = resPair b) : resKey a = resKey b := by
  simp only [resPair, Prod.mk.injEq] at h
  simp only [resKey, h.1, h.2]

theorem primaryKeys_eq (d : Document) : Spec.primaryKeys d = (docPrimary d).map resKey := by
  unfold Spec.primaryKeys docPrimary
  cases d.data <;> rfl

/-- `Include`'s test "the resource is already in the primary data" -/
def inPrimaryB (d : Document) (r : ResView) : Bool :=
  match d.data with
  | .res p => resKey p = resKey r
  | .col tn ms => (tn = [] || tn = r.typeName) && ms.any (fun m => resKey m = resKey r)
  | _ => false

theorem include_eq (d : Document) (r : ResView) :
    d.include r = if inPrimaryB d r = true then d
      else if d.included.any (fun x => resKey x = resKey r) = true then d
      else { d with included := d.included ++ [r] } := by
  unfold Document.include inPrimaryB
  cases d.data <;> rfl

theorem include_data (d : Document) (r : ResView) : (d.include r).data = d.data := by
  rw [include_eq]
  split
  · rfl
  · split <;> rfl

theorem docPrimary_congr {d d' : Document} (h : d'.data = d.data) : docPrimary d' = docPrimary d := by
  unfold docPrimary; rw [h]

/-- a typed collection holds resources of its type only -/
def TypedCol (d : Document) : Prop :=
  match d.data with
  | .col tn ms => tn ≠ [] → ∀ m ∈ ms, m.typeName = tn
  | _ => True

instance c04_decTypedCol (d : Document) : Decidable (TypedCol d) := by
  unfold TypedCol
  cases d.data <;> exact inferInstance

theorem TypedCol.col {d : Document} (h : TypedCol d) {tn : GoString} {ms : List ResView}
    (hd : d.data = .col tn ms) (htn : tn ≠ []) : ∀ m ∈ ms, m.typeName = tn := by
  unfold TypedCol at h
  rw [hd] at h
  exact h htn

theorem TypedCol.congr {d d' : Document} (h : TypedCol d) (hd : d'.data = d.data) : TypedCol d' := by
  unfold TypedCol at *
  rw [hd]; exact h

theorem inPrimaryB_of_mem {d : Document} {r m : ResView} (htyped : TypedCol d)
    (hm : m ∈ docPrimary d) (hk : resKey m = resKey r) (ht : m.typeName = r.typeName) :
    inPrimaryB d r = true := by
  unfold inPrimaryB
  unfold docPrimary at hm
  cases hd : d.data <;> simp only [hd, List.not_mem_nil, List.mem_singleton] at hm
  · subst hm; simpa using hk
  · rename_i tn ms
    simp only [Bool.and_eq_true, Bool.or_eq_true, decide_eq_true_eq, List.any_eq_true]
    refine ⟨?_, m, hm, hk⟩
    by_cases htn : tn = []
    · exact Or.inl htn
    · exact Or.inr ((htyped.col hd htn m hm).symm.trans ht)

theorem include_step {γ : Type} (f : ResView → γ)
    (hf : ∀ a b, f a = f b → resKey a = resKey b)
    (d : Document) (r : ResView) (htyped : TypedCol d)
    (hty : ∀ m ∈ docPrimary d, f m = f r → m.typeName = r.typeName)
    (hnd : ((docPrimary d ++ d.included).map f).Nodup) :
    ((docPrimary (d.include r) ++ (d.include r).included).map f).Nodup := by
  rw [docPrimary_congr (include_data d r), include_eq]
  split
  · exact hnd
  · rename_i hprim
    split
    · exact hnd
    · rename_i hinc
      simp only [List.any_eq_true, decide_eq_true_eq, not_exists, not_and] at hinc
      show ((docPrimary d ++ (d.included ++ [r])).map f).Nodup
      rw [← List.append_assoc, List.map_append, List.map_singleton,
        (List.perm_append_singleton _ _).nodup_iff, List.nodup_cons]
      refine ⟨fun hmem => ?_, hnd⟩
      obtain ⟨m, hm, hfm⟩ := List.mem_map.1 hmem
      rcases List.mem_append.1 hm with hp | hi
      · exact hprim (inPrimaryB_of_mem htyped hp (hf _ _ hfm) (hty m hp hfm))
      · exact hinc m hi (hf _ _ hfm)

theorem include_fold {γ : Type} (f : ResView → γ)
    (hf : ∀ a b, f a = f b → resKey a = resKey b) (ops : List ResView) :
    ∀ (d0 : Document), TypedCol d0 →
    (∀ r ∈ ops, ∀ m ∈ docPrimary d0, f m = f r → m.typeName = r.typeName) →
    ((docPrimary d0 ++ d0.included).map f).Nodup →
    (ops.foldl Document.include d0).data = d0.data ∧
    ((docPrimary (ops.foldl Document.include d0) ++
        (ops.foldl Document.include d0).included).map f).Nodup := by
  induction ops with
  | nil => intro d0 _ _ h; exact ⟨rfl, h⟩
  | cons r ops ih =>
    intro d0 htyped hty hnd
    simp only [List.foldl_cons]
    have hdata := include_data d0 r
    have hprim := docPrimary_congr hdata
    obtain ⟨h1, h2⟩ := ih (d0.include r)
      (htyped.congr hdata)
      (by intro x hx m hm; rw [hprim] at hm; exact hty x (List.mem_cons_of_mem _ hx) m hm)
      (include_step f hf d0 r htyped (hty r (List.mem_cons_self ..)) hnd)
    exact ⟨h1.trans hdata, h2⟩

theorem append_sep_inj {c : UInt8} : ∀ (x y s t : List UInt8), c ∉ s → c ∉ t →
    x ++ [c] ++ s = y ++ [c] ++ t → x = y ∧ s = t := by
  intro x
  induction x with
  | nil =>
    intro y s t hs ht h
    cases y with
    | nil => simp at h; exact ⟨rfl, h⟩
    | cons b y =>
      simp only [List.nil_append, List.cons_append, List.cons.injEq] at h
      exfalso; apply hs; rw [h.2]; simp
  | cons a x ih =>
    intro y s t hs ht h
    cases y with
    | nil =>
      simp only [List.nil_append, List.cons_append, List.cons.injEq] at h
      exfalso; apply ht; rw [← h.2]; simp
    | cons b y =>
      simp only [List.cons_append, List.cons.injEq] at h
      obtain ⟨h1, h2⟩ := ih y s t hs ht (by simpa using h.2)
      exact ⟨by rw [h.1, h1], h2⟩

theorem resKey_inj_of_noSpace {a b : ResView} (ha : (32 : UInt8) ∉ a.typeName)
    (hb : (32 : UInt8) ∉ b.typeName) (h : resKey a = resKey b) :
    a.typeName = b.typeName ∧ a.id = b.id := by
  obtain ⟨h1, h2⟩ := append_sep_inj a.id b.id a.typeName b.typeName ha hb h
  exact ⟨h2, h1⟩

/-- The key `id ++ " " ++ type` that Include compares determines the type, for the resources
handed to Include against those of the primary data. (True whenever type names contain no
space.) -/
def KeyFaithful (ops : List ResView) (d0 : Document) : Prop :=
  ∀ r ∈ ops, ∀ m ∈ docPrimary d0, resKey m = resKey r → m.typeName = r.typeName

end Jsonapi.MarshalL
