/-
Percent-encoding lemmas for C08: `Spec.unescape` inverts `queryEscape` / `pathEscape`,
the escaped text contains no structural byte, and continuation forms
(`unescape (escape s ++ rest)`) used by `UrlStringLemmas`.
-/
import Jsonapi.Proofs.UrlEmitDefs
namespace Jsonapi.UrlL.Esc
open Jsonapi

theorem hexUpper_spec : ∀ n < 16,
    Spec.hexVal? (hexUpper n) = some n ∧ isUnreserved (hexUpper n) = true := by decide

theorem ne_of_test {f : UInt8 → Bool} {c x : UInt8} (hc : f c = true) (hx : f x = false) :
    c ≠ x := fun e => Bool.noConfusion ((e ▸ hc).symm.trans hx)

/-! ### Rewriting lemmas for `Spec.unescape` (the only ones used afterwards) -/

theorem unescape_nil (p : Bool) : Spec.unescape p [] = some [] := by
  simp [Spec.unescape]

theorem unescape_cons_ne (p : Bool) {c : UInt8} (h : c ≠ 37) (rest : GoString) :
    Spec.unescape p (c :: rest) =
      (Spec.unescape p rest).map (fun r => (if p && c = 43 then 32 else c) :: r) := by
  rw [Spec.unescape.eq_4 p c rest (fun _ _ _ e _ => h e) h]
  cases Spec.unescape p rest <;> rfl

theorem unescape_lit (p : Bool) {c : UInt8} (h37 : c ≠ 37) (h43 : p = true → c ≠ 43)
    (rest : GoString) :
    Spec.unescape p (c :: rest) = (Spec.unescape p rest).map (fun r => c :: r) := by
  rw [unescape_cons_ne p h37]
  cases p
  · rfl
  · simp only [Bool.true_and, decide_eq_true_eq, if_neg (h43 rfl)]

theorem unescape_plus (rest : GoString) :
    Spec.unescape true (43 :: rest) = (Spec.unescape true rest).map (fun r => 32 :: r) :=
  unescape_cons_ne true (by decide) rest

theorem unescape_pctEncode (p : Bool) (c : UInt8) (rest : GoString) :
    Spec.unescape p (pctEncode c ++ rest) = (Spec.unescape p rest).map (fun r => c :: r) := by
  have hc := c.toNat_lt
  have e : UInt8.ofNat (c.toNat / 16 * 16 + c.toNat % 16) = c := by
    rw [Nat.div_add_mod']; exact UInt8.ofNat_toNat
  show Spec.unescape p (37 :: hexUpper (c.toNat / 16) :: hexUpper (c.toNat % 16) :: rest) = _
  rw [Spec.unescape.eq_2, (hexUpper_spec (c.toNat / 16) (by omega)).1,
    (hexUpper_spec (c.toNat % 16) (by omega)).1]
  cases Spec.unescape p rest with
  | none => rfl
  | some r => exact congrArg (fun b => some (b :: r)) e

theorem unescape_pct2C (p : Bool) (rest : GoString) :
    Spec.unescape p (pct2C ++ rest) = (Spec.unescape p rest).map (fun r => 44 :: r) :=
  unescape_pctEncode p 44 rest

/-! ### One byte of `queryEscape` / `pathEscape` -/

/-- the encoding of one byte by `url.QueryEscape` -/
def qe1 (c : UInt8) : GoString :=
  if isUnreserved c then [c] else if c = 32 then [43] else pctEncode c

/-- the bytes `url.PathEscape` leaves alone (`!shouldEscape(c, encodePathSegment)`) -/
def pathSafe (c : UInt8) : Bool :=
  isUnreserved c || c = 36 || c = 38 || c = 43 || c = 58 || c = 61 || c = 64

/-- the encoding of one byte by `url.PathEscape` -/
def pe1 (c : UInt8) : GoString := if pathSafe c then [c] else pctEncode c

theorem queryEscape_nil : queryEscape [] = [] := rfl
theorem pathEscape_nil : pathEscape [] = [] := rfl

theorem queryEscape_cons (c : UInt8) (s : GoString) :
    queryEscape (c :: s) = qe1 c ++ queryEscape s := rfl

theorem pathEscape_cons (c : UInt8) (s : GoString) :
    pathEscape (c :: s) = pe1 c ++ pathEscape s := rfl

theorem queryEscape_append (s t : GoString) :
    queryEscape (s ++ t) = queryEscape s ++ queryEscape t := List.flatMap_append

theorem pathEscape_append (s t : GoString) :
    pathEscape (s ++ t) = pathEscape s ++ pathEscape t := List.flatMap_append

theorem unescape_qe1 (c : UInt8) (rest : GoString) :
    Spec.unescape true (qe1 c ++ rest) = (Spec.unescape true rest).map (fun r => c :: r) := by
  unfold qe1
  split
  · next h => exact unescape_lit true (ne_of_test h rfl) (fun _ => ne_of_test h rfl) rest
  · split
    · next h => subst h; exact unescape_plus rest
    · exact unescape_pctEncode true c rest

theorem unescape_pe1 (c : UInt8) (rest : GoString) :
    Spec.unescape false (pe1 c ++ rest) = (Spec.unescape false rest).map (fun r => c :: r) := by
  unfold pe1
  split
  · next h => exact unescape_lit false (ne_of_test h rfl) (fun e => by cases e) rest
  · exact unescape_pctEncode false c rest

/-! ### Continuation forms and the main inversion theorems -/

theorem unescape_flatMap (p : Bool) (e : UInt8 → GoString)
    (he : ∀ c rest, Spec.unescape p (e c ++ rest) = (Spec.unescape p rest).map (fun r => c :: r))
    (s rest : GoString) :
    Spec.unescape p (s.flatMap e ++ rest) = (Spec.unescape p rest).map (fun r => s ++ r) := by
  induction s with
  | nil =>
    show Spec.unescape p rest = _
    cases Spec.unescape p rest <;> rfl
  | cons c s ih =>
    rw [List.flatMap_cons, List.append_assoc, he, ih]
    cases Spec.unescape p rest <;> rfl

theorem unescape_queryEscape_append (s rest : GoString) :
    Spec.unescape true (queryEscape s ++ rest) = (Spec.unescape true rest).map (fun r => s ++ r) :=
  unescape_flatMap true qe1 unescape_qe1 s rest

theorem unescape_pathEscape_append (s rest : GoString) :
    Spec.unescape false (pathEscape s ++ rest) =
      (Spec.unescape false rest).map (fun r => s ++ r) :=
  unescape_flatMap false pe1 unescape_pe1 s rest

theorem unescape_queryEscape (s : GoString) : Spec.unescape true (queryEscape s) = some s := by
  simpa [unescape_nil] using unescape_queryEscape_append s []

theorem unescape_pathEscape (s : GoString) : Spec.unescape false (pathEscape s) = some s := by
  simpa [unescape_nil] using unescape_pathEscape_append s []

/-! ### No structural byte in the escaped text -/

theorem pctEncode_mem {c x : UInt8} (h : x ∈ pctEncode c) :
    x = 37 ∨ isUnreserved x = true := by
  have hc := c.toNat_lt
  simp only [pctEncode, List.mem_cons, List.not_mem_nil, or_false] at h
  rcases h with h | h | h
  · exact Or.inl h
  · exact Or.inr (h ▸ (hexUpper_spec (c.toNat / 16) (by omega)).2)
  · exact Or.inr (h ▸ (hexUpper_spec (c.toNat % 16) (by omega)).2)

theorem qe1_mem {c x : UInt8} (h : x ∈ qe1 c) : isUnreserved x = true ∨ x = 37 ∨ x = 43 := by
  unfold qe1 at h
  split at h
  · next hu => exact Or.inl (List.mem_singleton.1 h ▸ hu)
  · split at h
    · exact Or.inr (Or.inr (List.mem_singleton.1 h))
    · exact (pctEncode_mem h).elim (fun e => Or.inr (Or.inl e)) Or.inl

theorem pe1_mem {c x : UInt8} (h : x ∈ pe1 c) : pathSafe x = true ∨ x = 37 := by
  unfold pe1 at h
  split at h
  · next hu => exact Or.inl (List.mem_singleton.1 h ▸ hu)
  · exact (pctEncode_mem h).symm.imp_left (fun hu => by rw [pathSafe, hu]; rfl)

theorem pe1_no_struct {c x : UInt8} (h : x ∈ pe1 c) : x ≠ 47 ∧ x ≠ 63 ∧ x ≠ 35 := by
  rcases pe1_mem h with h | rfl
  · exact ⟨ne_of_test h rfl, ne_of_test h rfl, ne_of_test h rfl⟩
  · decide

theorem queryEscape_mem {s : GoString} {x : UInt8} (h : x ∈ queryEscape s) :
    ∃ c ∈ s, x ∈ qe1 c := List.mem_flatMap.1 h

theorem pathEscape_mem {s : GoString} {x : UInt8} (h : x ∈ pathEscape s) :
    ∃ c ∈ s, x ∈ pe1 c := List.mem_flatMap.1 h

theorem queryEscape_no_struct (s : GoString) :
    ∀ c ∈ queryEscape s, c ≠ 38 ∧ c ≠ 61 ∧ c ≠ 63 ∧ c ≠ 35 := by
  intro x hx
  obtain ⟨c, _, hc⟩ := queryEscape_mem hx
  rcases qe1_mem hc with h | rfl | rfl
  · exact ⟨ne_of_test h rfl, ne_of_test h rfl, ne_of_test h rfl, ne_of_test h rfl⟩
  · decide
  · decide

theorem pathEscape_no_struct (s : GoString) :
    ∀ c ∈ pathEscape s, c ≠ 47 ∧ c ≠ 63 ∧ c ≠ 35 := by
  intro x hx
  obtain ⟨c, _, hc⟩ := pathEscape_mem hx
  exact pe1_no_struct hc

theorem queryEscape_no_amp (s : GoString) : (38 : UInt8) ∉ queryEscape s :=
  fun h => (queryEscape_no_struct s 38 h).1 rfl

theorem queryEscape_no_eq (s : GoString) : (61 : UInt8) ∉ queryEscape s :=
  fun h => (queryEscape_no_struct s 61 h).2.1 rfl

theorem pathEscape_no_q (s : GoString) : (63 : UInt8) ∉ pathEscape s :=
  fun h => (pathEscape_no_struct s 63 h).2.1 rfl

theorem queryEscape_eq_nil {s : GoString} (h : queryEscape s = []) : s = [] := by
  cases s with
  | nil => rfl
  | cons c s =>
    have : qe1 c = [] := (List.append_eq_nil_iff.1 h).1
    unfold qe1 pctEncode at this
    split at this
    · cases this
    · split at this <;> cases this

end Jsonapi.UrlL.Esc

section
open Jsonapi.UrlL.Esc
#print axioms unescape_queryEscape
#print axioms unescape_pathEscape
#print axioms queryEscape_no_struct
#print axioms pathEscape_no_struct
#print axioms unescape_queryEscape_append
#print axioms unescape_pathEscape_append
end
