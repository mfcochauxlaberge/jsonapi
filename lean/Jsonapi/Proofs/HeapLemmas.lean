/-
Helpers for C18 (copies and new instances are independent of their source), over the
heap model of `Jsonapi/Model/Heap.lean`.
Definitions used by the property statements: `Valid`, `ValidVal`, `Sep`, `FreshModes`,
`Content`, `content`, `contents`.
-/
import Jsonapi.Model.Heap
import Jsonapi.Proofs.GoMapLemmas
namespace Jsonapi
namespace HeapL

/-! ### Definitions used in the C18 statements -/

/-- A field value is well-formed in `h`: its slice address (if any) is allocated and holds
a cell of the right kind. -/
def ValidVal (h : Heap) : HVal → Prop
  | .bytes (some a) => ∃ l, h.read a = some (.bytes l)
  | .ptrBytes (some (some a)) => ∃ l, h.read a = some (.bytes l)
  | .strs (some a) => ∃ l, h.read a = some (.strs l)
  | _ => True

/-- A resource is well-formed in `h`: its type address holds a `.typ` cell and every field
value is well-formed. (`h.read a = some _` implies `a < h.cells.length`.) No `Nodup` on
`r.reach` is required: none of the C18 theorems needs it. -/
structure Valid (h : Heap) (r : HRes) : Prop where
  typ : ∃ t, h.read r.typ = some (.typ t)
  data : ∀ p ∈ r.data, ValidVal h p.2

/-- `a` reaches no cell that `b` reaches. -/
def Sep (a b : HRes) : Prop := ∀ x ∈ a.reach, x ∉ b.reach

/-- The copy stores a fresh slice for each of the three slice-carrying Go types. -/
def FreshModes (mode : String → StoreMode) : Prop :=
  mode "[]uint8" = .fresh ∧ mode "[]string" = .fresh ∧ mode "*[]uint8" = .fresh

instance decFreshModes (mode : String → StoreMode) : Decidable (FreshModes mode) := by
  unfold FreshModes; exact inferInstance

/-- Address-free reading of a field value: what a reader of the resource sees. -/
inductive Content where
  | scalar (v : GoVal)
  | bytes (l : Option (List UInt8))
  | ptrBytes (l : Option (Option (List UInt8)))
  | strs (l : Option (List GoString))
  | dangling   -- unallocated or wrong kind of cell (excluded by `Valid`)

def content (h : Heap) : HVal → Content
  | .scalar v => .scalar v
  | .bytes none => .bytes none
  | .bytes (some a) => (match h.read a with
      | some (.bytes l) => .bytes (some l)
      | _ => .dangling)
  | .ptrBytes none => .ptrBytes none
  | .ptrBytes (some none) => .ptrBytes (some none)
  | .ptrBytes (some (some a)) => (match h.read a with
      | some (.bytes l) => .ptrBytes (some (some l))
      | _ => .dangling)
  | .strs none => .strs none
  | .strs (some a) => (match h.read a with
      | some (.strs l) => .strs (some l)
      | _ => .dangling)

/-- Address-free observation of a resource: type cell, ID, and per field (in order) the
key and the contents of the value. -/
def contents (h : Heap) (r : HRes) : Option Cell × GoString × List (GoString × Content) :=
  (h.read r.typ, r.id, r.data.map (fun p => (p.1, content h p.2)))

-- the model derives no decidable equality on cells; the `decide` examples need one
deriving instance DecidableEq for Cell

theorem read_lt {h : Heap} {x : Addr} {c : Cell} (hr : h.read x = some c) :
    x < h.cells.length := by
  unfold Heap.read at hr
  exact (List.getElem?_eq_some_iff.1 hr).1

def Ext (h h' : Heap) : Prop := ∃ ext, h'.cells = h.cells ++ ext

theorem Ext.refl (h : Heap) : Ext h h := ⟨[], by simp⟩

theorem Ext.trans {h1 h2 h3 : Heap} : Ext h1 h2 → Ext h2 h3 → Ext h1 h3
  | ⟨e1, h1e⟩, ⟨e2, h2e⟩ => ⟨e1 ++ e2, by rw [h2e, h1e, List.append_assoc]⟩

theorem Ext.alloc (h : Heap) (c : Cell) : Ext h (h.alloc c).1 := ⟨[c], rfl⟩

theorem Ext.length_le {h h' : Heap} : Ext h h' → h.cells.length ≤ h'.cells.length
  | ⟨ext, he⟩ => by rw [he, List.length_append]; omega

theorem Ext.read_lt {h h' : Heap} : Ext h h' → ∀ {x : Addr}, x < h.cells.length →
    h'.read x = h.read x
  | ⟨ext, he⟩, _, hlt => by unfold Heap.read; rw [he, List.getElem?_append_left hlt]

theorem Ext.read {h h' : Heap} (e : Ext h h') {x : Addr} {c : Cell}
    (hr : h.read x = some c) : h'.read x = some c :=
  (e.read_lt (HeapL.read_lt hr)).trans hr

theorem read_alloc_new (h : Heap) (c : Cell) : (h.alloc c).1.read h.cells.length = some c := by
  simp [Heap.alloc, Heap.read]

theorem read_write_ne (h : Heap) {a x : Addr} (c : Cell) (hne : x ≠ a) :
    (h.write a c).read x = h.read x := by
  unfold Heap.write Heap.read
  simp only
  rw [List.getElem?_set_ne (Ne.symm hne)]

theorem read_write_self (h : Heap) {a : Addr} (c : Cell) (hlt : a < h.cells.length) :
    (h.write a c).read a = some c := by
  unfold Heap.write Heap.read
  simp only
  rw [List.getElem?_set_self hlt]

theorem length_write (h : Heap) (a : Addr) (c : Cell) :
    (h.write a c).cells.length = h.cells.length := by
  simp [Heap.write]

def ckind : Cell → Nat
  | .bytes _ => 0
  | .strs _ => 1
  | .typ _ => 2

/-- kind of cell a value's address must hold -/
def vkind : HVal → Nat
  | .strs _ => 1
  | _ => 0

def vaddr : HVal → Option Addr
  | .bytes (some a) => some a
  | .strs (some a) => some a
  | .ptrBytes (some (some a)) => some a
  | _ => none

theorem ckind_two {c : Cell} : ckind c = 2 ↔ ∃ t, c = .typ t := by
  cases c <;> simp [ckind]

theorem validVal_iff (h : Heap) (v : HVal) :
    ValidVal h v ↔ ∀ a, vaddr v = some a → ∃ c, h.read a = some c ∧ ckind c = vkind v := by
  rcases v with _ | (_ | a) | (_ | _ | a) | (_ | a) <;>
    simp only [ValidVal, vaddr, vkind, reduceCtorEq, false_implies, implies_true,
      Option.some.injEq, forall_eq']
  all_goals exact ⟨fun ⟨l, hl⟩ => ⟨_, hl, rfl⟩,
    fun ⟨c, hc, hk⟩ => by cases c <;> first | exact ⟨_, hc⟩ | cases hk⟩

theorem validVal_of_vaddr_none {h : Heap} {v : HVal} (hn : vaddr v = none) : ValidVal h v := by
  rw [validVal_iff]; intro a ha; rw [hn] at ha; cases ha

theorem mem_reach {r : HRes} {x : Addr} :
    x ∈ r.reach ↔ x = r.typ ∨ ∃ p ∈ r.data, vaddr p.2 = some x := by
  have h : r.reach = r.typ :: r.data.flatMap (fun p => (vaddr p.2).toList) := by
    unfold HRes.reach
    congr 2
    funext ⟨k, v⟩
    rcases v with _ | (_ | a) | (_ | _ | a) | (_ | a) <;> rfl
  rw [h, List.mem_cons, List.mem_flatMap]
  simp only [Option.mem_toList]

theorem observe_eq (h : Heap) (r : HRes) :
    r.observe h = (h.read r.typ, r.id,
      r.data.map (fun p => (p.1, p.2, (vaddr p.2).bind h.read))) := by
  unfold HRes.observe
  congr 3
  funext ⟨k, v⟩
  rcases v with _ | (_ | a) | (_ | _ | a) | (_ | a) <;> rfl

theorem observe_congr {h h' : Heap} {r : HRes}
    (hr : ∀ x ∈ r.reach, h'.read x = h.read x) : r.observe h' = r.observe h := by
  rw [observe_eq, observe_eq, hr r.typ (mem_reach.2 (Or.inl rfl))]
  congr 2
  apply List.map_congr_left
  intro p hp
  cases hv : vaddr p.2 with
  | none => rfl
  | some a =>
    simp only [Option.bind_some]
    rw [hr a (mem_reach.2 (Or.inr ⟨p, hp, hv⟩))]

theorem content_congr {h h' : Heap} {v : HVal}
    (hr : ∀ a, vaddr v = some a → h'.read a = h.read a) : content h' v = content h v := by
  rcases v with _ | (_ | a) | (_ | _ | a) | (_ | a) <;>
    first | rfl | simp only [content, hr a rfl]

def KindPres (h h' : Heap) : Prop :=
  ∀ x c, h.read x = some c → ∃ c', h'.read x = some c' ∧ ckind c' = ckind c

theorem KindPres.refl (h : Heap) : KindPres h h := fun _ c hc => ⟨c, hc, rfl⟩

theorem Ext.kindPres {h h' : Heap} (e : Ext h h') : KindPres h h' :=
  fun _ c hc => ⟨c, e.read hc, rfl⟩

theorem KindPres.write {h : Heap} {a : Addr} {c c' : Cell} (hr : h.read a = some c)
    (hk : ckind c' = ckind c) : KindPres h (h.write a c') := by
  intro x d hd
  by_cases hx : x = a
  · subst hx
    rw [hr] at hd; cases hd
    exact ⟨c', read_write_self h c' (read_lt hr), hk⟩
  · exact ⟨d, by rw [read_write_ne h c' hx]; exact hd, rfl⟩

theorem validVal_kp {h h' : Heap} (kp : KindPres h h') {v : HVal} (hv : ValidVal h v) :
    ValidVal h' v := by
  rw [validVal_iff] at *
  intro a ha
  obtain ⟨c, hc, hk⟩ := hv a ha
  obtain ⟨c', hc', hk'⟩ := kp a c hc
  exact ⟨c', hc', hk'.trans hk⟩

theorem Valid.kp {h h' : Heap} (kp : KindPres h h') {r : HRes} (hv : Valid h r) :
    Valid h' r := by
  constructor
  · obtain ⟨t, ht⟩ := hv.typ
    obtain ⟨c', hc', hk'⟩ := kp _ _ ht
    obtain ⟨t', rfl⟩ := ckind_two.1 (by rw [hk']; rfl)
    exact ⟨t', hc'⟩
  · intro p hp; exact validVal_kp kp (hv.data p hp)

theorem Valid.ext {h h' : Heap} (e : Ext h h') {r : HRes} (hv : Valid h r) : Valid h' r :=
  hv.kp e.kindPres

theorem validVal_addr_lt {h : Heap} {v : HVal} (hv : ValidVal h v) {a : Addr}
    (ha : vaddr v = some a) : a < h.cells.length := by
  rw [validVal_iff] at hv
  obtain ⟨c, hc, _⟩ := hv a ha
  exact read_lt hc

theorem Valid.reach_lt {h : Heap} {r : HRes} (hv : Valid h r) {x : Addr} (hx : x ∈ r.reach) :
    x < h.cells.length := by
  rcases mem_reach.1 hx with rfl | ⟨p, hp, hx⟩
  · obtain ⟨t, ht⟩ := hv.typ; exact read_lt ht
  · exact validVal_addr_lt (hv.data p hp) hx

theorem content_ext {h h' : Heap} (e : Ext h h') {v : HVal} (hv : ValidVal h v) :
    content h' v = content h v :=
  content_congr (fun _ ha => e.read_lt (validVal_addr_lt hv ha))

theorem observe_ext {h h' : Heap} (e : Ext h h') {r : HRes} (hv : Valid h r) :
    r.observe h' = r.observe h :=
  observe_congr (fun _ hx => e.read_lt (hv.reach_lt hx))

theorem content_ne_dangling {h : Heap} {v : HVal} (hv : ValidVal h v) :
    content h v ≠ .dangling := by
  rcases v with _ | (_ | a) | (_ | _ | a) | (_ | a) <;>
    first | (simp [content]; done) | (obtain ⟨l, hl⟩ := hv; simp [content, hl])

theorem Sep.symm {a b : HRes} (s : Sep a b) : Sep b a :=
  fun x hx hxa => s x hxa hx

theorem copyHVal_spec {mode : String → StoreMode} (hm : FreshModes mode) {h : Heap} {v : HVal}
    (hv : ValidVal h v) :
    Ext h (copyHVal mode h v).1 ∧
    content (copyHVal mode h v).1 (copyHVal mode h v).2 = content h v ∧
    ValidVal (copyHVal mode h v).1 (copyHVal mode h v).2 ∧
    (∀ x, vaddr (copyHVal mode h v).2 = some x → h.cells.length ≤ x) := by
  rcases v with _ | (_ | a) | (_ | _ | a) | (_ | a)
  -- a value without an address is returned as it is; one with an address gets a new cell
  -- holding the same contents
  all_goals first
    | (obtain ⟨l, hl⟩ := hv
       have hl' : h.cells[a]? = some _ := hl
       simp only [copyHVal, hm.1, hm.2.1, hm.2.2, hl, Heap.alloc]
       refine ⟨⟨[_], rfl⟩, by simp [content, Heap.read, hl'], ⟨l, by simp [Heap.read]⟩, ?_⟩
       intro x hx
       simp only [vaddr, Option.some.injEq] at hx
       exact hx ▸ Nat.le_refl _)
    | exact ⟨Ext.refl h, rfl, trivial, nofun⟩

/-- `copyData` as a structural recursion. -/
def copyDataRec (mode : String → StoreMode) (h : Heap) : GoMap HVal → Heap × GoMap HVal
  | [] => (h, [])
  | p :: rest =>
    ((copyDataRec mode (copyHVal mode h p.2).1 rest).1,
     (p.1, (copyHVal mode h p.2).2) :: (copyDataRec mode (copyHVal mode h p.2).1 rest).2)

theorem copyData_fold (mode : String → StoreMode) :
    ∀ (d : GoMap HVal) (h : Heap) (acc : GoMap HVal),
      d.foldl (fun (acc : Heap × GoMap HVal) p =>
        let (h', v') := copyHVal mode acc.1 p.2
        (h', acc.2 ++ [(p.1, v')])) (h, acc) =
      ((copyDataRec mode h d).1, acc ++ (copyDataRec mode h d).2) := by
  intro d
  induction d with
  | nil => intro h acc; simp [copyDataRec]
  | cons p rest ih =>
    intro h acc
    simp only [List.foldl_cons]
    rw [ih]
    simp [copyDataRec]

theorem copyData_eq (mode : String → StoreMode) (h : Heap) (d : GoMap HVal) :
    copyData mode h d = copyDataRec mode h d := by
  unfold copyData
  rw [copyData_fold]
  simp

theorem copyDataRec_spec {mode : String → StoreMode} (hm : FreshModes mode) :
    ∀ (d : GoMap HVal) (h : Heap) (n : Nat), n ≤ h.cells.length →
      (∀ p ∈ d, ValidVal h p.2) →
      Ext h (copyDataRec mode h d).1 ∧
      (copyDataRec mode h d).2.map (·.1) = d.map (·.1) ∧
      (copyDataRec mode h d).2.map (fun p => (p.1, content (copyDataRec mode h d).1 p.2))
        = d.map (fun p => (p.1, content h p.2)) ∧
      (∀ p ∈ (copyDataRec mode h d).2, ValidVal (copyDataRec mode h d).1 p.2) ∧
      (∀ p ∈ (copyDataRec mode h d).2, ∀ x, vaddr p.2 = some x → n ≤ x) := by
  intro d
  induction d with
  | nil =>
    intro h n _ _
    exact ⟨Ext.refl h, rfl, rfl, by simp [copyDataRec], by simp [copyDataRec]⟩
  | cons p rest ih =>
    intro h n hn hv
    have hvp : ValidVal h p.2 := hv p (List.mem_cons_self ..)
    obtain ⟨e1, c1, v1, a1⟩ := copyHVal_spec hm hvp
    have hvr : ∀ q ∈ rest, ValidVal (copyHVal mode h p.2).1 q.2 :=
      fun q hq => validVal_kp e1.kindPres (hv q (List.mem_cons_of_mem _ hq))
    obtain ⟨e2, k2, c2, v2, a2⟩ :=
      ih (copyHVal mode h p.2).1 n (Nat.le_trans hn e1.length_le) hvr
    simp only [copyDataRec]
    refine ⟨e1.trans e2, ?_, ?_, ?_, ?_⟩
    · simp only [List.map_cons, k2]
    · simp only [List.map_cons]
      rw [c2, content_ext e2 v1, c1]
      congr 1
      apply List.map_congr_left
      intro q hq
      rw [content_ext e1 (hv q (List.mem_cons_of_mem _ hq))]
    · exact List.forall_mem_cons.2 ⟨validVal_kp e2.kindPres v1, v2⟩
    · exact List.forall_mem_cons.2 ⟨fun x hx => Nat.le_trans hn (a1 x hx), a2⟩

/-! ### One operation -/

structure StepOK (h : Heap) (a : HRes) (h' : Heap) (a' : HRes) : Prop where
  kp : KindPres h h'
  frame : ∀ x, x < h.cells.length → x ∉ a.reach → h'.read x = h.read x
  reach : ∀ x ∈ a'.reach, x ∈ a.reach ∨ h.cells.length ≤ x
  valid : Valid h' a'

theorem step_id {h : Heap} {a : HRes} (hv : Valid h a) (id : GoString) :
    StepOK h a h { a with id := id } :=
  ⟨KindPres.refl h, fun _ _ _ => rfl, fun _ hx => Or.inl hx, ⟨hv.typ, hv.data⟩⟩

theorem step_set {h h' : Heap} {a : HRes} (hv : Valid h a) (e : Ext h h') (k : GoString)
    {v : HVal} (hvv : ValidVal h' v) (hva : ∀ x, vaddr v = some x → h.cells.length ≤ x) :
    StepOK h a h' { a with data := a.data.set k v } := by
  refine ⟨e.kindPres, fun x hx _ => e.read_lt hx, ?_, ?_⟩
  · intro x hx
    rcases mem_reach.1 hx with rfl | ⟨p, hp, hpx⟩
    · exact Or.inl (mem_reach.2 (Or.inl rfl))
    · rcases GoMap.mem_set hp with hp | rfl
      · exact Or.inl (mem_reach.2 (Or.inr ⟨p, hp, hpx⟩))
      · exact Or.inr (hva x hpx)
  · have hv' := hv.ext e
    refine ⟨hv'.typ, ?_⟩
    intro p hp
    rcases GoMap.mem_set hp with hp | rfl
    · exact hv'.data p hp
    · exact hvv

theorem step_write {h : Heap} {a : HRes} (hv : Valid h a) {x : Addr} (hx : x ∈ a.reach)
    {c c' : Cell} (hr : h.read x = some c) (hk : ckind c' = ckind c) :
    StepOK h a (h.write x c') a := by
  have kp := KindPres.write hr hk
  refine ⟨kp, ?_, fun _ hy => Or.inl hy, hv.kp kp⟩
  intro y _ hy
  apply read_write_ne
  intro e; subst e; exact hy hx

theorem apply_ok {h : Heap} {a : HRes} (hv : Valid h a) (op : HOp) :
    StepOK h a (a.apply h op).1 (a.apply h op).2 := by
  cases op with
  | setScalar k v => exact step_set hv (Ext.refl h) k (v := .scalar v) trivial nofun
  | setBytes k o =>
    cases o with
    | none => exact step_set hv (Ext.refl h) k (v := .bytes none) trivial nofun
    | some l =>
      exact step_set hv (Ext.alloc h (.bytes l)) k (v := .bytes (some h.cells.length))
        ⟨l, read_alloc_new h _⟩ fun _ hx => Option.some.inj hx ▸ Nat.le_refl _
  | setStrs k o =>
    cases o with
    | none => exact step_set hv (Ext.refl h) k (v := .strs none) trivial nofun
    | some l =>
      exact step_set hv (Ext.alloc h (.strs l)) k (v := .strs (some h.cells.length))
        ⟨l, read_alloc_new h _⟩ fun _ hx => Option.some.inj hx ▸ Nat.le_refl _
  | setID id => exact step_id hv id
  | _ =>
    -- the writing operations: nothing happens, or a cell that `a` reaches (through a field,
    -- or its type) is overwritten by one of the same kind
    simp only [HRes.apply]
    repeat' split
    all_goals first
      | exact step_id hv a.id
      | exact step_write hv (mem_reach.2 (.inr ⟨_, GoMap.mem_of_get? ‹a.data.get? _ = _›, rfl⟩))
          ‹h.read _ = _› (by rfl)
      | exact step_write hv (mem_reach.2 (.inl rfl)) ‹h.read _ = _› (by rfl)

theorem step_indep {h h' : Heap} {a a' b : HRes} (st : StepOK h a h' a') (hb : Valid h b)
    (s : Sep a b) : b.observe h' = b.observe h ∧ Valid h' b ∧ Sep a' b := by
  refine ⟨?_, hb.kp st.kp, ?_⟩
  · apply observe_congr
    intro x hx
    exact st.frame x (hb.reach_lt hx) (fun hxa => s x hxa hx)
  · intro x hx hxb
    rcases st.reach x hx with hxa | hge
    · exact s x hxa hxb
    · exact absurd (hb.reach_lt hxb) (Nat.not_lt.2 hge)

theorem applyAll_indep (b : HRes) :
    ∀ (ops : List HOp) (h : Heap) (a : HRes), Valid h a → Valid h b → Sep a b →
      b.observe (a.applyAll h ops).1 = b.observe h ∧
      Valid (a.applyAll h ops).1 (a.applyAll h ops).2 ∧
      Valid (a.applyAll h ops).1 b ∧ Sep (a.applyAll h ops).2 b := by
  intro ops
  induction ops with
  | nil => intro h a ha hb s; exact ⟨rfl, ha, hb, s⟩
  | cons op ops ih =>
    intro h a ha hb s
    have st := apply_ok ha op
    obtain ⟨o1, b1, s1⟩ := step_indep st hb s
    obtain ⟨o2, a2, b2, s2⟩ := ih _ _ st.valid b1 s1
    have e : a.applyAll h (op :: ops) = (a.apply h op).2.applyAll (a.apply h op).1 ops := by
      simp [HRes.applyAll]
    rw [e]
    exact ⟨o2.trans o1, a2, b2, s2⟩

/-! ### Copy and New -/

theorem copy_spec {mode : String → StoreMode} (hm : FreshModes mode) {h : Heap} {r : HRes}
    (hv : Valid h r) :
    Ext h (r.copy mode h).1 ∧
    (r.copy mode h).2.id = r.id ∧
    (r.copy mode h).1.read (r.copy mode h).2.typ = h.read r.typ ∧
    (r.copy mode h).2.data.keys = r.data.keys ∧
    contents (r.copy mode h).1 (r.copy mode h).2 = contents h r ∧
    Valid (r.copy mode h).1 (r.copy mode h).2 ∧
    (∀ x ∈ (r.copy mode h).2.reach, h.cells.length ≤ x) := by
  obtain ⟨t, ht⟩ := hv.typ
  have e1 : Ext h (h.alloc (.typ t)).1 := Ext.alloc h _
  have hv1 : Valid (h.alloc (.typ t)).1 r := hv.ext e1
  obtain ⟨e2, k2, c2, v2, a2⟩ := copyDataRec_spec hm r.data (h.alloc (.typ t)).1
    h.cells.length e1.length_le hv1.data
  have hc : r.copy mode h = ((copyDataRec mode (h.alloc (.typ t)).1 r.data).1,
      { typ := h.cells.length, id := r.id,
        data := (copyDataRec mode (h.alloc (.typ t)).1 r.data).2 }) := by
    simp only [HRes.copy, ht, copyData_eq]
    rfl
  rw [hc]
  have hty : (copyDataRec mode (h.alloc (.typ t)).1 r.data).1.read h.cells.length
      = some (.typ t) := e2.read (read_alloc_new h _)
  refine ⟨e1.trans e2, rfl, ?_, k2, ?_, ⟨⟨t, hty⟩, v2⟩, ?_⟩
  · simp only; rw [hty, ht]
  · simp only [contents]
    rw [hty, ht, c2]
    congr 2
    apply List.map_congr_left
    intro q hq
    rw [content_ext e1 (hv.data q hq)]
  · intro x hx
    rcases mem_reach.1 hx with rfl | ⟨p, hp, hpx⟩
    · exact Nat.le_refl _
    · exact a2 p hp x hpx

theorem sep_of_fresh {h : Heap} {c r : HRes} (hv : Valid h r)
    (hc : ∀ x ∈ c.reach, h.cells.length ≤ x) : Sep c r := by
  intro x hx hxr
  exact absurd (hv.reach_lt hxr) (Nat.not_lt.2 (hc x hx))

theorem new_spec {h : Heap} {r : HRes} (hv : Valid h r) :
    Ext h (r.new h).1 ∧ (r.new h).2.id = [] ∧ (r.new h).2.data = [] ∧
    (r.new h).1.read (r.new h).2.typ = h.read r.typ ∧
    Valid (r.new h).1 (r.new h).2 ∧
    (∀ x ∈ (r.new h).2.reach, h.cells.length ≤ x) := by
  obtain ⟨t, ht⟩ := hv.typ
  have hn : r.new h = ((h.alloc (.typ t)).1, { typ := h.cells.length, id := [], data := [] }) := by
    simp only [HRes.new, ht]; rfl
  rw [hn]
  refine ⟨Ext.alloc h _, rfl, rfl, ?_, ⟨⟨t, read_alloc_new h _⟩, by simp⟩, ?_⟩
  · simp only; rw [read_alloc_new, ht]
  · intro x hx
    rcases mem_reach.1 hx with rfl | ⟨p, hp, _⟩
    · exact Nat.le_refl _
    · simp at hp

/-! ### Concrete heaps for the `decide` examples of C18 -/

def exHeapShared : Heap := { cells := [.typ Typ.empty, .bytes [1, 2]] }
/-- a resource with one `[]byte` field `"b"` -/
def exResShared : HRes := { typ := 0, id := [49], data := [([98], .bytes (some 1))] }

theorem exResShared_valid : Valid exHeapShared exResShared :=
  ⟨⟨_, rfl⟩, by
    intro p hp
    simp only [exResShared, List.mem_singleton] at hp
    subst hp
    exact ⟨_, rfl⟩⟩

/-- type cell, `[]byte` backing `[1,2]`, `*[]byte` backing `[3]`, `[]string` backing `["b","a"]` -/
def exHeap : Heap :=
  { cells := [.typ Typ.empty, .bytes [1, 2], .bytes [3], .strs [[98], [97]]] }
/-- fields `"x" : []byte`, `"y" : *[]byte`, `"z" : []string` -/
def exRes : HRes :=
  { typ := 0, id := [49],
    data := [([120], .bytes (some 1)), ([121], .ptrBytes (some (some 2))), ([122], .strs (some 3))] }

def exCopy : Heap × HRes := exRes.copy softStoreMode exHeap
/-- on the copy: write a byte through the `[]byte`, one through the `*[]byte`, sort the IDs -/
def exAfter : Heap × HRes :=
  exCopy.2.applyAll exCopy.1 [.writeBytes [120] 0 9, .writeBytes [121] 0 7, .sortStrs [122]]

end HeapL
end Jsonapi
