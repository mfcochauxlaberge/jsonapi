/-
The full-grammar reader on the compact text the model's renderer writes: the rendered text of a
tree (`Json.render`, on which `Spec.parseJson` gives the tree back: `JsonL.parseJson_render`)
is read by `Spec.parseJsonC` as the concrete syntax `Json.toC` of the tree - no white space,
every string spelled as `renderStrBody` spells it - provided the tree is nested at most
`maxDepth` deep.
-/
import Jsonapi.Spec.JsonFull
import Jsonapi.Proofs.JsonTextLemmas
namespace Jsonapi
namespace FullL
open Spec JsonL

/-! ### the concrete syntax of a rendered tree, and its depth -/

mutual
def toC : Json → CJson
  | .null => .null
  | .bool b => .bool b
  | .num l => .num l
  | .str s => .str (renderStrBody s)
  | .arr l => .arr [] (toCItems l)
  | .obj ms => .obj [] (toCMembers ms)
def toCItems : List Json → List CItem
  | [] => []
  | v :: vs => ([], toC v, []) :: toCItems vs
def toCMembers : List (GoString × Json) → List CMember
  | [] => []
  | (k, v) :: ms => ([], renderStrBody k, [58], toC v, []) :: toCMembers ms
end

mutual
/-- how deep arrays and objects are nested -/
def depth : Json → Nat
  | .arr l => 1 + depthList l
  | .obj ms => 1 + depthMembers ms
  | _ => 0
def depthList : List Json → Nat
  | [] => 0
  | v :: vs => max (depth v) (depthList vs)
def depthMembers : List (GoString × Json) → Nat
  | [] => 0
  | (_, v) :: ms => max (depth v) (depthMembers ms)
end

mutual
/-- every string of the tree (keys included) through `f` -/
def mapStr (f : GoString → GoString) : Json → Json
  | .str s => .str (f s)
  | .arr l => .arr (mapStrList f l)
  | .obj ms => .obj (mapStrMembers f ms)
  | t => t
def mapStrList (f : GoString → GoString) : List Json → List Json
  | [] => []
  | v :: vs => mapStr f v :: mapStrList f vs
def mapStrMembers (f : GoString → GoString) : List (GoString × Json) → List (GoString × Json)
  | [] => []
  | (k, v) :: ms => (f k, mapStr f v) :: mapStrMembers f ms
end

theorem scanStr_plain (b : UInt8) (rest : GoString) (h1 : b ≠ 34) (h2 : b ≠ 92)
    (h3 : ¬ b < 32) : scanStr (b :: rest) = consStr [b] (scanStr rest) := by
  rw [scanStr.eq_def]
  simp [h1, h2, h3]

theorem scanStr_simple (e c : UInt8) (rest : GoString) (h : jsonUnescape e = some c)
    (hu : e ≠ 117) : scanStr (92 :: e :: rest) = consStr [92, e] (scanStr rest) := by
  rw [scanStr.eq_def]
  simp [h, hu]

theorem scanStr_u (h1 h2 h3 h4 : UInt8) (rest : GoString) (h : (hex4 h1 h2 h3 h4).isSome = true) :
    scanStr (92 :: 117 :: h1 :: h2 :: h3 :: h4 :: rest)
      = consStr [92, 117, h1, h2, h3, h4] (scanStr rest) := by
  unfold hex4 at h
  split at h
  · next e1 e2 e3 e4 =>
    rw [scanStr.eq_def]
    simp [e1, e2, e3, e4]
  · cases h

theorem scanStr_escByte (b : UInt8) (rest : GoString) :
    scanStr (escByte b ++ rest) = consStr (escByte b) (scanStr rest) := by
  rcases escByte_cases b with ⟨e, h, he, hu⟩ | ⟨h, _⟩ | ⟨h, h1, h2, h3⟩
  · rw [h]; exact scanStr_simple e b rest he hu
  · rw [h]; exact scanStr_u _ _ _ _ rest (by rw [hex4_escU00]; rfl)
  · rw [h]; exact scanStr_plain b rest h1 h2 h3

theorem scanStr_render (s r : GoString) :
    scanStr (renderStrBody s ++ 34 :: r) = some (renderStrBody s, r) := by
  fun_induction renderStrBody s with
  | case1 => rw [scanStr.eq_def]; simp
  | case2 b c d rest h ih =>
    rw [List.append_assoc]
    refine (scanStr_u 50 48 50 56 (renderStrBody rest ++ 34 :: r) (by decide)).trans ?_
    rw [ih]; rfl
  | case3 b c d rest _ h ih =>
    rw [List.append_assoc]
    refine (scanStr_u 50 48 50 57 (renderStrBody rest ++ 34 :: r) (by decide)).trans ?_
    rw [ih]; rfl
  | case4 b c d rest _ _ ih => rw [List.append_assoc, scanStr_escByte, ih]; rfl
  | case5 b rest _ ih => rw [List.append_assoc, scanStr_escByte, ih]; rfl

/-! ### white space in compact text -/

/-- the next input byte is not white space and cannot extend a number token -/
def stopOk : GoString → Bool
  | [] => true
  | c :: _ => !isNumByte c && !isWs c


theorem numStop_of_stopOk (r : GoString) (h : stopOk r = true) : numStop r = true := by
  cases r with
  | nil => rfl
  | cons c t => exact (Bool.and_eq_true_iff.1 h).1

theorem ws_of_head (c : UInt8) (t : GoString) (h : isWs c = false) :
    dropWs (c :: t) = c :: t ∧ takeWs (c :: t) = [] := by
  simp [dropWs, takeWs, h]

theorem ws_of_stopOk (r : GoString) (h : stopOk r = true) : dropWs r = r ∧ takeWs r = [] := by
  cases r with
  | nil => exact ⟨rfl, rfl⟩
  | cons c t =>
    simp only [stopOk, Bool.and_eq_true, Bool.not_eq_true'] at h
    exact ws_of_head c t h.2

theorem parseC_num (f d : Nat) (lit r : GoString) (h : numOk lit = true)
    (hr : numStop r = true) : parseC (f + 1) d (lit ++ r) = some (.num lit, r) := by
  cases lit with
  | nil => cases h
  | cons c t =>
    have hs := span_numOk (c :: t) r h hr
    have hc : isNumByte c = true := (List.all_eq_true.1 (numOk_all _ h)) c List.mem_cons_self
    rw [List.cons_append] at hs ⊢
    rw [parseC.eq_def]
    simp only [hc, if_true, hs.1, hs.2, h]

theorem parseC_str (f d : Nat) (s r : GoString) :
    parseC (f + 1) d (renderStr s ++ r) = some (.str (renderStrBody s), r) := by
  have h : isNumByte 34 = false := by decide
  rw [parseC.eq_def]
  simp [renderStr, h, scanStr_render]

/-! ### the tree round trip -/

/-- The three readers on rendered text, by induction on the fuel: each reader calls the others
with one unit less. The text is compact: wherever a reader skips white space the next byte is a
delimiter or the first byte of a rendered value (`render_head`), and nothing is skipped. -/
theorem parseC_render (f : Nat) :
    (∀ t r d, t.numsOk = true → stopOk r = true → need t ≤ f → depth t ≤ d →
      parseC f d (t.render ++ r) = some (toC t, r)) ∧
    (∀ l r d, Json.numsOkList l = true → needList l ≤ f → depthList l ≤ d → l ≠ [] →
      parseElemsC f d [] (Json.renderList l ++ 93 :: r) = some (toCItems l, r)) ∧
    (∀ ms r d, Json.numsOkMembers ms = true → needMembers ms ≤ f → depthMembers ms ≤ d → ms ≠ [] →
      parseMembersC f d [] (Json.renderMembers ms ++ 125 :: r) = some (toCMembers ms, r)) := by
  induction f with
  | zero =>
    refine ⟨fun t _ _ _ _ hf => ?_, fun l _ _ _ hf _ hne => ?_, fun ms _ _ _ hf _ hne => ?_⟩
    · have := need_pos t; omega
    · cases l with
      | nil => exact absurd rfl hne
      | cons v vs => rw [needList] at hf; omega
    · cases ms with
      | nil => exact absurd rfl hne
      | cons m ms => rw [needMembers] at hf; omega
  | succ f ih =>
    obtain ⟨ihV, ihE, ihM⟩ := ih
    refine ⟨fun t r d h hr hf hd => ?_, fun l r d h hf hd hne => ?_,
      fun ms r d h hf hd hne => ?_⟩
    · cases t with
      | null => rfl
      | bool b => cases b <;> rfl
      | num lit => exact parseC_num f d lit r h (numStop_of_stopOk r hr)
      | str s => exact parseC_str f d s r
      | arr l =>
        obtain ⟨d, rfl⟩ : ∃ e, d = e + 1 := ⟨d - 1, by rw [depth] at hd; omega⟩
        cases l with
        | nil => rfl
        | cons v vs =>
          have ih := ihE (v :: vs) r d h (by rw [need] at hf; omega) (by rw [depth] at hd; omega)
            (List.cons_ne_nil _ _)
          obtain ⟨c, u, e, hne, hw⟩ := renderList_head v vs (93 :: r) (Bool.and_eq_true_iff.1 h).1
          rw [e] at ih
          rw [render_arr_append, e, parseC]
          simp (config := { decide := true }) only [↓reduceIte, dropWs, takeWs, List.dropWhile_cons,
            List.takeWhile_cons, hw, hne, ih]
          rfl
      | obj ms =>
        obtain ⟨d, rfl⟩ : ∃ e, d = e + 1 := ⟨d - 1, by rw [depth] at hd; omega⟩
        cases ms with
        | nil => rfl
        | cons m ms =>
          rw [render_obj_append]
          show (parseMembersC f d [] (Json.renderMembers (m :: ms) ++ 125 :: r)).map _ = _
          rw [ihM _ r d h (by rw [need] at hf; omega) (by rw [depth] at hd; omega)
            (List.cons_ne_nil _ _)]
          rfl
    · cases l with
      | nil => exact absurd rfl hne
      | cons v vs =>
        rw [Json.numsOkList, Bool.and_eq_true] at h
        rw [needList] at hf
        obtain ⟨hfv, hfs⟩ : need v ≤ f ∧ needList vs ≤ f := by omega
        obtain ⟨hdv, hds⟩ := Nat.max_le.1 hd
        have hv := fun x hx => ihV v x d h.1 hx hfv hdv
        cases vs with
        | nil => rw [renderList_one, parseElemsC, hv _ rfl]; rfl
        | cons w ws =>
          have ih := ihE (w :: ws) r d h.2 hfs hds (List.cons_ne_nil _ _)
          obtain ⟨c, u, e, _, hw⟩ := renderList_head w ws (93 :: r) (Bool.and_eq_true_iff.1 h.2).1
          rw [e] at ih
          rw [renderList_two, parseElemsC, hv _ rfl, e]
          simp (config := { decide := true }) only [↓reduceIte, dropWs, takeWs, List.dropWhile_cons,
            List.takeWhile_cons, hw, ih]
          rfl
    · cases ms with
      | nil => exact absurd rfl hne
      | cons m ms =>
        obtain ⟨k, v⟩ := m
        rw [Json.numsOkMembers, Bool.and_eq_true] at h
        rw [needMembers] at hf
        obtain ⟨hfv, hfs⟩ : need v ≤ f ∧ needMembers ms ≤ f := by omega
        obtain ⟨hdv, hds⟩ := Nat.max_le.1 hd
        obtain ⟨c, u, hc, _, hw⟩ := render_head v h.1
        have hv := fun x hx => ihV v x d h.1 hx hfv hdv
        simp only [hc, List.cons_append] at hv
        cases ms with
        | nil =>
          rw [renderMembers_one, hc, parseMembersC, scanStr_render]
          simp (config := { decide := true }) only [↓reduceIte, dropWs, takeWs, List.dropWhile_cons,
            List.takeWhile_cons, hw, List.cons_append, hv (125 :: r) rfl]
          rfl
        | cons m ms =>
          obtain ⟨t', e⟩ : ∃ t', Json.renderMembers (m :: ms) ++ 125 :: r = 34 :: t' := ⟨_, rfl⟩
          have ih := ihM (m :: ms) r d h.2 hfs hds (List.cons_ne_nil _ _)
          rw [e] at ih
          rw [renderMembers_two, hc, parseMembersC, scanStr_render, e]
          simp (config := { decide := true }) only [↓reduceIte, dropWs, takeWs, List.dropWhile_cons,
            List.takeWhile_cons, hw, List.cons_append, hv (44 :: _) rfl, ih]
          rfl

theorem parseElemsC_render (l : List Json) (h : Json.numsOkList l = true) (r : GoString)
    (f : Nat) (hf : needList l ≤ f) (d : Nat) (hd : depthList l ≤ d) (hne : l ≠ []) :
    parseElemsC f d [] (Json.renderList l ++ 93 :: r) = some (toCItems l, r) :=
  (parseC_render f).2.1 l r d h hf hd hne

theorem parseMembersC_render (ms : List (GoString × Json)) (h : Json.numsOkMembers ms = true)
    (r : GoString) (f : Nat) (hf : needMembers ms ≤ f) (d : Nat) (hd : depthMembers ms ≤ d)
    (hne : ms ≠ []) :
    parseMembersC f d [] (Json.renderMembers ms ++ 125 :: r) = some (toCMembers ms, r) :=
  (parseC_render f).2.2 ms r d h hf hd hne

theorem parseJsonC_render (t : Json) (h : t.numsOk = true) (hd : depth t ≤ maxDepth) :
    parseJsonC t.render = some (toC t) := by
  obtain ⟨c, u, hc, _, hw⟩ := render_head t h
  have hws : dropWs t.render = t.render := by rw [hc]; exact (ws_of_head c u hw).1
  have hf : need t ≤ 2 * t.render.length + 2 := by have := need_le t; omega
  have hp := (parseC_render _).1 t [] maxDepth h rfl hf hd
  rw [List.append_nil] at hp
  unfold parseJsonC
  rw [hws, hp]
  rfl

mutual
theorem toJson_toC (t : Json) :
    (toC t).toJson = mapStr (fun s => unquote (renderStrBody s)) t :=
  match t with
  | .null => rfl
  | .bool _ => rfl
  | .num _ => rfl
  | .str _ => rfl
  | .arr l => by simp only [toC, CJson.toJson, mapStr, toJsonItems_toC l]
  | .obj ms => by simp only [toC, CJson.toJson, mapStr, toJsonMembers_toC ms]
theorem toJsonItems_toC (l : List Json) :
    CJson.toJsonItems (toCItems l) = mapStrList (fun s => unquote (renderStrBody s)) l :=
  match l with
  | [] => rfl
  | v :: vs => by simp only [toCItems, CJson.toJsonItems, mapStrList, toJson_toC v, toJsonItems_toC vs]
theorem toJsonMembers_toC (ms : List (GoString × Json)) :
    CJson.toJsonMembers (toCMembers ms) = mapStrMembers (fun s => unquote (renderStrBody s)) ms :=
  match ms with
  | [] => rfl
  | (k, v) :: ms => by
    simp only [toCMembers, CJson.toJsonMembers, mapStrMembers, toJson_toC v, toJsonMembers_toC ms]
end

/-! ### plain strings: printable ASCII that the renderer does not escape -/

def plainByte (b : UInt8) : Bool :=
  decide (32 ≤ b ∧ b < 128 ∧ b ≠ 34 ∧ b ≠ 92 ∧ b ≠ 60 ∧ b ≠ 62 ∧ b ≠ 38)

theorem escByte_plain (b : UInt8) (h : plainByte b = true) : escByte b = [b] := by
  simp only [plainByte, decide_eq_true_eq] at h
  obtain ⟨h0, _, h2, h3, h4, h5, h6⟩ := h
  refine escByte_self h2 h3 ?_
  rintro (h | h | h | h)
  · exact UInt8.not_lt.2 h0 h
  · exact h4 h
  · exact h5 h
  · exact h6 h

theorem plain_ne_E2 (b : UInt8) (h : plainByte b = true) : b ≠ 0xE2 := by
  intro e; subst e; exact absurd h (by decide)

theorem renderStrBody_plain (s : GoString) (h : s.all plainByte = true) : renderStrBody s = s := by
  induction s with
  | nil => rfl
  | cons b rest ih =>
    rw [List.all_cons, Bool.and_eq_true] at h
    rw [rsb_cons_ne b rest (plain_ne_E2 b h.1), escByte_plain b h.1, ih h.2]
    rfl

mutual
/-- every string of the tree (keys included) satisfies `p` -/
def strsAll (p : GoString → Bool) : Json → Bool
  | .str s => p s
  | .arr l => strsAllList p l
  | .obj ms => strsAllMembers p ms
  | _ => true
def strsAllList (p : GoString → Bool) : List Json → Bool
  | [] => true
  | v :: vs => strsAll p v && strsAllList p vs
def strsAllMembers (p : GoString → Bool) : List (GoString × Json) → Bool
  | [] => true
  | (k, v) :: ms => p k && strsAll p v && strsAllMembers p ms
end

mutual
theorem mapStr_id (f : GoString → GoString) (p : GoString → Bool) (hf : ∀ s, p s = true → f s = s)
    (t : Json) (h : strsAll p t = true) : mapStr f t = t :=
  match t with
  | .null => rfl
  | .bool _ => rfl
  | .num _ => rfl
  | .str s => by simp only [strsAll] at h; simp only [mapStr, hf s h]
  | .arr l => by simp only [strsAll] at h; simp only [mapStr, mapStrList_id f p hf l h]
  | .obj ms => by simp only [strsAll] at h; simp only [mapStr, mapStrMembers_id f p hf ms h]
theorem mapStrList_id (f : GoString → GoString) (p : GoString → Bool) (hf : ∀ s, p s = true → f s = s)
    (l : List Json) (h : strsAllList p l = true) : mapStrList f l = l :=
  match l with
  | [] => rfl
  | v :: vs => by
    simp only [strsAllList, Bool.and_eq_true] at h
    simp only [mapStrList, mapStr_id f p hf v h.1, mapStrList_id f p hf vs h.2]
theorem mapStrMembers_id (f : GoString → GoString) (p : GoString → Bool)
    (hf : ∀ s, p s = true → f s = s) (ms : List (GoString × Json))
    (h : strsAllMembers p ms = true) : mapStrMembers f ms = ms :=
  match ms with
  | [] => rfl
  | (k, v) :: ms => by
    simp only [strsAllMembers, Bool.and_eq_true] at h
    simp only [mapStrMembers, hf k h.1.1, mapStr_id f p hf v h.1.2, mapStrMembers_id f p hf ms h.2]
end

end FullL
end Jsonapi
