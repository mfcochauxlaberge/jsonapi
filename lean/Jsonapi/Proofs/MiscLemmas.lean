/-
Helper lemmas for Props/CMisc.lean: association lists with unique keys, `mapDeepEqual`
and what `Type.Equal` compares, decimal printing of three-digit codes, the table of
error constructors.
-/
import Jsonapi.Model.Misc
import Jsonapi.Proofs.MarshalSpecLemmas
import Jsonapi.Proofs.RoundTripLemmas
namespace Jsonapi.MiscL
open Jsonapi GoMap

/-! ### association lists -/

variable {β : Type}

theorem get?_eq_some_iff {m : GoMap β} (hnd : (keys m).Nodup) {k : GoString} {v : β} :
    get? m k = some v ↔ (k, v) ∈ m :=
  ⟨mem_of_get?, get?_of_mem_nodup hnd⟩

theorem nodup_of_keys {m : GoMap β} (h : (keys m).Nodup) : m.Nodup :=
  List.Pairwise.of_map (·.1) (fun _ _ hne e => hne (e ▸ rfl)) h

theorem get?_eq_iff_mem {m₁ m₂ : GoMap β} (h₁ : (keys m₁).Nodup) (h₂ : (keys m₂).Nodup) :
    (∀ k, get? m₁ k = get? m₂ k) ↔ ∀ p, p ∈ m₁ ↔ p ∈ m₂ := by
  constructor
  · intro h p
    rw [← get?_eq_some_iff h₁, ← get?_eq_some_iff h₂, h]
  · intro h k
    ext v
    rw [get?_eq_some_iff h₁, get?_eq_some_iff h₂, h]

/-! ### `mapDeepEqual` -/

/-- `reflect.DeepEqual` on two maps with unique keys: same nil-ness and same lookups.
Equal lengths turn the inclusion that `all` checks into an equality (pigeonhole). -/
theorem mapDeepEqual_iff [DecidableEq β] (n₁ n₂ : Bool) (m₁ m₂ : GoMap β)
    (h₁ : (keys m₁).Nodup) (h₂ : (keys m₂).Nodup) :
    TypeV.mapDeepEqual n₁ n₂ m₁ m₂ = true ↔ n₁ = n₂ ∧ ∀ k, get? m₁ k = get? m₂ k := by
  unfold TypeV.mapDeepEqual
  simp only [Bool.and_eq_true, decide_eq_true_eq, List.all_eq_true, get?_eq_iff_mem h₁ h₂,
    get?_eq_some_iff h₂]
  constructor
  · rintro ⟨⟨hn, hlen⟩, hall⟩
    refine ⟨hn, fun p => ⟨hall p, fun hp => Classical.byContradiction fun hnp => ?_⟩⟩
    have := (List.nodup_cons.2 ⟨hnp, nodup_of_keys h₁⟩).length_le_of_subset
      (List.cons_subset.2 ⟨hp, hall⟩)
    simp only [List.length_cons] at this
    omega
  · rintro ⟨hn, h⟩
    exact ⟨⟨hn, ((List.perm_ext_iff_of_nodup (nodup_of_keys h₁) (nodup_of_keys h₂)).2 h).length_eq⟩,
      fun p => (h p).1⟩

theorem mapDeepEqual_self [DecidableEq β] (n : Bool) (m : GoMap β) (h : (keys m).Nodup) :
    TypeV.mapDeepEqual n n m m = true :=
  (mapDeepEqual_iff n n m m h h).2 ⟨rfl, fun _ => rfl⟩

/-! ### `Type.Equal` -/

/-- What `Type.Equal` compares: it is the kernel of this function (`equal_iff`). -/
def view (t : TypeV) : GoString × Bool × Bool × (GoString → Option Attr) × (GoString → Option Rel) :=
  (t.name, t.attrsNil, t.relsNil, get? t.attrs, get? t.rels)

theorem equal_iff (t u : TypeV) (ht : t.WF) (hu : u.WF) : t.equal u = true ↔ view t = view u := by
  unfold TypeV.equal view
  simp only [Bool.and_eq_true, decide_eq_true_eq, mapDeepEqual_iff _ _ _ _ ht.1 hu.1,
    mapDeepEqual_iff _ _ _ _ ht.2 hu.2, Prod.mk.injEq, funext_iff]
  constructor
  · rintro ⟨⟨a, b, c⟩, d, e⟩; exact ⟨a, b, d, c, e⟩
  · rintro ⟨a, b, d, c, e⟩; exact ⟨⟨a, b, c⟩, d, e⟩

/-! ### decimal printing of a three-digit code -/

theorem printNat_length_three (n : Nat) (h1 : 100 ≤ n) (h2 : n < 1000) : (printNat n).length = 3 := by
  rw [printNat, if_neg (by omega), printNat, if_neg (by omega), printNat, if_pos (by omega)]
  rfl

theorem goAtoi_printNat (n : Nat) (h : n < 2 ^ 63) : goAtoi (printNat n) = n := by
  have hp : parseInt 64 (printInt (n : Int)) = some (n : Int) :=
    RtL.parseInt_printInt 64 (n : Int) (by simp only [Nat.reducePow, Nat.reduceSub]; omega)
      (by simp only [Nat.reducePow, Nat.reduceSub]; omega)
  have hpi : printInt (n : Int) = printNat n := by
    unfold printInt
    rw [if_neg (by omega)]
    rfl
  rw [hpi] at hp
  unfold goAtoi
  rw [hp]

/-! ### error constructors -/

/-- Strings are dear to evaluate; that a literal is not empty is all that is needed of it. -/
theorem gs_ne_nil {s : String} (h : s ≠ "") : gs s ≠ [] := by
  simpa [gs] using h

theorem inst_lit_ne_nil (q : GoString → GoString) (args : List GoString) {s : GoString}
    (ps : List Piece) (h : s ≠ []) : ErrCtor.inst q args (.lit s :: ps) ≠ [] := by
  simp [ErrCtor.inst, h]

/-- Every constructor after the first (`NewErrBadRequest`) starts its title with a non-empty
literal. -/
theorem title_lit : ∀ c ∈ ErrCtor.table.tail, ∃ s ps, c.title = .lit (gs s) :: ps ∧ s ≠ "" := by
  repeat' refine List.forall_mem_cons.2 ⟨⟨_, _, rfl, by simp⟩, ?_⟩
  exact fun _ h => nomatch h

theorem set_ne_nil (m : GoMap β) (k : GoString) (v : β) : GoMap.set m k v ≠ [] := by
  cases m with
  | nil => simp [GoMap.set]
  | cons p m =>
    obtain ⟨k', v'⟩ := p
    simp only [GoMap.set]
    split <;> simp

theorem instMap_eq_nil (q : GoString → GoString) (args : List GoString)
    (ws : List (GoString × List Piece)) : ErrCtor.instMap q args ws = [] ↔ ws = [] := by
  have key : ∀ (ws : List (GoString × List Piece)) (m : Meta), m ≠ [] →
      ws.foldl (fun m w => GoMap.set m w.1 (Json.str (ErrCtor.inst q args w.2))) m ≠ [] := by
    intro ws
    induction ws with
    | nil => intro m hm; exact hm
    | cons w ws ih => intro m _; exact ih _ (set_ne_nil _ _ _)
  cases ws with
  | nil => simp [ErrCtor.instMap]
  | cons w ws =>
    simp only [ErrCtor.instMap, List.foldl_cons]
    constructor
    · intro h; exact absurd h (key ws _ (set_ne_nil _ _ _))
    · intro h; cases h

end Jsonapi.MiscL
