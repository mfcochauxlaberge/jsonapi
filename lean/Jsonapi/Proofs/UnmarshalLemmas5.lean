/- Helper lemmas for C05 / C06 / C13, part 5: conformance of a constructed resource to its
schema type, lists of resources, documents and identifiers. -/
import Jsonapi.Proofs.UnmarshalLemmas4
namespace Jsonapi
open GoMap
namespace UnmL

/-! ### well-typed Sets, read backwards -/

theorem setOk_attr_inv {t : Typ} {key : GoString} {y : GoVal} {a : Attr} {k : Kind}
    (h : Spec.setOk t key y = true) (hid : key ≠ idName) (ha : t.attrs.get? key = some a)
    (hk : Kind.ofCode? a.ty = some k) :
    y.hasAttrType k a.nullable = true ∨ (a.nullable = true ∧ y = .nil) := by
  unfold Spec.setOk at h
  rw [if_neg hid, ha] at h
  simp only [hk, Bool.or_eq_true, Bool.and_eq_true, decide_eq_true_eq] at h
  exact h

theorem setOk_rel_inv {t : Typ} {key : GoString} {y : GoVal} {rel : Rel}
    (h : Spec.setOk t key y = true) (hid : key ≠ idName) (ha : t.attrs.get? key = none)
    (hr : t.rels.get? key = some rel) :
    if rel.toOne then ∃ id, y = .val .string (.s id) else ∃ l, y = .strs l := by
  unfold Spec.setOk at h
  rw [if_neg hid] at h
  simp only [ha, hr] at h
  split at h
  · rw [if_pos h]; exact ⟨_, rfl⟩
  · simp only [Bool.not_eq_true'] at h
    rw [h]; exact ⟨_, rfl⟩
  · cases h

/-! ### conformance -/

/-- A returned resource conforms to the schema: its type is a schema type, every attribute
holds a value of exactly the declared Go type (or untyped nil for a nullable one), every
to-one relationship a string and every to-many relationship a string slice. -/
def Conforms (σ : SSchema) (r : AnyRes) : Prop :=
  ∃ st ∈ σ, ∃ v, r.view? = some v ∧ v.typeName = st.typ.name ∧
    (∀ key a, st.typ.attrs.get? key = some a → ∃ k, Kind.ofCode? a.ty = some k ∧
      ((v.get key).hasAttrType k a.nullable = true ∨ (a.nullable = true ∧ v.get key = .nil))) ∧
    (∀ key rel, st.typ.rels.get? key = some rel →
      if rel.toOne then ∃ id, v.get key = .val .string (.s id) else ∃ l, v.get key = .strs l)

theorem AInv.conforms {t : Typ} (ht : TypWF t) (hn : Spec.namesOk t = true) {h : Hist} {r : AnyRes}
    (inv : AInv t h r) (hok : SetHistOk t h) :
    ∃ v, r.view? = some v ∧ v.typeName = t.name ∧ v.id = Spec.specId h ∧
      (∀ f ∈ t.fieldKeys, Spec.canon (v.get f) = Spec.specGet t h f) ∧
      (∀ key a, t.attrs.get? key = some a → ∃ k, Kind.ofCode? a.ty = some k ∧
        ((v.get key).hasAttrType k a.nullable = true ∨ (a.nullable = true ∧ v.get key = .nil))) ∧
      (∀ key rel, t.rels.get? key = some rel →
        if rel.toOne then ∃ id, v.get key = .val .string (.s id) else ∃ l, v.get key = .strs l) := by
  obtain ⟨v, hv, e1, e2, e3, e4⟩ := inv.view ht hn
  refine ⟨v, hv, e1, e2, e3, ?_, ?_⟩
  · intro key a ha
    obtain ⟨_, _, k, hk⟩ := attr_of_get? ht ha
    have hf : key ∈ t.fieldKeys := List.mem_append_left _ (mem_keys_of_get? ha)
    obtain ⟨y, hy, hty⟩ := specGet_typed hok key
    refine ⟨k, hk, canon_typed ((e3 key hf).trans hy) ?_ (e4 key a k ha hk)⟩
    rcases hty with hty | rfl
    · exact setOk_attr_inv hty (namesOk_mem hn hf).1 ha hk
    · simp only [rawZero, ha, Attr.zero, hk]
      exact .inl (zero_hasAttrType k a.nullable)
  · intro key rel hr
    have hf : key ∈ t.fieldKeys := List.mem_append_right _ (mem_keys_of_get? hr)
    have hna := (rel_of_get? ht hr).2.2.2
    obtain ⟨y, hy, hty⟩ := specGet_typed hok key
    have hc := (e3 key hf).trans hy
    have hyt : if rel.toOne then ∃ id, y = .val .string (.s id) else ∃ l, y = .strs l := by
      rcases hty with hty | rfl
      · exact setOk_rel_inv hty (namesOk_mem hn hf).1 hna hr
      · simp only [rawZero, hna, hr, Rel.zero]
        split <;> exact ⟨_, rfl⟩
    by_cases ho : rel.toOne = true
    · rw [if_pos ho] at hyt ⊢
      obtain ⟨_, rfl⟩ := hyt
      exact ⟨_, canon_eq_string hc⟩
    · rw [if_neg ho] at hyt ⊢
      obtain ⟨_, rfl⟩ := hyt
      exact ⟨_, canon_eq_strs hc⟩

theorem resource_conforms {σ : SSchema} (hσ : σ.WF) {sk : ResSke} {r : AnyRes}
    (h : unmarshalResource σ sk = .ok r) : Conforms σ r := by
  obtain ⟨st, hg, _, _, _, inv⟩ := ((resource_spec hσ sk).2 r).1 h
  obtain ⟨hm, _⟩ := getType_some hg
  obtain ⟨_, h2, h3, _⟩ := hσ.2 st hm
  obtain ⟨v, hv, e1, _, _, e4, e5⟩ := inv.conforms h2 h3 (fullHist_ok h2 h3 sk)
  exact ⟨st, hm, v, hv, e1, e4, e5⟩

/-! ### lists of resources and documents -/

theorem unmarshalRes?_no_panic {σ : SSchema} (hσ : σ.WF) (x : ResSke?) : unmarshalRes? σ x ≠ .panic := by
  cases x with
  | none => nofun
  | some sk => exact (resource_spec hσ sk).1

theorem unmarshalList_no_panic {σ : SSchema} (hσ : σ.WF) (l : List ResSke?) :
    unmarshalList σ l ≠ .panic := by
  fun_induction unmarshalList σ l
  · nofun
  · nofun
  · nofun
  · rename_i ih; exact absurd ‹_› ih
  · nofun
  · exact absurd ‹_› (unmarshalRes?_no_panic hσ _)

theorem unmarshalList_ok {σ : SSchema} {l : List ResSke?} {rs : List AnyRes}
    (h : unmarshalList σ l = .ok rs) : Forall2 (fun x r => unmarshalRes? σ x = .ok r) l rs := by
  revert rs
  fun_induction unmarshalList σ l <;> intro _ h <;> cases h
  · exact .nil
  · rename_i ih; exact .cons ‹_› (ih ‹_›)

theorem unmarshalRes?_conforms {σ : SSchema} (hσ : σ.WF) {x : ResSke?} {r : AnyRes}
    (h : unmarshalRes? σ x = .ok r) : Conforms σ r := by
  cases x with
  | none => cases h
  | some sk => exact resource_conforms hσ h

theorem unmarshalList_conforms {σ : SSchema} (hσ : σ.WF) {l : List ResSke?} {rs : List AnyRes}
    (h : unmarshalList σ l = .ok rs) : ∀ r ∈ rs, Conforms σ r := by
  intro r hr
  obtain ⟨x, _, hx⟩ := (unmarshalList_ok h).of_mem_right hr
  exact unmarshalRes?_conforms hσ hx

theorem unmarshalDocument_no_panic {σ : SSchema} (hσ : σ.WF) (sk : Option DocSke) :
    unmarshalDocument σ sk ≠ .panic := by
  fun_cases unmarshalDocument σ sk
  · nofun
  · nofun
  · nofun
  · nofun
  · exact absurd ‹_› (unmarshalList_no_panic hσ _)
  · nofun
  · rename_i sk dataRes hd
    simp only [dataRes] at hd
    split at hd
    · split at hd
      · cases hd
      · cases hd
      · exact absurd ‹_› (unmarshalRes?_no_panic hσ _)
    · cases hd
    · split at hd
      · cases hd
      · cases hd
      · exact absurd ‹_› (unmarshalList_no_panic hσ _)
    · cases hd
    · cases hd
    · cases hd

theorem unmarshalDocument_ok {σ : SSchema} {sk : DocSke} {d : UDoc}
    (h : unmarshalDocument σ (some sk) = .ok d) :
    unmarshalList σ (sk.included.map (·.2)) = .ok d.included ∧ d.dmeta = sk.dmeta ∧
    (match sk.data with
      | .res x => ∃ r, unmarshalRes? σ x = .ok r ∧ d.data = .res r ∧ d.errors = []
      | .col (some l) => ∃ rs, unmarshalList σ l = .ok rs ∧ d.data = .col rs ∧ d.errors = []
      | .col none => False
      | .null => d.data = .none ∧ d.errors = []
      | .other => False
      | .absent => d.data = .none ∧ d.errors = sk.errors) := by
  generalize hsk : some sk = sk? at h
  revert h
  fun_cases unmarshalDocument σ sk? <;> intro h <;> cases h
  cases hsk
  rename_i dd errs rs dataRes hd _ hl
  refine ⟨hl, rfl, ?_⟩
  simp only [dataRes] at hd
  dsimp only
  cases hdat : sk.data with
  | absent => rw [hdat] at hd; cases hd; exact ⟨rfl, rfl⟩
  | null => rw [hdat] at hd; cases hd; exact ⟨rfl, rfl⟩
  | other => rw [hdat] at hd; cases hd
  | res x =>
    rw [hdat] at hd
    dsimp only at hd ⊢
    split at hd <;> cases hd
    exact ⟨_, ‹_›, rfl, rfl⟩
  | col o =>
    rw [hdat] at hd
    cases o with
    | none => cases hd
    | some l =>
      dsimp only at hd ⊢
      split at hd <;> cases hd
      exact ⟨_, ‹_›, rfl, rfl⟩

/-! ### identifiers -/

theorem unmarshalIdentifier_no_panic (σ : Option SSchema) (d : Option (GoString × GoString)) :
    unmarshalIdentifier σ d ≠ .panic := by
  fun_cases unmarshalIdentifier σ d <;> nofun

theorem unmarshalIdentifier_ok {σ? : Option SSchema} {d : Option (GoString × GoString)}
    {i : GoString × GoString} (h : unmarshalIdentifier σ? d = .ok i) :
    d = some i ∧ i.1 ≠ [] ∧ i.2 ≠ [] ∧ ∀ σ, σ? = some σ → σ.toSchema.hasType i.2 = true := by
  revert h
  fun_cases unmarshalIdentifier σ? d <;> intro h <;> cases h
  · exact ⟨rfl, ‹_›, ‹_›, fun _ e => Option.some.inj e ▸ ‹_›⟩
  · exact ⟨rfl, ‹_›, ‹_›, nofun⟩

theorem unmarshalIdentifiers_cons (σ : Option SSchema) (x : Option (GoString × GoString))
    (l : List (Option (GoString × GoString))) :
    unmarshalIdentifiers σ (some (x :: l)) =
      match unmarshalIdentifier σ x, unmarshalIdentifiers σ (some l) with
      | .ok i, .ok rest => .ok (i :: rest)
      | .panic, _ => .panic
      | _, .panic => .panic
      | _, _ => .err := rfl

theorem unmarshalIdentifiers_no_panic (σ : Option SSchema) (d : Option (List (Option (GoString × GoString)))) :
    unmarshalIdentifiers σ d ≠ .panic := by
  cases d with
  | none => nofun
  | some l =>
    induction l with
    | nil => nofun
    | cons x l ih =>
      rw [unmarshalIdentifiers_cons]
      split
      · nofun
      · exact absurd ‹_› (unmarshalIdentifier_no_panic σ x)
      · exact absurd ‹unmarshalIdentifiers σ (some l) = .panic› ih
      · nofun

theorem unmarshalIdentifiers_ok {σ? : Option SSchema} {l : List (Option (GoString × GoString))}
    {is : List (GoString × GoString)} (h : unmarshalIdentifiers σ? (some l) = .ok is) :
    l = is.map some ∧
      ∀ i ∈ is, i.1 ≠ [] ∧ i.2 ≠ [] ∧ ∀ σ, σ? = some σ → σ.toSchema.hasType i.2 = true := by
  induction l generalizing is with
  | nil => cases h; exact ⟨rfl, nofun⟩
  | cons x l ih =>
    rw [unmarshalIdentifiers_cons] at h
    split at h <;> cases h
    rename_i i rest h1 h2
    obtain ⟨e1, p⟩ := unmarshalIdentifier_ok h1
    obtain ⟨e2, q⟩ := ih h2
    exact ⟨by rw [e1, e2]; rfl, List.forall_mem_cons.2 ⟨p, q⟩⟩

end UnmL
end Jsonapi
