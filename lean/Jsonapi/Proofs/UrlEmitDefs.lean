/-
For C07 / C08: the parameter names `URL.String` emits, the decoded path and values map that
`url.Parse` + `Query()` return on `URL.String`'s output, and `NoEmptySelection`, the exclusion of
the known "type without fields" defect; `gs` of a literal as a byte list, and `rewriteBrace`.
-/
import Jsonapi.Spec.Url
namespace Jsonapi.Spec
open Jsonapi

/-- `"fields[" + t + "]"` -/
def fieldsName (t : GoString) : GoString := sFieldsOpen ++ t ++ [93]
/-- `"page[" + k + "]"` -/
def pageName (k : GoString) : GoString := sPageOpen ++ k ++ [93]

/-- The decoded path of `u.String()`: `"/" + strings.Join(fragments, "/")`. -/
def emittedPath (u : URL) : GoString :=
  match u.fragments with
  | [] => []
  | fs => [47] ++ joinWith [47] fs

/-- The values map of `u.String()` (in the order the parameters are emitted): one value
per name. -/
def emittedValues (u : URL) (env : StringEnv) : GoMap (List GoString) :=
  (Typ.sortStrings u.params.fields.keys).map (fun t =>
      (fieldsName t, [joinWith [44] (Typ.sortStrings ((u.params.fields.get? t).getD []))])) ++
  (match u.params.filter with
    | some f => [(sFilter, [f])]
    | none => if u.params.filterLabel ≠ [] then [(sFilter, [rewriteBrace env.labelBody])] else []) ++
  (if u.isCol then (Typ.sortStrings u.params.page.keys).map (fun k =>
      (pageName k, [((u.params.page.get? k).map PageVal.text).getD []])) else []) ++
  (if u.params.sortingRules.isEmpty then [] else [(sSort, [joinWith [44] u.params.sortingRules])])

/-- The value of the emitted `filter` parameter ("" when there is none). -/
def emittedFilterValue (u : URL) (env : StringEnv) : GoString :=
  match u.params.filter with
  | some f => f
  | none => if u.params.filterLabel ≠ [] then rewriteBrace env.labelBody else []

end Jsonapi.Spec

namespace Jsonapi

/-- `gs` on a literal, without decoding the literal's UTF-8 bytes: a string literal unfolds to
`String.ofList` of its characters, and the map over them evaluates far more cheaply than
`String.toList` does. -/
theorem gs_ofList (l : List Char) : gs (String.ofList l) = l.map (fun c => UInt8.ofNat c.toNat) := by
  simp [gs]

/-- closes `x = gs "…"` by evaluating `x` and the characters of the literal -/
theorem eq_gs {x : GoString} {l : List Char} (h : x = l.map (fun c => UInt8.ofNat c.toNat)) :
    x = gs (String.ofList l) := h.trans (gs_ofList l).symm

/-- Exclusion of the known defect: `String()` of a URL whose field selection for some
type is empty (a type without any field) does not parse back. -/
def NoEmptySelection (u : URL) : Prop := ∀ t fs, u.params.fields.get? t = some fs → fs ≠ []

/-! ### `rewriteBrace` (url.go: a leading `{` of the label body is written backslash-u-0-0-7-b) -/

theorem rewriteBrace_head (b : GoString) : (rewriteBrace b).head? ≠ some 123 := by
  unfold rewriteBrace
  split
  · simp
  · rename_i h
    cases b with
    | nil => simp
    | cons c t =>
      intro hc
      simp only [List.head?_cons, Option.some.injEq] at hc
      exact h t (by rw [hc])

theorem rewriteBrace_ne_nil (b : GoString) (h : b ≠ []) : rewriteBrace b ≠ [] := by
  unfold rewriteBrace
  split
  · simp
  · exact h

theorem rewriteBrace_of_head (b : GoString) (h : b.head? ≠ some 123) : rewriteBrace b = b := by
  unfold rewriteBrace
  split
  · simp at h
  · rfl

theorem rewriteBrace_brace (t : GoString) :
    rewriteBrace (123 :: t) = [92, 117, 48, 48, 55, 98] ++ t := rfl

end Jsonapi
