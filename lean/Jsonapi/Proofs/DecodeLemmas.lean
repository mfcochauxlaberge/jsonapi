/- Lemmas about the byte-level decoding (`Spec/JsonFull.lean`, `Model/Decode.lean`). -/
import Jsonapi.Model.Decode
import Jsonapi.Proofs.MapLemmas
namespace Jsonapi

theorem Res.exists_ok_of_isOk {α : Type} {r : Res α} (h : r.isOk = true) : ∃ a, r = .ok a := by
  cases r with
  | ok a => exact ⟨a, rfl⟩
  | err => cases h
  | panic => cases h

end Jsonapi

namespace Jsonapi.DecL
open Jsonapi Spec GoMap

/-! ### where the entries of the decoded maps come from -/

theorem attrsInto_get? (D : Delegated) {key : GoString} {raw : RawVal} :
    ∀ (l : List CMember) (cur : GoMap RawVal), (attrsInto D cur l).get? key = some raw →
      cur.get? key = some raw ∨ ∃ am ∈ l, unquote am.2.1 = key ∧ raw = rawValOf D am.2.2.2.1
  | [], _, h => .inl h
  | (a, k, b, v, c) :: l, cur, h => by
    rcases attrsInto_get? D l _ h with hg | ⟨am, ham, e⟩
    · by_cases e : key = unquote k
      · rw [e, get?_set_self] at hg
        exact .inr ⟨_, List.mem_cons_self, e.symm, (Option.some.inj hg).symm⟩
      · exact .inl (get?_set_ne _ _ _ _ e ▸ hg)
    · exact .inr ⟨am, List.mem_cons_of_mem _ ham, e⟩

theorem relsInto_get? {key : GoString} {rv : RelRaw} :
    ∀ (l : List CMember) (cur out : GoMap RelRaw), relsInto cur l = some out →
      out.get? key = some rv →
      cur.get? key = some rv ∨ ∃ rm ∈ l, unquote rm.2.1 = key ∧ decodeRel rm.2.2.2.1 = some rv
  | [], _, _, h, hg => by cases h; exact .inl hg
  | (a, k, b, v, c) :: l, cur, out, h, hg => by
    unfold relsInto at h
    cases hd : decodeRel v with
    | none => rw [hd] at h; cases h
    | some r =>
      rw [hd] at h
      rcases relsInto_get? l _ out h hg with hg | ⟨rm, hrm, e⟩
      · by_cases e : key = unquote k
        · rw [e, get?_set_self] at hg
          exact .inr ⟨_, List.mem_cons_self, e.symm, hd.trans hg⟩
        · exact .inl (get?_set_ne _ _ _ _ e ▸ hg)
      · exact .inr ⟨rm, List.mem_cons_of_mem _ hrm, e⟩

/-- What the members of a resource object do to the `attributes` and `relationships` maps:
each map is emptied by a `null` member of its field and extended (`attrsInto`, `relsInto`) by
an object member of its field; every other member leaves both alone. So properties of the two
maps that hold of the empty map and survive these two steps hold of the decoded skeleton. -/
theorem resMembers_inv {PA : GoMap RawVal → Prop} {PR : GoMap RelRaw → Prop} (D : Delegated)
    (ms0 : List CMember) (a0 : PA []) (r0 : PR [])
    (aStep : ∀ cur m ws as, m ∈ ms0 → fieldIdx resFields (unquote m.2.1) = some 2 →
      m.2.2.2.1 = .obj ws as → PA cur → PA (attrsInto D cur as))
    (rStep : ∀ cur m ws rs out, m ∈ ms0 → fieldIdx resFields (unquote m.2.1) = some 3 →
      m.2.2.2.1 = .obj ws rs → PR cur → relsInto cur rs = some out → PR out)
    (ms : List CMember) (acc sk : ResSke) (hsub : ms ⊆ ms0) (hA : PA acc.attrs)
    (hR : PR acc.rels) (h : resMembers D acc ms = some sk) : PA sk.attrs ∧ PR sk.rels := by
  -- cases 2, 4: `id`, `type`; 6, 7: `attributes` null / object; 9, 10: `relationships`
  -- null / object; 13: `meta`; 15: no field of the struct; the others are rejected
  fun_induction resMembers D acc ms
  case case1 => cases h; exact ⟨hA, hR⟩
  case case2 ih | case4 ih | case13 ih | case15 ih => exact ih (List.cons_subset.1 hsub).2 hA hR h
  case case6 ih => exact ih (List.cons_subset.1 hsub).2 a0 hR h
  case case7 hfi ws as ih =>
    obtain ⟨hm, hsub⟩ := List.cons_subset.1 hsub
    exact ih hsub (aStep _ _ ws as hm hfi rfl hA) hR h
  case case9 ih => exact ih (List.cons_subset.1 hsub).2 hA r0 h
  case case10 hfi ws rs out hout ih =>
    obtain ⟨hm, hsub⟩ := List.cons_subset.1 hsub
    exact ih hsub hA (rStep _ _ ws rs out hm hfi rfl hR hout) h
  all_goals cases h

theorem attrsInto_nodup (D : Delegated) (ms : List CMember) (cur : GoMap RawVal)
    (h : (keys cur).Nodup) : (keys (attrsInto D cur ms)).Nodup := by
  induction ms generalizing cur with
  | nil => exact h
  | cons m ms ih => exact ih _ (nodup_keys_set _ _ h)

theorem relsInto_nodup (ms : List CMember) (cur out : GoMap RelRaw)
    (h : (keys cur).Nodup) (ho : relsInto cur ms = some out) : (keys out).Nodup := by
  induction ms generalizing cur with
  | nil => cases ho; exact h
  | cons m ms ih =>
    unfold relsInto at ho
    split at ho
    · cases ho
    · exact ih _ (nodup_keys_set _ _ h) ho

theorem decodeRes_nodup (D : Delegated) (j : CJson) (sk : ResSke) (h : decodeRes D j = some sk) :
    sk.attrs.keys.Nodup ∧ sk.rels.keys.Nodup := by
  cases j with
  | null => cases h; exact ⟨List.nodup_nil, List.nodup_nil⟩
  | obj ws ms =>
    exact resMembers_inv D ms (PA := fun m => (keys m).Nodup) (PR := fun m => (keys m).Nodup)
      List.nodup_nil List.nodup_nil (fun cur _ _ as _ _ _ => attrsInto_nodup D as cur)
      (fun cur _ _ rs out _ _ _ hc ho => relsInto_nodup rs cur out hc ho) ms ResSke.zero sk (fun _ hm => hm)
      List.nodup_nil List.nodup_nil h
  | _ => cases h

/-! ### leading white space -/

theorem dropWs_append_of_all (ws s : GoString) (h : ws.all isWs = true) :
    dropWs (ws ++ s) = dropWs s := by
  induction ws with
  | nil => rfl
  | cons c ws ih =>
    simp only [List.all_cons, Bool.and_eq_true] at h
    simp only [dropWs, List.cons_append, List.dropWhile_cons, h.1, if_true]
    exact ih h.2

theorem parseJsonC_ws_leading (ws s : GoString) (h : ws.all isWs = true) :
    parseJsonC (ws ++ s) = parseJsonC s := by
  unfold parseJsonC
  rw [dropWs_append_of_all ws s h]

end Jsonapi.DecL
