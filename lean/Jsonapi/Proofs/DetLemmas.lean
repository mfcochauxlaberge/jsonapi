/-
A list is determined by its keys when these are distinct, hence a sorted list by its
permutation class; so the three sorts of the model (`sortMembers`, `Typ.sortStrings`,
`sortById`) give the same result on permuted inputs with distinct keys. `GoMap.get?` under a
permutation; the resources of a document's primary data (`dataResources`, `mapRes`).
-/
import Jsonapi.Spec.Marshal
import Jsonapi.Proofs.ListLemmas
namespace Jsonapi

theorem forall2_mem_right {α β : Type} {R : α → β → Prop} {l : List α} {l' : List β}
    (h : Forall2 R l l') : ∀ b ∈ l', ∃ a ∈ l, R a b :=
  fun _ hb => h.of_mem_right hb

namespace DetL

theorem gs_le_iff {a b : GoString} : a ≤ b ↔ ¬ b < a := Iff.rfl

theorem eq_of_key_eq {α β} (key : α → β) :
    ∀ {l : List α}, (l.map key).Nodup → ∀ {a b}, a ∈ l → b ∈ l → key a = key b → a = b
  | [], _, _, _, ha, _, _ => by cases ha
  | x :: xs, hnd, a, b, ha, hb, hk => by
    rw [List.map_cons, List.nodup_cons] at hnd
    rcases List.mem_cons.1 ha with rfl | ha'
    · rcases List.mem_cons.1 hb with rfl | hb'
      · rfl
      · exact absurd (hk ▸ List.mem_map_of_mem (f := key) hb') hnd.1
    · rcases List.mem_cons.1 hb with rfl | hb'
      · exact absurd (hk ▸ List.mem_map_of_mem (f := key) ha') hnd.1
      · exact eq_of_key_eq key hnd.2 ha' hb' hk

theorem eq_of_perm_sorted_key {α} (key : α → GoString) {l₁ l₂ : List α}
    (hp : l₁.Perm l₂) (hnd : (l₁.map key).Nodup)
    (h₁ : l₁.Pairwise (fun a b => key a ≤ key b))
    (h₂ : l₂.Pairwise (fun a b => key a ≤ key b)) : l₁ = l₂ := by
  refine List.Perm.eq_of_pairwise (le := fun a b => key a ≤ key b) ?_ h₁ h₂ hp
  intro a b ha hb hab hba
  exact eq_of_key_eq key hnd ha (hp.mem_iff.2 hb) (List.le_antisymm hab hba)

/-! ### sortMembers -/

theorem sortMembers_sorted (l : List (GoString × Json)) :
    (sortMembers l).Pairwise (fun a b => a.1 ≤ b.1) := by
  have h := List.pairwise_mergeSort (le := fun (a b : GoString × Json) => !(decide (b.1 < a.1)))
    (by
      intro a b c hab hbc
      simp only [Bool.not_eq_true', decide_eq_false_iff_not] at hab hbc ⊢
      exact List.le_trans (l₁ := a.1) hab hbc)
    (by
      intro a b
      simp only [Bool.or_eq_true, Bool.not_eq_true', decide_eq_false_iff_not]
      exact List.le_total a.1 b.1) l
  refine List.Pairwise.imp ?_ h
  intro a b hab
  simpa using hab

theorem sortMembers_perm (l : List (GoString × Json)) : (sortMembers l).Perm l :=
  List.mergeSort_perm _ _

theorem sortMembers_eq_of_perm {l₁ l₂ : List (GoString × Json)} (hp : l₁.Perm l₂)
    (hnd : (l₁.map (·.1)).Nodup) : sortMembers l₁ = sortMembers l₂ := by
  apply eq_of_perm_sorted_key (·.1)
  · exact (sortMembers_perm l₁).trans (hp.trans (sortMembers_perm l₂).symm)
  · exact ((sortMembers_perm l₁).map (·.1)).nodup_iff.2 hnd
  · exact sortMembers_sorted l₁
  · exact sortMembers_sorted l₂

/-! ### Typ.sortStrings -/

theorem insertSorted_perm (x : GoString) : ∀ l, (Typ.insertSorted x l).Perm (x :: l)
  | [] => List.Perm.refl _
  | y :: ys => by
    unfold Typ.insertSorted
    split
    · exact List.Perm.refl _
    · exact ((insertSorted_perm x ys).cons y).trans (List.Perm.swap x y ys)

theorem sortStrings_perm : ∀ l, (Typ.sortStrings l).Perm l
  | [] => List.Perm.refl _
  | x :: xs => (insertSorted_perm x _).trans ((sortStrings_perm xs).cons x)

theorem insertSorted_sorted (x : GoString) :
    ∀ l : List GoString, l.Pairwise (· ≤ ·) → (Typ.insertSorted x l).Pairwise (· ≤ ·)
  | [], _ => List.pairwise_singleton _ _
  | y :: ys, h => by
    have h' := List.pairwise_cons.1 h
    unfold Typ.insertSorted
    split
    · rename_i hxy
      have hle : x ≤ y := hxy.elim List.le_of_lt (· ▸ List.le_refl x)
      refine List.pairwise_cons.2 ⟨fun z hz => ?_, h⟩
      rcases List.mem_cons.1 hz with rfl | hz'
      · exact hle
      · exact List.le_trans hle (h'.1 z hz')
    · rename_i hxy
      have hle : y ≤ x := fun hlt => hxy (Or.inl hlt)
      refine List.pairwise_cons.2 ⟨fun z hz => ?_, insertSorted_sorted x ys h'.2⟩
      rcases List.mem_cons.1 ((insertSorted_perm x ys).mem_iff.1 hz) with rfl | hz'
      · exact hle
      · exact h'.1 z hz'

theorem sortStrings_sorted : ∀ l, (Typ.sortStrings l).Pairwise (· ≤ ·)
  | [] => List.Pairwise.nil
  | x :: xs => insertSorted_sorted x _ (sortStrings_sorted xs)

theorem sortStrings_eq_of_perm {l l' : List GoString} (hp : l.Perm l') :
    Typ.sortStrings l = Typ.sortStrings l' :=
  List.Perm.eq_of_pairwise (le := (· ≤ ·)) (fun _ _ _ _ => List.le_antisymm)
    (sortStrings_sorted l) (sortStrings_sorted l')
    ((sortStrings_perm l).trans (hp.trans (sortStrings_perm l').symm))

theorem sortStrings_idem (l : List GoString) :
    Typ.sortStrings (Typ.sortStrings l) = Typ.sortStrings l :=
  sortStrings_eq_of_perm (sortStrings_perm l)

/-! ### sortById -/

theorem sortById_cons (x : ResView) (l : List ResView) :
    sortById (x :: l) = sortById.ins x (sortById l) := rfl

theorem ins_perm (x : ResView) : ∀ l, (sortById.ins x l).Perm (x :: l)
  | [] => List.Perm.refl _
  | y :: ys => by
    unfold sortById.ins
    split
    · exact ((ins_perm x ys).cons y).trans (List.Perm.swap x y ys)
    · exact List.Perm.refl _

theorem sortById_perm : ∀ l, (sortById l).Perm l
  | [] => List.Perm.refl _
  | x :: xs => (ins_perm x _).trans ((sortById_perm xs).cons x)

theorem sortById_isEmpty (l : List ResView) : (sortById l).isEmpty = l.isEmpty :=
  (sortById_perm l).isEmpty_eq

theorem ins_sorted (x : ResView) :
    ∀ l : List ResView, l.Pairwise (fun a b => a.id ≤ b.id) →
      (sortById.ins x l).Pairwise (fun a b => a.id ≤ b.id)
  | [], _ => List.pairwise_singleton _ _
  | y :: ys, h => by
    have h' := List.pairwise_cons.1 h
    unfold sortById.ins
    split
    · rename_i hyx
      refine List.pairwise_cons.2 ⟨fun z hz => ?_, ins_sorted x ys h'.2⟩
      rcases List.mem_cons.1 ((ins_perm x ys).mem_iff.1 hz) with rfl | hz'
      · exact List.le_of_lt hyx
      · exact h'.1 z hz'
    · rename_i hyx
      refine List.pairwise_cons.2 ⟨fun z hz => ?_, h⟩
      rcases List.mem_cons.1 hz with rfl | hz'
      · exact hyx
      · exact List.le_trans (l₂ := y.id) hyx (h'.1 z hz')

theorem sortById_sorted : ∀ l, (sortById l).Pairwise (fun a b => a.id ≤ b.id)
  | [] => List.Pairwise.nil
  | x :: xs => ins_sorted x _ (sortById_sorted xs)

theorem sortById_eq_of_perm {l l' : List ResView} (hp : l.Perm l')
    (hnd : (l.map (·.id)).Nodup) : sortById l = sortById l' := by
  apply eq_of_perm_sorted_key (·.id)
  · exact (sortById_perm l).trans (hp.trans (sortById_perm l').symm)
  · exact ((sortById_perm l).map (·.id)).nodup_iff.2 hnd
  · exact sortById_sorted l
  · exact sortById_sorted l'

theorem sortById_of_sorted : ∀ l : List ResView, l.Pairwise (fun a b => a.id ≤ b.id) →
    sortById l = l
  | [], _ => rfl
  | x :: xs, h => by
    rw [List.pairwise_cons] at h
    rw [sortById_cons, sortById_of_sorted xs h.2]
    cases xs with
    | nil => rfl
    | cons y ys =>
      unfold sortById.ins
      rw [if_neg (h.1 y (List.mem_cons_self ..))]

theorem sortById_idem (l : List ResView) : sortById (sortById l) = sortById l :=
  sortById_of_sorted _ (sortById_sorted l)

theorem sortById_map_of_sorted (h : ResView → ResView) (hid : ∀ r, (h r).id = r.id)
    (l : List ResView) : sortById ((sortById l).map h) = (sortById l).map h := by
  apply sortById_of_sorted
  rw [List.pairwise_map]
  refine List.Pairwise.imp ?_ (sortById_sorted l)
  intro a b hab
  rw [hid, hid]
  exact hab

/-! ### GoMap lookups -/

theorem get?_eq_of_perm {β} {m₁ m₂ : GoMap β} (hp : m₁.Perm m₂) :
    m₁.keys.Nodup → ∀ k, m₁.get? k = m₂.get? k := by
  induction hp with
  | nil => intros; rfl
  | cons x _ ih =>
    intro hnd k
    obtain ⟨k', v⟩ := x
    simp only [GoMap.keys, List.map_cons, List.nodup_cons] at hnd
    simp only [GoMap.get?]
    rw [ih hnd.2 k]
  | swap x y l =>
    intro hnd k
    obtain ⟨kx, vx⟩ := x
    obtain ⟨ky, vy⟩ := y
    simp only [GoMap.keys, List.map_cons, List.nodup_cons, List.mem_cons] at hnd
    simp only [GoMap.get?]
    by_cases h₁ : ky = k
    · by_cases h₂ : kx = k
      · exact absurd (h₁.trans h₂.symm) (fun h => hnd.1 (Or.inl h))
      · simp [h₁, h₂]
    · by_cases h₂ : kx = k <;> simp [h₁, h₂]
  | trans h₁ _ ih₁ ih₂ =>
    intro hnd k
    rw [ih₁ hnd k, ih₂ ((List.Perm.nodup_iff (h₁.map (fun p : GoString × _ => p.1))).1 hnd) k]

theorem get?_map_val {β γ} (g : β → γ) : ∀ (m : GoMap β) (k : GoString),
    GoMap.get? (m.map (fun p => (p.1, g p.2))) k = (GoMap.get? m k).map g
  | [], _ => rfl
  | (k', v) :: rest, k => by
    simp only [List.map_cons, GoMap.get?]
    split
    · rfl
    · exact get?_map_val g rest k

/-! ### the primary data of a document -/

def isOther : DocData → Bool
  | .other => true
  | _ => false

/-- The resources held by the primary data. -/
def dataResources : DocData → List ResView
  | .res r => [r]
  | .col _ ms => ms
  | _ => []

/-- Apply `g` to every resource of the primary data. -/
def mapRes (g : ResView → ResView) : DocData → DocData
  | .res r => .res (g r)
  | .col tn ms => .col tn (ms.map g)
  | d => d

theorem mapRes_id (d : DocData) : mapRes id d = d := by
  cases d <;> simp [mapRes]

theorem isOther_mapRes (g : ResView → ResView) (d : DocData) : isOther (mapRes g d) = isOther d := by
  cases d <;> rfl

end DetL
end Jsonapi
