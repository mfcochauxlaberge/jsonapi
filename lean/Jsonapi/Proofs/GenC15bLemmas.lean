/-
Lemmas for Props/GenC15b: the loop shapes the translator (harness/cmd/translate) produces for
`Schema.Check`, `Schema.buildRels`, `Schema.Rels` and `Type.Copy` - folds that append to a
slice, a flag set in a loop, a map used as a set, a map copied entry by entry - related to
the list functions the hand-written model uses.
-/
import Jsonapi.Generated.Funcs
import Jsonapi.Proofs.MapLemmas
namespace Jsonapi
namespace GenC15b

/-- `found := false; for … { if p e { found = true } }` -/
theorem foldl_flag {α : Type} (p : α → Bool) (l : List α) (b : Bool) :
    l.foldl (fun found e => if p e = true then true else found) b = (b || l.any p) := by
  induction l generalizing b with
  | nil => simp
  | cons a l ih =>
    rw [List.foldl_cons, ih, List.any_cons]
    cases p a <;> cases b <;> rfl

/-- `found, one := false, true; for … { if c e { found = true; one = one && v e } }`: whether an
element satisfies `c`, and whether all that do satisfy `v`. -/
theorem foldl_found_one {α : Type} (c v : α → Bool) (f : Bool × Bool → α → Bool × Bool)
    (hf : ∀ a b e, f (a, b) e = if c e = true then (true, b && v e) else (a, b))
    (l : List α) (a b : Bool) :
    l.foldl f (a, b) = (a || l.any c, b && (l.filter c).all v) := by
  induction l generalizing a b with
  | nil => simp
  | cons e l ih =>
    rw [List.foldl_cons, hf]
    cases hc : c e
    · simp [ih, hc]
    · simp [ih, hc, Bool.and_assoc]

/-- A loop that carries a pair whose first component every step sets anew (a range variable
read as a local copy) is, for the second component, the loop without it. -/
theorem foldl_snd {α β γ : Type} (f : α × β → γ → α × β) (g : β → γ → β)
    (h : ∀ a b e, (f (a, b) e).2 = g b e) (l : List γ) (init : α × β) :
    (l.foldl f init).2 = l.foldl g init.2 := by
  induction l generalizing init with
  | nil => rfl
  | cons e l ih => rw [List.foldl_cons, ih, List.foldl_cons, h]

theorem keys_mapSet {κ β : Type} [DecidableEq κ] (m : List (κ × β)) (k : κ) (v : β) :
    (k ∈ m.map (·.1) ∧ (Gen.mapSet m k v).map (·.1) = m.map (·.1)) ∨
    (k ∉ m.map (·.1) ∧ (Gen.mapSet m k v).map (·.1) = m.map (·.1) ++ [k]) := by
  induction m with
  | nil => exact .inr ⟨List.not_mem_nil, rfl⟩
  | cons q m ih =>
    unfold Gen.mapSet; split
    · rename_i e
      exact .inl ⟨e ▸ List.mem_cons_self, by rw [List.map_cons, List.map_cons, e]⟩
    · rename_i e
      rcases ih with ⟨hk, ih⟩ | ⟨hk, ih⟩
      · exact .inl ⟨List.mem_cons_of_mem _ hk, congrArg (q.1 :: ·) ih⟩
      · exact .inr ⟨fun h => (List.mem_cons.1 h).elim (fun h => e h.symm) hk, congrArg (q.1 :: ·) ih⟩

theorem foldl_mapSet {α κ : Type} [DecidableEq κ] (l : List α) (f : α → κ)
    (m : List (κ × Unit)) (h : (m.map (·.1)).Nodup) :
    ((l.foldl (fun m e => Gen.mapSet m (f e) ()) m).map (·.1)).Nodup ∧
    ∀ x, x ∈ (l.foldl (fun m e => Gen.mapSet m (f e) ()) m).map (·.1) ↔
      x ∈ m.map (·.1) ∨ ∃ e ∈ l, f e = x := by
  induction l generalizing m with
  | nil => exact ⟨h, fun x => by simp⟩
  | cons a l ih =>
    rw [List.foldl_cons]
    have step : ((Gen.mapSet m (f a) ()).map (·.1)).Nodup ∧
        ∀ x, x ∈ (Gen.mapSet m (f a) ()).map (·.1) ↔ x ∈ m.map (·.1) ∨ f a = x := by
      rcases keys_mapSet m (f a) () with ⟨hk, e⟩ | ⟨hk, e⟩ <;> rw [e]
      · exact ⟨h, fun x => ⟨.inl, fun hx => hx.elim id (· ▸ hk)⟩⟩
      · refine ⟨List.nodup_append.2 ⟨h, List.pairwise_singleton _ _, fun x hx y hy e =>
          hk (List.mem_singleton.1 hy ▸ e ▸ hx)⟩, fun x => ?_⟩
        rw [List.mem_append, List.mem_singleton, eq_comm]
    refine ⟨(ih _ step.1).1, fun x => ?_⟩
    simp only [(ih _ step.1).2, step.2, List.mem_cons, exists_eq_or_imp, or_assoc]

/-- `for k, v := range src { dst[k] = v }` into a map none of whose keys is in `src`: the
entries of `src`, in iteration order, after those of `dst`. -/
theorem foldl_set_copy {β : Type} (src dst : GoMap β) (hs : src.keys.Nodup)
    (hd : ∀ k ∈ src.keys, k ∉ dst.keys) :
    src.foldl (fun m e => GoMap.set m e.1 e.2) dst = dst ++ src := by
  induction src generalizing dst with
  | nil => simp
  | cons e src ih =>
    rw [GoMap.keys, List.map_cons, List.nodup_cons] at hs
    rw [List.foldl_cons, GoMap.set_of_not_mem _ _ _ (hd e.1 List.mem_cons_self), ih _ hs.2,
      List.append_assoc]
    · rfl
    · intro k hk hk'
      rw [GoMap.keys, List.map_append, List.mem_append] at hk'
      exact hk'.elim (hd k (List.mem_cons_of_mem _ hk)) fun h => hs.1 ((List.mem_singleton.1 h : k = e.1) ▸ hk)

end GenC15b
end Jsonapi
