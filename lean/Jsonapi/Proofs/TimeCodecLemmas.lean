/-
`Spec.parseRFC3339` inverts `formatTime` on `Spec.TimeDom` (local civil year 0..9999,
nanoseconds below a second, whole-minute zone strictly within a day):
`daysFromCivil` inverts `civilFromDays`, the fixed-width fields parse back, the trimmed
fraction parses back, the zone parses back.
-/
import Jsonapi.Spec.Codec
import Jsonapi.Proofs.RoundTripLemmas
namespace Jsonapi
namespace RtL
open Spec

/-! ### the calendar -/

/-- A four-year cycle of 1461 days: the 1460-day count `(f + t) / 1460` (`t` is what the
count has drifted since the start of the era) puts day `f` of the cycle in year `g` of the
cycle, its `f - 365 * g`-th day. -/
theorem tc_cycle (f t g : Int) (f0 : 0 ≤ f) (f1 : f < 1461) (t0 : 0 ≤ t) (t1 : t ≤ 96)
    (eg : g = (f - (f + t) / 1460) / 365) : 0 ≤ g ∧ g ≤ 3 ∧ 365 * g ≤ f ∧ f ≤ 365 * g + 365 := by
  lia

/-- year of era and day of year of day `f` of the four-year cycle `j` of century `c` of an era -/
theorem tc_yoe_cycle (c j f yoe : Int) (c0 : 0 ≤ c) (c3 : c ≤ 3) (j0 : 0 ≤ j) (j24 : j ≤ 24)
    (f0 : 0 ≤ f) (f1 : f < 1461)
    (ey : yoe = (36524 * c + (1461 * j + f) - (36524 * c + (1461 * j + f)) / 1460 + c) / 365) :
    0 ≤ yoe ∧ yoe ≤ 399 ∧ 0 ≤ 36524 * c + (1461 * j + f) - (365 * yoe + yoe / 4 - yoe / 100) ∧
      36524 * c + (1461 * j + f) - (365 * yoe + yoe / 4 - yoe / 100) ≤ 365 := by
  subst ey
  rw [show (36524 * c + (1461 * j + f) - (36524 * c + (1461 * j + f)) / 1460 + c) / 365 =
      100 * c + 4 * j + (f - (f + (j + 24 * c)) / 1460) / 365 by lia]
  obtain ⟨g0, g3, gl, gu⟩ := tc_cycle f (j + 24 * c) _ f0 f1 (by lia) (by lia) rfl
  generalize (f - (f + (j + 24 * c)) / 1460) / 365 = g at *
  lia

theorem tc_yoe (doe yoe : Int) (h0 : 0 ≤ doe) (h1 : doe < 146097)
    (ey : yoe = (doe - doe / 1460 + doe / 36524 - doe / 146096) / 365) :
    0 ≤ yoe ∧ yoe ≤ 399 ∧ 0 ≤ doe - (365 * yoe + yoe / 4 - yoe / 100) ∧
      doe - (365 * yoe + yoe / 4 - yoe / 100) ≤ 365 := by
  by_cases h : doe < 146096
  · have hd := Int.mul_ediv_add_emod doe 36524
    have e0 := Int.emod_nonneg doe (b := 36524) (by decide)
    have e1 := Int.emod_lt_of_pos doe (b := 36524) (by decide)
    rw [← Int.mul_ediv_add_emod (doe % 36524) 1461] at hd
    have c0 : 0 ≤ doe / 36524 := Int.ediv_nonneg h0 (by decide)
    have c3 : doe / 36524 ≤ 3 := Int.le_of_lt_add_one (Int.ediv_lt_of_lt_mul (by decide) h)
    have j0 : 0 ≤ doe % 36524 / 1461 := Int.ediv_nonneg e0 (by decide)
    have j24 : doe % 36524 / 1461 ≤ 24 :=
      Int.le_of_lt_add_one (Int.ediv_lt_of_lt_mul (by decide) (Int.lt_trans e1 (by decide)))
    have f0 := Int.emod_nonneg (doe % 36524) (b := 1461) (by decide)
    have f1 := Int.emod_lt_of_pos (doe % 36524) (b := 1461) (by decide)
    rw [Int.ediv_eq_zero_of_lt h0 h, Int.sub_zero] at ey
    generalize doe / 36524 = c at *
    generalize doe % 36524 / 1461 = j at *
    generalize doe % 36524 % 1461 = f at *
    subst hd
    exact tc_yoe_cycle c j f yoe c0 c3 j0 j24 f0 f1 ey
  · have e : doe = 146096 := by omega
    subst e ey
    decide

/-- month (counted from March) and day of a day of year (counted from 1 March) -/
theorem tc_month_day (doy mp : Int) (h0 : 0 ≤ doy) (h1 : doy ≤ 365) (emp : mp = (5 * doy + 2) / 153) :
    0 ≤ mp ∧ mp ≤ 11 ∧ 0 ≤ doy - (153 * mp + 2) / 5 ∧ doy - (153 * mp + 2) / 5 ≤ 30 ∧
      (mp < 10 ↔ doy < 306) := by
  lia

/-- the years 0..9999: the first days of the range are January and February of the last
year of era -1, the last day of the range is the last day of year 9999 -/
theorem tc_year_range (z era doe yoe doy mp : Int) (hlo : -719528 ≤ z) (hhi : z ≤ 2932896)
    (hdoe : z + 719468 - era * 146097 = doe) (hd0 : 0 ≤ doe) (hy0 : 0 ≤ yoe) (hy1 : yoe ≤ 399)
    (hdoy : doe - (365 * yoe + yoe / 4 - yoe / 100) = doy) (hdy1 : doy ≤ 365)
    (hm : mp < 10 ↔ doy < 306) :
    0 ≤ yoe + era * 400 + (if mp < 10 then 0 else 1) ∧
      yoe + era * 400 + (if mp < 10 then 0 else 1) ≤ 9999 := by
  lia

/-- `daysFromCivil` undoes the shift of the year's start to 1 March: for the month `mp`
counted from March of the year `yoe` of the era `era`. -/
theorem tc_dfc (era yoe mp m d : Int) (hy0 : 0 ≤ yoe) (hy1 : yoe ≤ 399) (h0 : 0 ≤ mp)
    (h1 : mp ≤ 11) (hm : m = if mp < 10 then mp + 3 else mp - 9) :
    1 ≤ m ∧ m ≤ 12 ∧
    (if m ≤ 2 then yoe + era * 400 + 1 else yoe + era * 400) =
      yoe + era * 400 + (if mp < 10 then 0 else 1) ∧
    daysFromCivil (if m ≤ 2 then yoe + era * 400 + 1 else yoe + era * 400) m d =
      era * 146097 + (yoe * 365 + yoe / 4 - yoe / 100 + ((153 * mp + 2) / 5 + d - 1)) - 719468 := by
  have e : (yoe + era * 400) / 400 = era := by
    rw [Int.add_mul_ediv_right _ _ (by decide), Int.ediv_eq_zero_of_lt hy0 (by lia), Int.zero_add]
  subst hm
  unfold daysFromCivil
  by_cases h : mp < 10
  · have : ¬ mp + 3 ≤ 2 := by lia
    simp only [h, if_true, this, if_false, Int.add_sub_cancel, e, Int.add_zero, and_true]
    lia
  · have : mp - 9 ≤ 2 := by lia
    simp only [h, if_false, this, if_true, Int.add_sub_cancel, Int.sub_add_cancel, e, and_true]
    lia

/-- On the days of the years 0..9999: 0000-01-01 is day -719528, 9999-12-31 is day 2932896. -/
theorem daysFromCivil_civilFromDays (z : Int) (h : -719528 ≤ z ∧ z ≤ 2932896) :
    daysFromCivil (civilFromDays z).1 (civilFromDays z).2.1 (civilFromDays z).2.2 = z ∧
    0 ≤ (civilFromDays z).1 ∧ (civilFromDays z).1 ≤ 9999 ∧
    1 ≤ (civilFromDays z).2.1 ∧ (civilFromDays z).2.1 ≤ 12 ∧
    1 ≤ (civilFromDays z).2.2 ∧ (civilFromDays z).2.2 ≤ 31 := by
  obtain ⟨hlo, hhi⟩ := h
  generalize hera : (z + 719468) / 146097 = era
  generalize hdoe : z + 719468 - era * 146097 = doe
  have hd : 0 ≤ doe ∧ doe < 146097 := by
    rw [← hdoe, ← hera, Int.mul_comm, ← Int.emod_def]
    exact ⟨Int.emod_nonneg _ (by decide), Int.emod_lt_of_pos _ (by decide)⟩
  generalize hyoe : (doe - doe / 1460 + doe / 36524 - doe / 146096) / 365 = yoe
  obtain ⟨hy0, hy1, hdy0, hdy1⟩ := tc_yoe doe yoe hd.1 hd.2 hyoe.symm
  generalize hdoy : doe - (365 * yoe + yoe / 4 - yoe / 100) = doy at hdy0 hdy1
  generalize hmp : (5 * doy + 2) / 153 = mp
  obtain ⟨hmp0, hmp11, hd0, hd30, hmlt⟩ := tc_month_day doy mp hdy0 hdy1 hmp.symm
  obtain ⟨hyr0, hyr1⟩ := tc_year_range z era doe yoe doy mp hlo hhi hdoe hd.1 hy0 hy1 hdoy hdy1 hmlt
  generalize hm : (if mp < 10 then mp + 3 else mp - 9) = m
  obtain ⟨hm1, hm12, hY, hdfc⟩ :=
    tc_dfc era yoe mp m (doy - (153 * mp + 2) / 5 + 1) hy0 hy1 hmp0 hmp11 hm.symm
  have hc : civilFromDays z = (if m ≤ 2 then yoe + era * 400 + 1 else yoe + era * 400, m,
      doy - (153 * mp + 2) / 5 + 1) := by
    simp only [civilFromDays, hera, hdoe, hyoe, hdoy, hmp, hm]
  rw [hc]
  simp only []
  rw [hdfc, hY]
  refine ⟨?_, hyr0, hyr1, hm1, hm12, Int.le_add_of_nonneg_left hd0, Int.add_le_add_right hd30 1⟩
  rw [← hdoy, ← hdoe]
  simp +arith only

/-! ### fixed-width decimal fields -/

theorem tc_isDig_eq : Spec.isDig = isDigit := rfl
theorem tc_decVal_eq : Spec.decVal = digitsVal := rfl

theorem tc_printNat_length_le (w n : Nat) (h : n < 10 ^ (w + 1)) : (printNat n).length ≤ w + 1 := by
  induction w generalizing n with
  | zero => rw [printNat_lt n (by omega)]; simp
  | succ w ih =>
    by_cases h10 : n < 10
    · rw [printNat_lt n h10]; simp
    · rw [printNat_ge n h10]
      have : n / 10 < 10 ^ (w + 1) := by
        rw [Nat.pow_succ] at h; omega
      have := ih (n / 10) this
      simp only [List.length_append, List.length_cons, List.length_nil]
      omega

theorem tc_digitsVal_zeros (k : Nat) (s : GoString) :
    digitsVal (List.replicate k 48 ++ s) = digitsVal s := by
  induction k with
  | zero => simp
  | succ k ih =>
    rw [List.replicate_succ, List.cons_append]
    have : digitsVal (48 :: (List.replicate k 48 ++ s)) = digitsVal (List.replicate k 48 ++ s) := by
      simp [digitsVal]
    rw [this, ih]

theorem tc_all_isDigit_zeros (k : Nat) : (List.replicate k (48 : UInt8)).all isDigit = true := by
  rw [List.all_replicate]; split <;> rfl

theorem tc_pad_spec (w n : Nat) (h : n < 10 ^ (w + 1)) :
    (pad (w + 1) n).length = w + 1 ∧ (pad (w + 1) n).all isDigit = true ∧
      digitsVal (pad (w + 1) n) = n := by
  have hl := tc_printNat_length_le w n h
  refine ⟨?_, ?_, ?_⟩
  · simp only [pad, List.length_append, List.length_replicate]; omega
  · simp only [pad, List.all_append, tc_all_isDigit_zeros, printNat_all_digit, Bool.and_self]
  · simp only [pad, tc_digitsVal_zeros, digitsVal_printNat]

theorem tc_takeNum_append (w : Nat) (a r : GoString) (h1 : a.length = w)
    (h2 : a.all isDigit = true) : Spec.takeNum w (a ++ r) = some (digitsVal a, r) := by
  simp only [Spec.takeNum, List.take_left' h1, List.drop_left' h1, tc_isDig_eq, tc_decVal_eq,
    h1, h2, and_self, if_true]

theorem tc_takeNum_pad (w n : Nat) (r : GoString) (h : n < 10 ^ (w + 1)) :
    Spec.takeNum (w + 1) (pad (w + 1) n ++ r) = some (n, r) := by
  obtain ⟨h1, h2, h3⟩ := tc_pad_spec w n h
  rw [tc_takeNum_append (w + 1) _ r h1 h2, h3]

theorem tc_expect_cons (c : UInt8) (r : GoString) : Spec.expect c (c :: r) = some r := by
  simp [Spec.expect]

/-! ### the fraction -/

theorem tc_trim (D : GoString) :
    ∃ k, D = (D.reverse.dropWhile (fun c => decide (c = 48))).reverse ++ List.replicate k 48 := by
  refine ⟨(D.reverse.takeWhile (fun c => decide (c = 48))).length, ?_⟩
  rw [← List.reverse_replicate, ← List.eq_replicate_iff.2
      ⟨rfl, fun x hx => of_decide_eq_true (List.all_eq_true.1 List.all_takeWhile x hx)⟩,
    ← List.reverse_append, List.takeWhile_append_dropWhile, List.reverse_reverse]

theorem tc_takeWhile_digits (a : GoString) (c : UInt8) (r : GoString) (ha : a.all isDigit = true)
    (hc : isDigit c = false) :
    (a ++ c :: r).takeWhile Spec.isDig = a ∧ (a ++ c :: r).dropWhile Spec.isDig = c :: r := by
  have hc' : ¬ isDigit c = true := by rw [hc]; nofun
  rw [tc_isDig_eq, List.takeWhile_append_of_pos (List.all_eq_true.1 ha),
    List.dropWhile_append_of_pos (List.all_eq_true.1 ha), List.takeWhile_cons_of_neg hc',
    List.dropWhile_cons_of_neg hc', List.append_nil]
  exact ⟨rfl, rfl⟩

theorem tc_parseFrac_fracText (nsec : Nat) (h : nsec < 1000000000) (c : UInt8) (r : GoString)
    (hc : isDigit c = false) (hc' : c ≠ 46) :
    Spec.parseFrac (fracText nsec ++ c :: r) = some (nsec, c :: r) := by
  by_cases h0 : nsec = 0
  · subst h0
    simp [fracText, Spec.parseFrac, hc']
  · obtain ⟨hl, hall, hval⟩ := tc_pad_spec 8 nsec (by omega)
    obtain ⟨k, hk⟩ := tc_trim (pad 9 nsec)
    generalize hT : ((pad 9 nsec).reverse.dropWhile (fun c => decide (c = 48))).reverse = T at hk
    have hft : fracText nsec = 46 :: T := by
      simp only [fracText, h0, if_false, hT]
    have hTall : T.all isDigit = true := by
      rw [hk, List.all_append, Bool.and_eq_true] at hall
      exact hall.1
    have hlen : T.length + k = 9 := by
      have := hl
      rw [hk, List.length_append, List.length_replicate] at this
      exact this
    have hT1 : 1 ≤ T.length := by
      cases hT' : T with
      | nil =>
        rw [hk, hT', List.nil_append, ← List.append_nil (List.replicate k 48), tc_digitsVal_zeros] at hval
        exact absurd hval.symm h0
      | cons x l => simp
    obtain ⟨htw, hdw⟩ := tc_takeWhile_digits T c r hTall hc
    have hk' : 9 - T.length = k := by omega
    rw [hft]
    simp only [List.cons_append, Spec.parseFrac, if_true, htw, hdw, hk', ← hk, tc_decVal_eq, hval]
    simp only [hT1, true_and]
    have : T.length ≤ 9 := by omega
    simp [this]

/-! ### the zone -/

theorem tc_takeNum_pad2 (n : Nat) (r : GoString) (h : n < 100) :
    Spec.takeNum 2 (pad 2 n ++ r) = some (n, r) :=
  tc_takeNum_pad 1 n r h

theorem tc_takeNum_pad2_nil (n : Nat) (h : n < 100) : Spec.takeNum 2 (pad 2 n) = some (n, []) := by
  have := tc_takeNum_pad2 n [] h
  rwa [List.append_nil] at this

/-- the zone starts with `Z`, `+` or `-`: neither a digit nor a dot -/
theorem tc_zoneText_head (off : Int) :
    ∃ c r, zoneText off = c :: r ∧ isDigit c = false ∧ c ≠ 46 := by
  unfold zoneText
  by_cases h0 : off = 0
  · rw [if_pos h0]; exact ⟨90, [], rfl, by decide, by decide⟩
  · rw [if_neg h0]
    by_cases hn : off < 0
    · rw [if_pos hn]; exact ⟨45, _, rfl, by decide, by decide⟩
    · rw [if_neg hn]; exact ⟨43, _, rfl, by decide, by decide⟩

theorem tc_parseZone_hhmm (c : UInt8) (hh mm : Nat) (hc : c = 43 ∨ c = 45) (hhh : hh < 100)
    (hmm : mm < 100) :
    Spec.parseZone (c :: (pad 2 hh ++ [58] ++ pad 2 mm)) =
      some (if c = 45 then -((hh * 3600 + mm * 60 : Nat) : Int) else (hh * 3600 + mm * 60 : Nat)) := by
  have hc90 : c ≠ 90 := by rcases hc with rfl | rfl <;> decide
  simp only [Spec.parseZone, hc90, if_false, hc, if_true, List.append_assoc, List.cons_append,
    List.nil_append, tc_takeNum_pad2 _ _ hhh, tc_takeNum_pad2_nil _ hmm, tc_expect_cons,
    Option.bind_some]

theorem tc_parseZone_zoneText (off : Int) (h1 : off % 60 = 0) (h2 : -86400 < off)
    (h3 : off < 86400) : Spec.parseZone (zoneText off) = some off := by
  unfold zoneText
  by_cases h0 : off = 0
  · subst h0; rfl
  · have ha : off.natAbs / 60 * 60 = off.natAbs := by lia
    generalize off.natAbs / 60 = a at ha
    have hhh : a / 60 < 100 := by lia
    have hmm : a % 60 < 100 := Nat.lt_trans (Nat.mod_lt _ (by decide)) (by decide)
    rw [if_neg h0, tc_parseZone_hhmm _ _ _ (by split <;> simp) hhh hmm]
    by_cases hn : off < 0
    · rw [if_pos hn, if_pos rfl]; congr 1; lia
    · rw [if_neg hn, if_neg (by decide)]; congr 1; lia

/-! ### the whole text -/

theorem tc_clock (sod : Nat) (h : sod < 86400) :
    sod / 3600 < 100 ∧ sod / 60 % 60 < 100 ∧ sod % 60 < 100 ∧
      sod / 3600 * 3600 + sod / 60 % 60 * 60 + sod % 60 = sod := by
  lia

theorem parseRFC3339_formatTime (t : Time) (h : Spec.TimeDom t) :
    Spec.parseRFC3339 (formatTime t) = some t := by
  obtain ⟨sec, nsec, off⟩ := t
  obtain ⟨h1, h2, h3, h4, h5, h6⟩ := h
  simp only at h1 h2 h3 h4 h5 h6
  unfold formatTime
  simp only []
  have hdr : -719528 ≤ (sec + off) / 86400 ∧ (sec + off) / 86400 ≤ 2932896 := by lia
  have hsr : ((sec + off) % 86400).toNat < 86400 := by lia
  have hsec : (sec + off) / 86400 * 86400 + (((sec + off) % 86400).toNat : Int) - off = sec := by lia
  generalize (sec + off) / 86400 = days at hdr hsec
  generalize ((sec + off) % 86400).toNat = sod at hsr hsec
  obtain ⟨hhh, hmi, hss, hsod⟩ := tc_clock sod hsr
  obtain ⟨hinv, hy0, hy1, hm0, hm1, hd0, hd1⟩ := daysFromCivil_civilFromDays days hdr
  generalize (civilFromDays days).1 = y at hinv hy0 hy1
  generalize (civilFromDays days).2.1 = m at hinv hm0 hm1
  generalize (civilFromDays days).2.2 = d at hinv hd0 hd1
  obtain ⟨c, r, hz, hc, hc'⟩ := tc_zoneText_head off
  have hpz : Spec.parseZone (c :: r) = some off := by
    rw [← hz]; exact tc_parseZone_zoneText off h4 h5 h6
  have cy : (y.toNat : Int) = y := Int.toNat_of_nonneg hy0
  have cm : (m.toNat : Int) = m := Int.toNat_of_nonneg (Int.le_trans (by decide) hm0)
  have cd : (d.toNat : Int) = d := Int.toNat_of_nonneg (Int.le_trans (by decide) hd0)
  have ey : y.toNat < 10000 := Nat.lt_succ_of_le (Int.toNat_le.2 hy1)
  have em : m.toNat < 100 := Nat.lt_of_le_of_lt (Int.toNat_le.2 hm1) (by decide)
  have ed : d.toNat < 100 := Nat.lt_of_le_of_lt (Int.toNat_le.2 hd1) (by decide)
  rw [hz]
  simp only [Spec.parseRFC3339, List.append_assoc, List.cons_append, List.nil_append,
    tc_takeNum_pad 3 _ _ ey, tc_takeNum_pad2 _ _ em, tc_takeNum_pad2 _ _ ed,
    tc_takeNum_pad2 _ _ hhh, tc_takeNum_pad2 _ _ hmi, tc_takeNum_pad2 _ _ hss, tc_expect_cons,
    Option.bind_some, tc_parseFrac_fracText nsec h3 c r hc hc', hpz, cy, cm, cd, hinv, hsod, hsec]

end RtL
end Jsonapi
