/- For C05 / C06 / C13: `SSchema.WF`, canonical readings and their typing, the typing of the values
a SoftResource stores (`SoftTyped`), histories of Sets and the generic fold (`fold_inv`). -/
import Jsonapi.Proofs.UnmarshalLemmas
import Jsonapi.Proofs.DeclLemmas
namespace Jsonapi
open GoMap

/-- Well-formed schema for unmarshaling: unique non-empty type names, well-formed types
whose field names are usable ("id" and "" excluded), struct-backed types declarable. -/
def SSchema.WF (σ : SSchema) : Prop :=
  (σ.map (·.typ.name)).Nodup ∧
  ∀ st ∈ σ, st.typ.name ≠ [] ∧ TypWF st.typ ∧ Spec.namesOk st.typ = true ∧
    (st.backed = true → Spec.structable st.typ = true)

namespace UnmL

/-! ### canonical reading -/

def canonPay (k : Kind) (p : Pay) : Pay :=
  match k, p with
  | .bytes, .bs none => .bs (some [])
  | _, p => p

theorem canonPay_of_ne {k : Kind} {p : Pay} (h : p ≠ .bs none) : canonPay k p = p := by
  unfold canonPay; split
  · exact absurd rfl h
  · rfl

theorem canonPay_eq {k : Kind} {p q : Pay} (h : canonPay k p = q) (hq : ∀ o, q ≠ .bs o) : p = q := by
  unfold canonPay at h; split at h
  · exact absurd h.symm (hq _)
  · exact h

theorem canon_val (k : Kind) (p : Pay) : Spec.canon (.val k p) = .val k (canonPay k p) := by
  unfold canonPay Spec.canon
  split <;> simp_all

theorem canon_ptr_some (k : Kind) (p : Pay) :
    Spec.canon (.ptr k (some p)) = .ptr k (some (canonPay k p)) := by
  unfold canonPay Spec.canon
  split <;> simp_all

theorem canon_mkVal (k : Kind) (n : Bool) (p : Pay) :
    Spec.canon (mkVal k n p) = mkVal k n (canonPay k p) := by
  cases n
  · exact canon_val k p
  · exact canon_ptr_some k p

theorem canonPay_idem (k : Kind) (p : Pay) : canonPay k (canonPay k p) = canonPay k p := by
  by_cases e : p = .bs none
  · subst e; cases k <;> rfl
  · rw [canonPay_of_ne e, canonPay_of_ne e]

theorem canon_ptr_none (k : Kind) : Spec.canon (.ptr k none) = .nil := rfl
theorem canon_strs (l : List GoString) : Spec.canon (.strs l) = .strs l := rfl
theorem canon_nil : Spec.canon .nil = .nil := rfl
theorem canon_other (n : Nat) : Spec.canon (.other n) = .other n := rfl

theorem payOk_canonPay (k' k : Kind) (p : Pay) : k'.payOk (canonPay k p) = k'.payOk p := by
  unfold canonPay; split <;> rfl

theorem canon_eq_mkVal {x : GoVal} {k : Kind} {n : Bool} {q : Pay}
    (h : Spec.canon x = mkVal k n q) : ∃ p, x = mkVal k n p ∧ canonPay k p = q := by
  cases x with
  | val k' p => rw [canon_val] at h; cases n <;> cases h; exact ⟨p, rfl, rfl⟩
  | ptr k' o => cases o with
    | none => cases n <;> cases h
    | some p => rw [canon_ptr_some] at h; cases n <;> cases h; exact ⟨p, rfl, rfl⟩
  | _ => cases n <;> cases h

theorem canon_eq_val {x : GoVal} {k : Kind} {q : Pay} (h : Spec.canon x = .val k q) :
    ∃ p, x = .val k p ∧ canonPay k p = q :=
  canon_eq_mkVal (n := false) h

theorem canon_eq_strs {x : GoVal} {l : List GoString} (h : Spec.canon x = .strs l) : x = .strs l := by
  cases x with
  | val k p => rw [canon_val] at h; cases h
  | ptr k o => cases o with
    | none => cases h
    | some p => rw [canon_ptr_some] at h; cases h
  | strs l' => exact h
  | _ => cases h

theorem canon_eq_nil {x : GoVal} (h : Spec.canon x = .nil) : x = .nil ∨ ∃ k, x = .ptr k none := by
  cases x with
  | val k p => rw [canon_val] at h; cases h
  | ptr k o => cases o with
    | none => exact .inr ⟨k, rfl⟩
    | some p => rw [canon_ptr_some] at h; cases h
  | nil => exact .inl rfl
  | _ => cases h

theorem canon_eq_string {x : GoVal} {id : GoString} (h : Spec.canon x = .val .string (.s id)) :
    x = .val .string (.s id) := by
  obtain ⟨p, rfl, hp⟩ := canon_eq_val h
  rw [canonPay_eq hp nofun]

theorem canon_typed {x y : GoVal} {k : Kind} {n : Bool} (h : Spec.canon x = Spec.canon y)
    (hy : y.hasAttrType k n = true ∨ (n = true ∧ y = .nil))
    (hx : ∀ k', x = .ptr k' none → k' = k) :
    x.hasAttrType k n = true ∨ (n = true ∧ x = .nil) := by
  have nilcase : n = true → Spec.canon x = .nil → x.hasAttrType k n = true ∨ (n = true ∧ x = .nil) := by
    intro hn hc
    rcases canon_eq_nil hc with e | ⟨k', e⟩
    · exact .inr ⟨hn, e⟩
    · cases hx k' e
      subst e
      left; simp [GoVal.hasAttrType, hn]
  rcases hy with hy | ⟨hn, rfl⟩
  · rcases hasAttrType_cases hy with ⟨py, rfl, hpy⟩ | ⟨hn, rfl⟩
    · rw [canon_mkVal] at h
      obtain ⟨px, rfl, hpp⟩ := canon_eq_mkVal h
      left
      rw [mkVal_hasAttrType, ← payOk_canonPay k k px, hpp, payOk_canonPay]; exact hpy
    · exact nilcase hn h
  · exact nilcase hn h

/-! ### typing of the stored values of a SoftResource -/

/-- Every stored attribute value has the dynamic Go type of its attribute. -/
def SoftTyped (t : Typ) (d : GoMap GoVal) : Prop :=
  ∀ f a x, t.attrs.get? f = some a → d.get? f = some x → x.attrType = (a.ty, a.nullable)

theorem attr_of_get? {t : Typ} (ht : TypWF t) {f : GoString} {a : Attr} (h : t.attrs.get? f = some a) :
    f = a.name ∧ a.name ≠ [] ∧ ∃ k, Kind.ofCode? a.ty = some k := by
  obtain ⟨h1, h2, h3, h4⟩ := ht.attrs _ (mem_of_get? h)
  exact ⟨h1, h2, validKind h3 h4⟩

theorem rel_of_get? {t : Typ} (ht : TypWF t) {f : GoString} {r : Rel} (h : t.rels.get? f = some r) :
    f = r.fromName ∧ r.fromName ≠ [] ∧ r.toType ≠ [] ∧ t.attrs.get? f = none := by
  obtain ⟨h1, h2, h3⟩ := ht.rels _ (mem_of_get? h)
  exact ⟨h1, h2, h3, get?_eq_none_of_not_mem (fun h' => ht.disj f h' (mem_keys_of_get? h))⟩

theorem zero_attrType {a : Attr} {k : Kind} (hk : Kind.ofCode? a.ty = some k) :
    a.zero.attrType = (a.ty, a.nullable) := by
  have hc := Kind.code_of_ofCode? hk
  simp only [Attr.zero, hk, GoVal.zero]
  cases a.nullable <;> simp [GoVal.attrType, hc]

theorem SoftTyped.check {t : Typ} (ht : TypWF t) {d : GoMap GoVal}
    (hk : ∀ x ∈ keys d, x ∈ t.fieldKeys) (h : SoftTyped t d) : SoftTyped t (Soft.checkData t d) := by
  intro f a x ha hx
  have hf : f ∈ t.fieldKeys := List.mem_append_left _ (mem_keys_of_get? ha)
  rw [(checkData_spec ht d hk).2 f hf] at hx
  simp only [Option.some.injEq] at hx
  cases hd : d.get? f with
  | some y => rw [hd] at hx; simp only [Option.getD_some] at hx; subst hx; exact h f a y ha hd
  | none =>
    rw [hd] at hx; simp only [Option.getD_none] at hx; subst hx
    obtain ⟨_, _, k, hkk⟩ := attr_of_get? ht ha
    simp only [rawZero, ha]
    exact zero_attrType hkk

theorem SoftTyped.set {t : Typ} {d : GoMap GoVal} (h : SoftTyped t d) {k : GoString} {v : GoVal}
    (hv : ∀ a, t.attrs.get? k = some a → v.attrType = (a.ty, a.nullable)) :
    SoftTyped t (d.set k v) := by
  intro f a x ha hx
  by_cases e : f = k
  · subst e
    rw [get?_set_self] at hx
    cases hx; exact hv a ha
  · rw [get?_set_ne _ _ _ _ e] at hx
    exact h f a x ha hx

theorem SoftTyped.step {t : Typ} (ht : TypWF t) {s : Soft} (hs : s.typ = t)
    (hk : ∀ x ∈ keys s.data, x ∈ t.fieldKeys) (h : SoftTyped t s.data) (k : GoString) (v : GoVal) :
    SoftTyped t (s.set k v).data := by
  subst hs
  have hc := SoftTyped.check ht hk h
  by_cases hkid : k = idName
  · subst hkid
    rw [show s.set idName v = _ from Soft.set_id s.typ s.id s.data v]
    exact hc
  · rw [show s.set k v = _ from Soft.set_eq s.typ s.id s.data k v hkid]
    simp only []
    split
    · rename_i hacc
      refine hc.set (fun a ha => ?_)
      simp only [Spec.accepts, ha, Bool.or_eq_true, Bool.and_eq_true, decide_eq_true_eq] at hacc
      simp only [Spec.stored, ha]
      split
      · exact zero_attrType (attr_of_get? ht ha).2.2.choose_spec
      · rename_i hn
        rcases hacc with h1 | ⟨h1, h2⟩
        · exact h1
        · simp [h1, h2] at hn; rw [h1, h2]; exact hn
    · exact hc

/-! ### histories -/

theorem find?_hist_append (h rest : Hist) (f : GoString) (hf : f ∉ rest.map (·.1)) :
    (h ++ rest).reverse.find? (fun p => p.1 = f) = h.reverse.find? (fun p => p.1 = f) := by
  have : rest.reverse.find? (fun p => p.1 = f) = none := by
    simp only [List.find?_eq_none, List.mem_reverse, decide_eq_true_eq]
    exact fun p hp e => hf (List.mem_map.2 ⟨p, hp, e⟩)
  rw [List.reverse_append, List.find?_append, this, Option.none_or]

theorem specGet_append_of_not_mem (t : Typ) (h rest : Hist) (f : GoString)
    (hf : f ∉ rest.map (·.1)) : Spec.specGet t (h ++ rest) f = Spec.specGet t h f := by
  unfold Spec.specGet
  rw [find?_hist_append h rest f hf]

theorem specId_append_of_not_mem (h rest : Hist) (hf : idName ∉ rest.map (·.1)) :
    Spec.specId (h ++ rest) = Spec.specId h := by
  unfold Spec.specId
  rw [find?_hist_append h rest idName hf]

theorem specGet_of_not_mem (t : Typ) (h : Hist) (f : GoString) (hf : f ∉ h.map (·.1)) :
    Spec.specGet t h f = Spec.zeroOf t f :=
  specGet_append_of_not_mem t [] h f hf

theorem specGet_of_mem (t : Typ) (h : Hist) (f : GoString) (v : GoVal) (hnd : (h.map (·.1)).Nodup)
    (hm : (f, v) ∈ h) : Spec.specGet t h f = Spec.canon v := by
  obtain ⟨h1, h2, e⟩ := List.append_of_mem hm
  subst e
  have hnot : f ∉ h2.map (·.1) := by
    simp only [List.map_append, List.map_cons, List.nodup_append, List.nodup_cons] at hnd
    exact hnd.2.1.1
  have : h1 ++ (f, v) :: h2 = (h1 ++ [(f, v)]) ++ h2 := by simp
  rw [this, specGet_append_of_not_mem _ _ _ _ hnot, specGet_snoc, if_pos rfl]

theorem specGet_typed {t : Typ} {h : Hist} (hok : SetHistOk t h) (f : GoString) :
    ∃ y, Spec.specGet t h f = Spec.canon y ∧ (Spec.setOk t f y = true ∨ y = rawZero t f) := by
  unfold Spec.specGet
  cases hfind : h.reverse.find? (fun p => p.1 = f) with
  | none => exact ⟨rawZero t f, (canon_rawZero t f).symm, .inr rfl⟩
  | some p =>
    have hm : p ∈ h := by simpa using List.mem_of_find?_eq_some hfind
    have hp : p.1 = f := by simpa using List.find?_some hfind
    refine ⟨p.2, rfl, .inl ?_⟩
    rw [← hp]; exact hok p hm

/-! ### the generic fold -/

/-- A loop over payload entries: each entry either is bad (error), or is good and then
performs a Set (recorded in the history) or nothing. -/
theorem fold_inv {α β : Type} (f : Res α → β → Res α) (herr : ∀ b, f .err b = .err)
    (I : Hist → α → Prop) (entry : β → Option (GoString × GoVal)) (good : β → Bool)
    (h1 : ∀ h a b e, I h a → good b = true → entry b = some e →
      ∃ a', f (.ok a) b = .ok a' ∧ I (h ++ [e]) a')
    (h2 : ∀ h a b, I h a → good b = true → entry b = none → f (.ok a) b = .ok a)
    (h3 : ∀ h a b, I h a → good b = false → f (.ok a) b = .err)
    (l : List β) : ∀ h a, I h a →
      (l.all good = true → ∃ a', l.foldl f (.ok a) = .ok a' ∧ I (h ++ l.filterMap entry) a') ∧
      (l.all good = false → l.foldl f (.ok a) = .err) := by
  induction l with
  | nil => intro h a inv; exact ⟨fun _ => ⟨a, rfl, by simpa using inv⟩, fun hh => by simp at hh⟩
  | cons b l ih =>
    intro h a inv
    simp only [List.all_cons, List.foldl_cons]
    cases hg : good b with
    | false =>
      rw [h3 h a b inv hg, foldl_fix f .err herr]
      exact ⟨fun hh => by simp at hh, fun _ => rfl⟩
    | true =>
      simp only [Bool.true_and]
      cases he : entry b with
      | none =>
        rw [h2 h a b inv hg he]
        simp only [List.filterMap_cons, he]
        exact ih h a inv
      | some e =>
        obtain ⟨a', e1, inv'⟩ := h1 h a b e inv hg he
        rw [e1]
        simp only [List.filterMap_cons, he]
        have := ih (h ++ [e]) a' inv'
        simpa [List.append_assoc] using this

theorem filterMap_keys_sublist {β : Type} (entry : GoString × β → Option (GoString × GoVal))
    (hk : ∀ p e, entry p = some e → e.1 = p.1) (l : GoMap β) :
    ((l.filterMap entry).map (·.1)).Sublist (keys l) := by
  induction l with
  | nil => exact List.Sublist.slnil
  | cons p l ih =>
    simp only [List.filterMap_cons, keys, List.map_cons]
    cases he : entry p with
    | none => exact List.Sublist.cons _ ih
    | some e =>
      simp only [List.map_cons]
      rw [hk p e he]
      exact List.Sublist.cons_cons _ ih

end UnmL
end Jsonapi
