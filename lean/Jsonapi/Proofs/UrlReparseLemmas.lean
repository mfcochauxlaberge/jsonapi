/-
Helper lemmas for C08 (String() parses back): what `newSimpleURL` / `newURL` compute on
the values map that `String()` emits.
-/
import Jsonapi.Proofs.UnmarshalLemmas
import Jsonapi.Proofs.UrlLemmas
import Jsonapi.Proofs.UrlStringLemmas
namespace Jsonapi.UrlL
open Jsonapi Schema GoMap

theorem rfold_append {α β : Type} (f : α → β → Res α) (l₁ l₂ : List β) (r : Res α) :
    rfold f r (l₁ ++ l₂) = rfold f (rfold f r l₁) l₂ := by
  induction l₁ generalizing r with
  | nil => cases r <;> rfl
  | cons b l ih =>
    cases r with
    | ok a => simp only [List.cons_append, rfold]; exact ih _
    | err => simp only [List.cons_append, rfold, rfold_err]
    | panic => simp only [List.cons_append, rfold, rfold_panic]

theorem rfold_single {α β : Type} (f : α → β → Res α) (a : α) (b : β) :
    rfold f (.ok a) [b] = f a b := by
  simp only [rfold]

/-- the step function of `newSimpleURL` -/
abbrev sstep (fd : FilterDec) : SimpleURL → GoString × List GoString → Res SimpleURL :=
  fun su p => simpleStep fd su p.1 p.2

theorem sstep_eq (fd : FilterDec) (su : SimpleURL) (n : GoString) (vs : List GoString) :
    sstep fd su (n, vs) = simpleStep fd su n vs := rfl

theorem foldl_set_eq_append {β : Type} (h : GoString → β) (ts : List GoString) (m0 : GoMap β)
    (hnd : ts.Nodup) (hdis : ∀ t ∈ ts, t ∉ keys m0) :
    ts.foldl (fun m t => m.set t (h t)) m0 = m0 ++ ts.map (fun t => (t, h t)) := by
  induction ts generalizing m0 with
  | nil => simp
  | cons t ts ih =>
    rw [List.nodup_cons] at hnd
    simp only [List.foldl_cons, List.map_cons]
    rw [set_of_not_mem _ _ _ (hdis t List.mem_cons_self), ih _ hnd.2]
    · simp
    · intro t' ht'
      simp only [GoMap.keys, List.map_append, List.map_cons, List.map_nil, List.mem_append,
        List.mem_singleton, not_or]
      exact ⟨hdis t' (List.mem_cons_of_mem _ ht'), fun e => hnd.1 (e ▸ ht')⟩

theorem seg_fields (fd : FilterDec) (g : GoString → GoString) : ∀ (ts : List GoString)
    (su : SimpleURL), (∀ t ∈ ts, t ≠ []) →
    rfold (sstep fd) (.ok su) (ts.map (fun t => (Spec.fieldsName t, [g t]))) =
      .ok { su with fields := ts.foldl (fun m t => m.set t (parseCommaList (g t))) su.fields } := by
  intro ts
  induction ts with
  | nil => intro su _; rfl
  | cons t ts ih =>
    intro su hne
    simp only [List.map_cons, rfold, List.foldl_cons]
    have hc : classify (Spec.fieldsName t) = .fields t :=
      (classify_fields_iff _ _).2 ⟨rfl, hne t List.mem_cons_self⟩
    rw [sstep_eq, simpleStep_eq, hc]
    simp only []
    rw [ih _ (fun t' ht' => hne t' (List.mem_cons_of_mem _ ht'))]
    rfl

theorem seg_page (fd : FilterDec) (g : GoString → GoString) : ∀ (ks : List GoString)
    (su : SimpleURL), (∀ k ∈ ks, k ≠ [] ∧ g k ≠ []) →
    rfold (sstep fd) (.ok su) (ks.map (fun k => (Spec.pageName k, [g k]))) =
      .ok { su with page := ks.foldl (fun m k => m.set k (pageVal (g k))) su.page } := by
  intro ks
  induction ks with
  | nil => intro su _; rfl
  | cons k ks ih =>
    intro su hne
    simp only [List.map_cons, rfold, List.foldl_cons]
    have hc : classify (Spec.pageName k) = .page k :=
      (classify_page_iff _ _).2 ⟨rfl, (hne k List.mem_cons_self).1⟩
    rw [sstep_eq, simpleStep_eq, hc]
    have hv : ¬ firstVal [g k] = [] := (hne k List.mem_cons_self).2
    simp only [if_neg hv]
    rw [ih _ (fun k' hk' => hne k' (List.mem_cons_of_mem _ hk'))]
    rfl

theorem seg_sort (fd : FilterDec) (su : SimpleURL) (v : GoString) :
    rfold (sstep fd) (.ok su) [(sSort, [v])] =
      .ok { su with sortingRules := su.sortingRules ++ parseCommaList v } := by
  rw [rfold_single, sstep_eq, simpleStep_eq, (classify_sort_iff _).2 rfl]
  simp

theorem seg_filter (fd : FilterDec) (su : SimpleURL) (v : GoString) :
    rfold (sstep fd) (.ok su) [(sFilter, [v])] = filterStep fd su v := by
  rw [rfold_single, sstep_eq, simpleStep_eq, (classify_filter_iff _).2 rfl]
  rfl


/-- with unique names (a Go map) at most one of filter / filter label is set -/
theorem newSimpleURL_excl {path : GoString} {values : GoMap (List GoString)} {fd : FilterDec}
    {su : SimpleURL} (hnd : (keys values).Nodup) (h : newSimpleURL path values fd = .ok su) :
    su.filter = none ∨ su.filterLabel = [] := by
  rw [newSimpleURL_eq] at h
  -- both are untouched until the `filter` parameter is met, and it is met once
  refine (rfold_ind _ values (fun pre su =>
    (sFilter ∉ keys pre → su.filter = none ∧ su.filterLabel = []) ∧
      (su.filter = none ∨ su.filterLabel = [])) ?_ _ _ ⟨fun _ => ⟨rfl, rfl⟩, .inl rfl⟩ h).2
  intro pre b suf a a' hl ⟨h1, h2⟩ hs
  have hf := (simpleStep_ok hs).2.2.2.2.2
  by_cases hb : b.1 = sFilter
  · rw [if_pos ((classify_filter_iff _).2 hb)] at hf
    have hpre : sFilter ∉ keys pre := by
      intro hm
      rw [hl, keys, List.map_append, List.nodup_append] at hnd
      exact hnd.2.2 _ hm _ (List.mem_map.2 ⟨b, List.mem_cons_self, rfl⟩) hb.symm
    obtain ⟨e1, e2⟩ := h1 hpre
    refine ⟨fun hn => absurd (List.mem_map.2 ⟨b, by simp, hb⟩) hn, ?_⟩
    rcases hf with ⟨hf, _⟩ | ⟨hf, _⟩
    · exact .inl (hf.trans e1)
    · exact .inr (hf.trans e2)
  · rw [if_neg (mt (classify_filter_iff _).1 hb), hf.1, hf.2] at *
    refine ⟨fun hn => h1 fun hm => hn ?_, h2⟩
    rw [keys, List.map_append]; exact List.mem_append_left _ hm

theorem newSimpleURL_page {path : GoString} {values : GoMap (List GoString)} {fd : FilterDec}
    {su : SimpleURL} (h : newSimpleURL path values fd = .ok su) :
    ∀ p ∈ su.page, p.1 ≠ [] ∧ ∃ s, s ≠ [] ∧ p.2 = pageVal s := by
  rw [newSimpleURL_eq] at h
  refine rfold_inv _ (fun su : SimpleURL => ∀ p ∈ su.page, p.1 ≠ [] ∧ ∃ s, s ≠ [] ∧ p.2 = pageVal s)
    ?_ _ _ _ (by intro p hp; cases hp) h
  intro a b a' ha hs
  rcases (simpleStep_ok hs).2.2.2.2.1 with e | ⟨k, hc, hv, e⟩ <;> rw [e]
  · exact ha
  · intro p hp
    rcases mem_set hp with hp | rfl
    · exact ha p hp
    · exact ⟨((classify_page_iff _ _).1 hc).2, _, hv, rfl⟩

theorem pageVal_text (s : GoString) (hs : s ≠ []) :
    (pageVal s).text ≠ [] ∧ pageVal (pageVal s).text = pageVal s := by
  unfold pageVal
  cases hp : parseInt 64 s with
  | none => simp only [PageVal.text]; exact ⟨hs, by rw [hp]⟩
  | some n =>
    simp only [PageVal.text]
    obtain ⟨h1, h2⟩ := UnmL.parseInt_range hp
    exact ⟨RtL.printInt_ne_nil n, by rw [RtL.parseInt_printInt 64 n h1 h2]⟩


theorem sel_self {typ : Typ} (hnd : typ.fields.Nodup) : ∀ {l : List GoString},
    (∀ f ∈ l, f = idName ∨ f ∈ typ.fields) → Perm.sel typ l = l
  | [], _ => rfl
  | a :: l, hl => by
    have ih := sel_self hnd (l := l) (fun f hf => hl f (List.mem_cons_of_mem _ hf))
    unfold Perm.sel at ih ⊢
    rw [List.flatMap_cons, ih]
    by_cases e : a = idName
    · simp [e]
    · rw [if_neg e]
      rcases hl a List.mem_cons_self with h | h
      · exact absurd h e
      · rw [List.filter_eq, hnd.count, if_pos h]; rfl

theorem fields_refold {σ : Schema} (hσ : Inv σ) (rt : GoString) (h : GoString → List GoString) :
    ∀ (ts : List GoString) (m0 : GoMap (List GoString)),
    (∀ t ∈ ts, σ.hasType t = true ∧ (h t).Nodup ∧
      ∀ f ∈ h t, f = idName ∨ f ∈ (σ.getType t).fields) →
    rfold (fieldStep σ rt) (.ok m0) (ts.map (fun t => (t, h t))) =
      .ok (ts.foldl (fun m t => m.set t (h t)) m0) := by
  intro ts
  induction ts with
  | nil => intro m0 _; rfl
  | cons t ts ih =>
    intro m0 hts
    obtain ⟨ht, hnd, hf⟩ := hts t List.mem_cons_self
    obtain ⟨htne, hname, hwf⟩ := hasType_name_ne hσ ht
    simp only [List.map_cons, rfold, List.foldl_cons]
    have hstep : fieldStep σ rt m0 (t, h t) = .ok (m0.set t (h t)) := by
      unfold fieldStep
      have hn : (σ.getType t).name ≠ [] := by rw [hname]; exact htne
      simp only []
      rw [if_neg (fun hc => hn hc.2), if_pos hn, sel_self (fields_nodup hwf) hf,
        if_neg (fun hc => hc ((eraseDups_length_iff _).2 hnd))]
    rw [hstep]
    exact ih _ (fun t' ht' => hts t' (List.mem_cons_of_mem _ ht'))

/-! ### the sorting rules are a fixed point -/

theorem stripDash_cases (rule : GoString) :
    rule = Spec.stripDash rule ∨ rule = 45 :: Spec.stripDash rule := by
  unfold Spec.stripDash
  split
  · exact .inr rfl
  · exact .inl rfl

theorem validRules_self (σ : Schema) (rt : GoString) (R : List GoString)
    (h : ∀ rule ∈ R, Spec.stripDash rule = idName ∨ Spec.stripDash rule ∈ attrNames σ rt) :
    Spec.validRules σ rt R = R := by
  unfold Spec.validRules
  rw [List.filter_eq_self]
  intro rule hr
  simp only [Bool.or_eq_true, decide_eq_true_eq, List.contains_iff_mem]
  exact h rule hr

theorem pRules_fix (σ : Schema) (su su' : SimpleURL) (rt : GoString)
    (hdash : ∀ a ∈ attrNames σ rt, a.head? ≠ some 45)
    (hcol : pIsCol σ su = true) (hcol' : pIsCol σ su' = true)
    (hs : su'.sortingRules = pRules σ su rt) : pRules σ su' rt = pRules σ su rt := by
  obtain ⟨_, hall, hid⟩ := pRules_facts σ su rt hcol
  have hall' : ∀ rule ∈ pRules σ su rt,
      Spec.stripDash rule = idName ∨ Spec.stripDash rule ∈ attrNames σ rt := by
    intro rule hr
    rcases hall rule hr with e | e
    · right; rw [stripDash_of_no_dash (hdash rule e)]; exact e
    · exact e
  have hcover : ∀ a ∈ attrNames σ rt,
      (pRules σ su rt).any (fun rule => Spec.stripDash rule = a) = true := by
    intro a ha
    by_cases hv : (Spec.validRules σ rt su.sortingRules).any (fun rule => Spec.stripDash rule = a) = true
    · obtain ⟨r, hr, he⟩ := List.any_eq_true.1 hv
      refine List.any_eq_true.2 ⟨r, ?_, he⟩
      unfold pRules; rw [if_pos hcol]
      simp only [List.mem_append]; left; left; exact hr
    · refine List.any_eq_true.2 ⟨a, ?_, by simp [stripDash_of_no_dash (hdash a ha)]⟩
      unfold pRules; rw [if_pos hcol]
      simp only [List.mem_append]; left; right
      rw [(DetL.sortStrings_perm _).mem_iff]
      exact List.mem_filter.2 ⟨ha, by simpa using hv⟩
  have hidf : (pRules σ su rt).any (fun rule => Spec.stripDash rule = idName) = true := by
    obtain ⟨r, hr, he⟩ := hid
    exact List.any_eq_true.2 ⟨r, hr, by simp [he]⟩
  conv => lhs; unfold pRules
  rw [if_pos hcol', hs, validRules_self σ rt _ hall', if_pos hidf]
  have : (attrNames σ rt).filter (fun a =>
      !(pRules σ su rt).any (fun rule => Spec.stripDash rule = a)) = [] := by
    rw [List.filter_eq_nil_iff]
    intro a ha; simp [hcover a ha]
  rw [this]
  simp [Typ.sortStrings]


/-! ### `newSimpleURL` on the emitted values -/

theorem foldl_set_congr {β : Type} (h h' : GoString → β) (ts : List GoString) (m0 : GoMap β)
    (hh : ∀ t ∈ ts, h t = h' t) :
    ts.foldl (fun m t => m.set t (h t)) m0 = ts.foldl (fun m t => m.set t (h' t)) m0 := by
  induction ts generalizing m0 with
  | nil => rfl
  | cons t ts ih =>
    simp only [List.foldl_cons]
    rw [hh t List.mem_cons_self]
    exact ih _ (fun t' ht' => hh t' (List.mem_cons_of_mem _ ht'))

theorem run_fields (fd : FilterDec) (u : URL) (su : SimpleURL)
    (hkeys : ∀ t ∈ u.params.fields.keys, t ≠ [])
    (hfld : ∀ t fs, u.params.fields.get? t = some fs → ∀ f ∈ fs, f ≠ [] ∧ (44 : UInt8) ∉ f) :
    rfold (sstep fd) (.ok su) (Esc.fieldVals u) =
      .ok { su with fields := (Typ.sortStrings u.params.fields.keys).foldl (fun m t =>
        m.set t (Typ.sortStrings ((u.params.fields.get? t).getD []))) su.fields } := by
  rw [Esc.fieldVals, seg_fields fd _ _ su fun t ht => hkeys t ((DetL.sortStrings_perm _).mem_iff.1 ht)]
  congr 2
  apply foldl_set_congr
  intro t _
  apply Num.parseCommaList_joinWith
  intro f hf
  have hf' := (DetL.sortStrings_perm _).mem_iff.1 hf
  cases hg : u.params.fields.get? t with
  | none => rw [hg] at hf'; cases hf'
  | some fs => rw [hg] at hf'; exact hfld t fs hg f hf'

theorem run_filter (fd' : FilterDec) (u : URL) (env : StringEnv) (su : SimpleURL)
    (h1 : su.filter = none) (h2 : su.filterLabel = [])
    (hexcl : u.params.filter = none ∨ u.params.filterLabel = [])
    (hfilter : ∀ f, u.params.filter = some f → f.head? = some 123 ∧ fd'.filter = some f)
    (hlabel : u.params.filter = none → u.params.filterLabel ≠ [] →
      rewriteBrace env.labelBody ≠ [] ∧ (rewriteBrace env.labelBody).head? ≠ some 123 ∧
      fd'.label = some u.params.filterLabel) :
    rfold (sstep fd') (.ok su) (Esc.filterVals u env) =
      .ok { su with filter := u.params.filter, filterLabel := u.params.filterLabel } := by
  obtain ⟨fr, fl, lab, fil, sr, pg, inc⟩ := su
  cases h1; cases h2
  unfold Esc.filterVals
  cases hf : u.params.filter with
  | some f =>
    obtain ⟨hh, hd⟩ := hfilter f hf
    have hl : u.params.filterLabel = [] := hexcl.resolve_left (by rw [hf]; exact fun h => nomatch h)
    have hne : f ≠ [] := by rintro rfl; cases hh
    rw [seg_filter, filterStep, if_neg hne, if_neg (by simp [hh]), hd, hl]
  | none =>
    by_cases hl : u.params.filterLabel ≠ []
    · obtain ⟨hb, hh, hd⟩ := hlabel hf hl
      simp only []
      rw [if_pos hl, seg_filter, filterStep, if_neg hb, if_pos hh, hd]
    · simp only []
      rw [if_neg hl, Decidable.of_not_not hl]; rfl

/-- the page map that re-reading the emitted values builds -/
def rePage (u : URL) : GoMap PageVal :=
  if u.isCol then (Typ.sortStrings u.params.page.keys).foldl (fun m k =>
    m.set k (pageVal (((u.params.page.get? k).map PageVal.text).getD []))) [] else []

theorem page_get? {u : URL}
    (hpage : u.isCol = true → ∀ p ∈ u.params.page, p.1 ≠ [] ∧ ∃ s, s ≠ [] ∧ p.2 = pageVal s)
    (hcol : u.isCol = true) {k : GoString} (hk : k ∈ u.params.page.keys) :
    ∃ s, s ≠ [] ∧ u.params.page.get? k = some (pageVal s) ∧ k ≠ [] := by
  obtain ⟨v, hv⟩ := mem_keys_get? hk
  obtain ⟨hkne, s, hs, e⟩ := hpage hcol (k, v) (mem_of_get? hv)
  exact ⟨s, hs, by rw [hv]; exact congrArg some e, hkne⟩

theorem run_page (fd : FilterDec) (u : URL) (su : SimpleURL) (h0 : su.page = [])
    (hpage : u.isCol = true → ∀ p ∈ u.params.page, p.1 ≠ [] ∧ ∃ s, s ≠ [] ∧ p.2 = pageVal s) :
    rfold (sstep fd) (.ok su) (Esc.pageVals u) = .ok { su with page := rePage u } := by
  unfold Esc.pageVals rePage
  by_cases hcol : u.isCol = true
  · rw [if_pos hcol, if_pos hcol, seg_page fd _ _ su, h0]
    intro k hk
    obtain ⟨s, hs, hg, hkne⟩ := page_get? hpage hcol ((DetL.sortStrings_perm _).mem_iff.1 hk)
    rw [hg]; exact ⟨hkne, (pageVal_text s hs).1⟩
  · rw [if_neg hcol, if_neg hcol, ← h0]; rfl

theorem rePage_get? {u : URL}
    (hpage : u.isCol = true → ∀ p ∈ u.params.page, p.1 ≠ [] ∧ ∃ s, s ≠ [] ∧ p.2 = pageVal s)
    (hcol : u.isCol = true) (k : GoString) : (rePage u).get? k = u.params.page.get? k := by
  rw [rePage, if_pos hcol,
    get?_foldl_set (fun k => pageVal (((u.params.page.get? k).map PageVal.text).getD []))]
  by_cases hk : k ∈ u.params.page.keys
  · obtain ⟨s, hs, hg, _⟩ := page_get? hpage hcol hk
    rw [if_pos ((DetL.sortStrings_perm _).mem_iff.2 hk), hg, Option.map_some, Option.getD_some,
      (pageVal_text s hs).2]
  · rw [if_neg (fun h => hk ((DetL.sortStrings_perm _).mem_iff.1 h)), get?_eq_none_of_not_mem hk]
    rfl

theorem rePage_nodup (u : URL) : (keys (rePage u)).Nodup := by
  unfold rePage
  split
  · exact keys_foldl_set_nodup _ _ _ List.nodup_nil
  · exact List.nodup_nil

theorem run_sort (fd : FilterDec) (u : URL) (su : SimpleURL) (h0 : su.sortingRules = [])
    (hrules : ∀ r ∈ u.params.sortingRules, r ≠ [] ∧ (44 : UInt8) ∉ r) :
    rfold (sstep fd) (.ok su) (Esc.sortVals u) = .ok { su with sortingRules := u.params.sortingRules } := by
  unfold Esc.sortVals
  by_cases he : u.params.sortingRules.isEmpty = true
  · rw [if_pos he, List.isEmpty_iff.1 he, ← h0]; rfl
  · rw [if_neg he, seg_sort, h0, Num.parseCommaList_joinWith _ hrules]; rfl

/-- what `newSimpleURL` makes of the values `String()` emits: the fragments, the selections sorted,
the filter or its label, the sorting rules and the page parameters of a collection URL -/
def reSimple (u : URL) : SimpleURL :=
  { fragments := u.fragments,
    fields := (Typ.sortStrings u.params.fields.keys).foldl
      (fun (m : GoMap (List GoString)) t => m.set t (Typ.sortStrings ((u.params.fields.get? t).getD []))) [],
    filterLabel := u.params.filterLabel, filter := u.params.filter,
    sortingRules := u.params.sortingRules, page := rePage u, incl := [] }

theorem reparse_simple (u : URL) (env : StringEnv) (fd' : FilterDec)
    (hfr : ∀ x ∈ u.fragments, x ≠ [] ∧ (47 : UInt8) ∉ x)
    (hkeys : ∀ t ∈ u.params.fields.keys, t ≠ [])
    (hfld : ∀ t fs, u.params.fields.get? t = some fs → ∀ f ∈ fs, f ≠ [] ∧ (44 : UInt8) ∉ f)
    (hpage : u.isCol = true → ∀ p ∈ u.params.page, p.1 ≠ [] ∧ ∃ s, s ≠ [] ∧ p.2 = pageVal s)
    (hrules : ∀ r ∈ u.params.sortingRules, r ≠ [] ∧ (44 : UInt8) ∉ r)
    (hexcl : u.params.filter = none ∨ u.params.filterLabel = [])
    (hfilter : ∀ f, u.params.filter = some f → f.head? = some 123 ∧ fd'.filter = some f)
    (hlabel : u.params.filter = none → u.params.filterLabel ≠ [] →
      rewriteBrace env.labelBody ≠ [] ∧ (rewriteBrace env.labelBody).head? ≠ some 123 ∧
      fd'.label = some u.params.filterLabel) :
    newSimpleURL (Spec.emittedPath u) (Spec.emittedValues u env) fd' = .ok (reSimple u) := by
  rw [newSimpleURL_eq, Esc.emittedValues_eq, rfold_append, rfold_append, rfold_append,
    Num.parseFragments_emittedPath u hfr]
  change rfold (sstep fd') (rfold (sstep fd') (rfold (sstep fd') (rfold (sstep fd') _ (Esc.fieldVals u))
    (Esc.filterVals u env)) (Esc.pageVals u)) (Esc.sortVals u) = _
  rw [run_fields fd' u _ hkeys hfld, run_filter fd' u env _ rfl rfl hexcl hfilter hlabel,
    run_page fd' u _ rfl hpage, run_sort fd' u _ rfl hrules]
  rfl


/-! ### `newParams` on the re-parsed simple URL -/

theorem params_has_resType {σ : Schema} {su : SimpleURL} {rt : GoString} {p : Params}
    (hrt : rt ≠ []) (h : newParams σ su rt = .ok p) : rt ∈ keys p.fields := by
  obtain ⟨fm, hfm, hf, _⟩ := newParams_ok h
  unfold pFieldsRes at hfm
  rw [hf, keys_fillDefault]
  refine rfold_inv _ (fun m => rt ∈ keys m) (fun a b a' ha hs => ?_) _ _ _
    (mem_keys_of_get? (pFields1_resType σ su rt hrt)) hfm
  rcases fieldStep_ok hs with rfl | ⟨_, _, rfl⟩
  · exact ha
  · exact mem_keys_set.2 (.inr ha)

theorem pFields1_no_incl (σ : Schema) (su : SimpleURL) (rt : GoString) (hi : su.incl = [])
    (hrt : rt ≠ []) : pFields1 σ su rt = [(rt, [])] := by
  unfold pFields1 pFields0 pIncs
  rw [hi, if_pos hrt]
  simp [Typ.sortStrings, pruneIncludes, checkInclusions, GoMap.set]

theorem pIncl_no_incl (σ : Schema) (su : SimpleURL) (rt : GoString) (hi : su.incl = []) :
    pIncl σ su rt = [] := by
  unfold pIncl pIncs
  rw [hi]
  simp [Typ.sortStrings, pruneIncludes]

theorem reparse_params {σ : Schema} (hσ : Inv σ) (su su' : SimpleURL) (rt : GoString) (p : Params)
    (hrt : σ.hasType rt = true) (hp : newParams σ su rt = .ok p)
    (hne : ∀ t fs, p.fields.get? t = some fs → fs ≠ [])
    (hdash : ∀ a ∈ attrNames σ rt, a.head? ≠ some 45)
    (hfr : su'.fragments = su.fragments)
    (hfields : su'.fields = (Typ.sortStrings p.fields.keys).foldl
        (fun (m : GoMap (List GoString)) t =>
          m.set t (Typ.sortStrings ((p.fields.get? t).getD []))) [])
    (hincl : su'.incl = []) (hsort : su'.sortingRules = p.sortingRules) :
    ∃ p', newParams σ su' rt = .ok p' ∧
      (∀ t, p'.fields.get? t = (p.fields.get? t).map Typ.sortStrings) ∧
      (keys p'.fields).Nodup ∧ p'.sortingRules = p.sortingRules ∧ p'.page = su'.page ∧
      p'.filterLabel = su'.filterLabel ∧ p'.filter = su'.filter ∧ p'.incl = [] := by
  obtain ⟨hgood, hknd⟩ := params_fields hσ hrt hp
  have hrtne : rt ≠ [] := (hasType_name_ne hσ hrt).1
  have hrtk : rt ∈ keys p.fields := params_has_resType hrtne hp
  let hh : GoString → List GoString := fun t => Typ.sortStrings ((p.fields.get? t).getD [])
  let sk := Typ.sortStrings p.fields.keys
  have hsk : ∀ t, t ∈ sk ↔ t ∈ keys p.fields := fun t => (DetL.sortStrings_perm _).mem_iff
  have hsknd : sk.Nodup := (DetL.sortStrings_perm _).nodup_iff.2 hknd
  have hf2 : su'.fields = sk.map (fun t => (t, hh t)) := by
    rw [hfields]
    have := foldl_set_eq_append hh sk [] hsknd (by intro t _ h; cases h)
    simpa using this
  have hcond : ∀ t ∈ sk, σ.hasType t = true ∧ (hh t).Nodup ∧
      ∀ f ∈ hh t, f = idName ∨ f ∈ (σ.getType t).fields := by
    intro t ht
    obtain ⟨fs, hfs⟩ := mem_keys_get? ((hsk t).1 ht)
    obtain ⟨h1, h2, h3⟩ := hgood t fs hfs
    have e : hh t = Typ.sortStrings fs := by show Typ.sortStrings _ = _; rw [hfs]; rfl
    rw [e]
    exact ⟨h1, (DetL.sortStrings_perm _).nodup_iff.2 h3,
      fun f hf => h2 f ((DetL.sortStrings_perm _).mem_iff.1 hf)⟩
  have hres : pFieldsRes σ su' rt =
      .ok (sk.foldl (fun m t => m.set t (hh t)) [(rt, [])]) := by
    unfold pFieldsRes
    rw [pFields1_no_incl σ su' rt hincl hrtne, hf2]
    exact fields_refold hσ rt hh sk _ hcond
  obtain ⟨_, _, _, _, _, hps, _, _⟩ := newParams_ok hp
  have hcol : pIsCol σ su' = pIsCol σ su := by unfold pIsCol; rw [hfr]
  have hrules : pRules σ su' rt = p.sortingRules := by
    rw [hps]
    by_cases hc : pIsCol σ su = true
    · exact pRules_fix σ su su' rt hdash hc (hcol.trans hc) (hsort.trans hps)
    · unfold pRules; rw [hcol]; simp [hc]
  rw [newParams_eq, hres]
  refine ⟨_, rfl, ?_, ?_, hrules, rfl, rfl, rfl, pIncl_no_incl σ su' rt hincl⟩
  · intro t
    simp only []
    rw [get?_fillDefault, get?_foldl_set hh]
    by_cases ht : t ∈ keys p.fields
    · rw [if_pos ((hsk t).2 ht)]
      obtain ⟨fs, hfs⟩ := mem_keys_get? ht
      have e : hh t = Typ.sortStrings fs := by show Typ.sortStrings _ = _; rw [hfs]; rfl
      rw [hfs, e]
      have hnil : Typ.sortStrings fs ≠ [] := by
        intro he
        have := (DetL.sortStrings_perm fs).length_eq
        rw [he] at this
        exact hne t fs hfs (List.length_eq_zero_iff.1 this.symm)
      simp [hnil]
    · rw [if_neg (fun h => ht ((hsk t).1 h)), get?_eq_none_of_not_mem ht]
      have hrt' : ¬ rt = t := fun e => ht (e ▸ hrtk)
      simp [GoMap.get?, hrt']
  · simp only []
    rw [keys_fillDefault]
    exact keys_foldl_set_nodup hh sk _ (by simp [GoMap.keys])


/-! ### the re-parse -/

/-- Names the URL syntax can carry: no comma in an attribute or relationship name, no
attribute name starting with '-'. -/
structure NamesOK (σ : Schema) : Prop where
  attrs : ∀ t ∈ σ.types, ∀ a ∈ t.attrs.vals, (44 : UInt8) ∉ a.name ∧ a.name.head? ≠ some 45
  rels : ∀ t ∈ σ.types, ∀ r ∈ t.rels.vals, (44 : UInt8) ∉ r.fromName

/-- decidable: concrete schemas are checked by evaluation -/
instance (σ : Schema) : Decidable (NamesOK σ) :=
  decidable_of_iff (_ ∧ _) ⟨fun ⟨a, b⟩ => ⟨a, b⟩, fun h => ⟨h.attrs, h.rels⟩⟩

theorem field_name_ok {σ : Schema} (hσ : Inv σ) (hn : NamesOK σ) {t : GoString}
    (ht : σ.hasType t = true) {f : GoString} (hf : f = idName ∨ f ∈ (σ.getType t).fields) :
    f ≠ [] ∧ (44 : UInt8) ∉ f := by
  obtain ⟨hm, _⟩ := getType_mem ht
  have hwf := (hσ.2 _ hm).2
  rcases hf with e | e
  · subst e; decide
  · rcases (mem_fields_iff f).1 e with h | h
    · obtain ⟨a, ha, rfl⟩ := List.mem_map.1 h
      obtain ⟨pp, hpp, hpa⟩ := List.mem_map.1 ha
      subst hpa
      exact ⟨(hwf.attrs pp hpp).2.1, (hn.attrs _ hm _ ha).1⟩
    · obtain ⟨r, hr, rfl⟩ := List.mem_map.1 h
      obtain ⟨pp, hpp, hpa⟩ := List.mem_map.1 hr
      subst hpa
      exact ⟨(hwf.rels pp hpp).2.1, hn.rels _ hm _ hr⟩

theorem attr_name_ok {σ : Schema} (hσ : Inv σ) (hn : NamesOK σ) {rt : GoString}
    (ht : σ.hasType rt = true) : ∀ a ∈ attrNames σ rt,
    a ≠ [] ∧ (44 : UInt8) ∉ a ∧ a.head? ≠ some 45 := by
  obtain ⟨hm, _⟩ := getType_mem ht
  have hwf := (hσ.2 _ hm).2
  intro a h
  obtain ⟨a, ha, rfl⟩ := List.mem_map.1 h
  obtain ⟨pp, hpp, hpa⟩ := List.mem_map.1 ha
  subst hpa
  exact ⟨(hwf.attrs pp hpp).2.1, (hn.attrs _ hm _ ha).1, (hn.attrs _ hm _ ha).2⟩

theorem rule_ok {σ : Schema} {rt : GoString}
    (hc : ∀ a ∈ attrNames σ rt, a ≠ [] ∧ (44 : UInt8) ∉ a) {rule : GoString}
    (h : rule ∈ attrNames σ rt ∨ Spec.stripDash rule = idName ∨
      Spec.stripDash rule ∈ attrNames σ rt) : rule ≠ [] ∧ (44 : UInt8) ∉ rule := by
  have key : (Spec.stripDash rule ≠ [] ∧ (44 : UInt8) ∉ Spec.stripDash rule) →
      rule ≠ [] ∧ (44 : UInt8) ∉ rule := by
    intro hs
    rcases stripDash_cases rule with e | e
    · rw [e]; exact hs
    · rw [e]
      refine ⟨by simp, ?_⟩
      intro hm
      rcases List.mem_cons.1 hm with e' | e'
      · exact absurd e' (by decide)
      · exact hs.2 e'
  rcases h with h | h | h
  · exact hc rule h
  · apply key; rw [h]; decide
  · exact key (hc _ h)

theorem reparse_core {σ : Schema} (hσ : Inv σ) (hn : NamesOK σ) (path : GoString)
    (values : GoMap (List GoString)) (fd : FilterDec) (u : URL)
    (h : newURLFrom σ (some (path, values, fd)) = .ok u) (hvnd : (keys values).Nodup)
    (hne : NoEmptySelection u) (env : StringEnv) (fd' : FilterDec)
    (hfilter : ∀ f, u.params.filter = some f → f.head? = some 123 ∧ fd'.filter = some f)
    (hlabel : u.params.filter = none → u.params.filterLabel ≠ [] →
      rewriteBrace env.labelBody ≠ [] ∧ (rewriteBrace env.labelBody).head? ≠ some 123 ∧
      fd'.label = some u.params.filterLabel) :
    ∃ u', newURLFrom σ (some (Spec.emittedPath u, Spec.emittedValues u env, fd')) = .ok u' ∧
      u'.fragments = u.fragments ∧ u'.resType = u.resType ∧ u'.resID = u.resID ∧
      u'.rel = u.rel ∧ u'.isCol = u.isCol ∧
      (∀ t, u'.params.fields.get? t = (u.params.fields.get? t).map Typ.sortStrings) ∧
      (keys u'.params.fields).Nodup ∧
      u'.params.sortingRules = u.params.sortingRules ∧
      (u.isCol = true → ∀ k, u'.params.page.get? k = u.params.page.get? k) ∧
      (keys u'.params.page).Nodup ∧
      u'.params.filterLabel = u.params.filterLabel ∧ u'.params.filter = u.params.filter ∧
      u'.params.incl = [] := by
  obtain ⟨path', values', fd0, su, hpar, hsu, hu⟩ := newURLFrom_ok σ _ u h
  cases hpar
  obtain ⟨u0, p, hu0, hp, hue⟩ := newURL_ok' hu
  have hrt : σ.hasType u.resType = true := restype_ok σ su u hu
  have e_params : u.params = p := by rw [hue]
  have e_rt : u.resType = u0.resType := by rw [hue]
  have e_fr : u.fragments = su.fragments := by
    obtain ⟨_, _, _, _, hf, _⟩ := urlHead_ok hu0
    rw [hue]; exact hf
  rw [← e_rt] at hp
  obtain ⟨hgood, hknd⟩ := params_fields hσ hrt hp
  obtain ⟨fm, _, _, hpl, hpf, hps, hpp, _⟩ := newParams_ok hp
  have hnames := attr_name_ok hσ hn hrt
  have hfr : ∀ x ∈ u.fragments, x ≠ [] ∧ (47 : UInt8) ∉ x := by
    rw [e_fr, newSimpleURL_fragments hsu]; exact Num.parseFragments_mem path
  have hkeys : ∀ t ∈ u.params.fields.keys, t ≠ [] := by
    rw [e_params]
    intro t ht
    obtain ⟨fs, hfs⟩ := mem_keys_get? ht
    exact (hasType_name_ne hσ (hgood t fs hfs).1).1
  have hfld : ∀ t fs, u.params.fields.get? t = some fs → ∀ f ∈ fs, f ≠ [] ∧ (44 : UInt8) ∉ f := by
    rw [e_params]
    intro t fs hfs f hf
    exact field_name_ok hσ hn (hgood t fs hfs).1 ((hgood t fs hfs).2.1 f hf)
  have hpage : u.isCol = true → ∀ q ∈ u.params.page, q.1 ≠ [] ∧ ∃ s, s ≠ [] ∧ q.2 = pageVal s := by
    intro _; rw [e_params, hpp]; exact newSimpleURL_page hsu
  have hrules : ∀ r ∈ u.params.sortingRules, r ≠ [] ∧ (44 : UInt8) ∉ r := by
    rw [e_params, hps]
    intro r hr
    by_cases hc : pIsCol σ su = true
    · exact rule_ok (fun a ha => ⟨(hnames a ha).1, (hnames a ha).2.1⟩)
        ((pRules_facts σ su u.resType hc).2.1 r hr)
    · unfold pRules at hr; simp [hc] at hr
  have hexcl : u.params.filter = none ∨ u.params.filterLabel = [] := by
    rw [e_params, hpf, hpl]; exact newSimpleURL_excl hvnd hsu
  have hsu' := reparse_simple u env fd' hfr hkeys hfld hpage hrules hexcl hfilter hlabel
  have hne' : ∀ t fs, p.fields.get? t = some fs → fs ≠ [] := by rw [← e_params]; exact hne
  obtain ⟨p', hp', q1, q2, q3, q4, q5, q6, q7⟩ :=
    reparse_params hσ su (reSimple u) u.resType p hrt hp hne' (fun a ha => (hnames a ha).2.2)
      e_fr (by rw [← e_params]; rfl) rfl (by rw [← e_params]; rfl)
  refine ⟨{ u0 with params := p' }, ?_, ?_, ?_, ?_, ?_, ?_, ?_, q2, ?_, ?_, ?_, ?_, ?_, q7⟩
  · unfold newURLFrom
    simp only [hsu']
    rw [newURL_eq, show (reSimple u).fragments = su.fragments from e_fr, hu0]
    simp only []
    rw [← e_rt, hp']
  · rw [hue]
  · rw [hue]
  · rw [hue]
  · rw [hue]
  · rw [hue]
  · intro t; rw [e_params]; exact q1 t
  · rw [e_params]; exact q3
  · intro hc k
    show p'.page.get? k = _
    rw [q4]; exact rePage_get? hpage hc k
  · show (keys p'.page).Nodup
    rw [q4]; exact rePage_nodup u
  · exact q5
  · exact q6


/-! ### evaluating `newURLFrom` on concrete inputs without inclusions

(`checkInclusions` is defined by well-founded recursion and does not reduce under `decide`;
this lemma steps around it.) -/

theorem eval_no_incl (σ : Schema) (path : GoString) (values : GoMap (List GoString))
    (fd : FilterDec) (su : SimpleURL) (u0 : URL) (fm : GoMap (List GoString))
    (hs : newSimpleURL path values fd = .ok su) (hi : su.incl = [])
    (hh : urlHead σ su.fragments = .ok u0) (hrt : u0.resType ≠ [])
    (hf : rfold (fieldStep σ u0.resType) (.ok [(u0.resType, [])]) su.fields = .ok fm) :
    newURLFrom σ (some (path, values, fd)) =
      .ok { u0 with params :=
        { fields := fillDefault σ fm, filterLabel := su.filterLabel, filter := su.filter,
          sortingRules := pRules σ su u0.resType, page := su.page, incl := [] } } := by
  unfold newURLFrom
  simp only [hs]
  rw [newURL_eq, hh]
  simp only []
  rw [newParams_eq]
  have : pFieldsRes σ su u0.resType = .ok fm := by
    unfold pFieldsRes
    rw [pFields1_no_incl σ su _ hi hrt]; exact hf
  rw [this]
  simp only []
  rw [pIncl_no_incl σ su _ hi]

end Jsonapi.UrlL
