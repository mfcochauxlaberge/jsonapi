/-
Namespace `UrlL.Num`; nothing here is about numbers except `digitsVal_nil`. Splitting and
joining (`splitOn` through its worker `splitOn.go`, `joinWith`, the non-empty pieces
`parseCommaList` / `parseFragments`) and `parseFragments` on the emitted path, for the URL
round-trip proofs (C07 / C08) and `splitComma` of StructLemmas.
-/
import Jsonapi.Proofs.UrlEmitDefs
namespace Jsonapi.UrlL.Num
open Jsonapi

theorem digitsVal_nil : digitsVal [] = 0 := rfl

/-! ### Splitting / joining -/

theorem go_nil (sep : UInt8) (cur : GoString) : splitOn.go sep cur [] = [cur.reverse] := by
  simp [splitOn.go]

theorem go_cons_sep (sep : UInt8) (cur rest : GoString) :
    splitOn.go sep cur (sep :: rest) = cur.reverse :: splitOn.go sep [] rest := by
  simp [splitOn.go]

theorem go_cons_ne (sep c : UInt8) (cur rest : GoString) (h : c ≠ sep) :
    splitOn.go sep cur (c :: rest) = splitOn.go sep (c :: cur) rest := by
  simp [splitOn.go, h]

theorem go_ne_nil (sep : UInt8) (cur s : GoString) : splitOn.go sep cur s ≠ [] := by
  induction s generalizing cur with
  | nil => simp [go_nil]
  | cons c rest ih =>
    by_cases h : c = sep
    · subst h; simp [go_cons_sep]
    · rw [go_cons_ne sep c cur rest h]; exact ih _

theorem splitOn_ne_nil (sep : UInt8) (s : GoString) : splitOn sep s ≠ [] :=
  go_ne_nil sep [] s

theorem go_no_sep (sep : UInt8) (cur s : GoString) (hc : sep ∉ cur) :
    ∀ x ∈ splitOn.go sep cur s, sep ∉ x := by
  induction s generalizing cur with
  | nil =>
    intro x hx
    simp [go_nil] at hx
    subst hx
    simpa using hc
  | cons c rest ih =>
    by_cases h : c = sep
    · subst h
      intro x hx
      rw [go_cons_sep] at hx
      rcases List.mem_cons.mp hx with hx | hx
      · subst hx; simpa using hc
      · exact ih [] (by simp) x hx
    · rw [go_cons_ne sep c cur rest h]
      apply ih
      intro hm
      rcases List.mem_cons.mp hm with hm | hm
      · exact h hm.symm
      · exact hc hm

theorem splitOn_no_sep (sep : UInt8) (s : GoString) : ∀ x ∈ splitOn sep s, sep ∉ x :=
  go_no_sep sep [] s (by simp)

theorem go_cur (sep : UInt8) (cur s : GoString) :
    splitOn.go sep cur s =
      (cur.reverse ++ (splitOn.go sep [] s).headD []) :: (splitOn.go sep [] s).tail := by
  induction s generalizing cur with
  | nil => simp [go_nil]
  | cons c rest ih =>
    by_cases h : c = sep
    · subst h; simp [go_cons_sep]
    · rw [go_cons_ne sep c cur rest h, go_cons_ne sep c [] rest h, ih (c :: cur), ih [c]]
      simp

theorem go_head (sep : UInt8) (cur s : GoString) :
    (splitOn.go sep cur s).head? = some (cur.reverse ++ s.takeWhile (fun c => c ≠ sep)) := by
  induction s generalizing cur with
  | nil => simp [go_nil]
  | cons c rest ih =>
    by_cases h : c = sep
    · subst h; simp [go_cons_sep]
    · rw [go_cons_ne sep c cur rest h, ih]; simp [h]

theorem go_of_not_mem (sep : UInt8) (cur s : GoString) (h : sep ∉ s) :
    splitOn.go sep cur s = [cur.reverse ++ s] := by
  induction s generalizing cur with
  | nil => simp [go_nil]
  | cons c rest ih =>
    have hc : c ≠ sep := by
      intro e; apply h; simp [e]
    have hr : sep ∉ rest := by
      intro e; apply h; simp [e]
    rw [go_cons_ne sep c cur rest hc, ih (c :: cur) hr]
    simp

theorem splitOn_of_not_mem (sep : UInt8) (s : GoString) (h : sep ∉ s) : splitOn sep s = [s] :=
  go_of_not_mem sep [] s h

theorem splitOn_nil (sep : UInt8) : splitOn sep [] = [[]] := rfl

theorem go_append (sep : UInt8) (cur a b : GoString) :
    splitOn.go sep cur (a ++ sep :: b) = splitOn.go sep cur a ++ splitOn.go sep [] b := by
  induction a generalizing cur with
  | nil => simp [go_cons_sep, go_nil]
  | cons c rest ih =>
    by_cases h : c = sep
    · subst h
      rw [List.cons_append, go_cons_sep, go_cons_sep, ih []]
      simp
    · rw [List.cons_append, go_cons_ne sep c cur _ h, go_cons_ne sep c cur _ h, ih (c :: cur)]

theorem splitOn_append (sep : UInt8) (a b : GoString) :
    splitOn sep (a ++ sep :: b) = splitOn sep a ++ splitOn sep b :=
  go_append sep [] a b

theorem splitOn_append' (sep : UInt8) (a b : GoString) :
    splitOn sep (a ++ [sep] ++ b) = splitOn sep a ++ splitOn sep b := by
  rw [List.append_assoc, List.singleton_append, splitOn_append]

theorem dropLast_append_getLastD (l : List GoString) (hl : l ≠ []) :
    l.dropLast ++ [l.getLast?.getD []] = l := by
  rw [List.getLast?_eq_some_getLast hl]
  exact List.dropLast_concat_getLast hl

theorem splitOn_append_sep (sep : UInt8) (a b : GoString) :
    splitOn sep (a ++ [sep] ++ b) =
      (splitOn sep a).dropLast ++ [ (splitOn sep a).getLast?.getD [] ] ++ splitOn sep b := by
  rw [dropLast_append_getLastD _ (splitOn_ne_nil sep a), splitOn_append']

theorem splitOn_joinWith (sep : UInt8) (l : List GoString) (hl : l ≠ [])
    (h : ∀ x ∈ l, sep ∉ x) : splitOn sep (joinWith [sep] l) = l := by
  induction l with
  | nil => exact absurd rfl hl
  | cons x xs ih =>
    cases xs with
    | nil => exact splitOn_of_not_mem sep x (h x (by simp))
    | cons y ys =>
      show splitOn sep (x ++ [sep] ++ joinWith [sep] (y :: ys)) = _
      rw [splitOn_append', ih (by simp) (fun z hz => h z (List.mem_cons_of_mem _ hz)),
        splitOn_of_not_mem sep x (h x (by simp))]
      rfl

theorem splitOn_mem_ne_sep (sep : UInt8) (s x : GoString) (c : UInt8)
    (hx : x ∈ splitOn sep s) (hc : c ∈ x) : c ≠ sep := by
  intro e; subst e
  exact splitOn_no_sep c s x hx hc

/-! ### The non-empty pieces between separators (`parseCommaList`, `parseFragments`) -/

theorem pieces_append (sep : UInt8) (a b : GoString) :
    (splitOn sep (a ++ [sep] ++ b)).filter (· ≠ []) =
      (splitOn sep a).filter (· ≠ []) ++ (splitOn sep b).filter (· ≠ []) := by
  rw [splitOn_append', List.filter_append]

theorem pieces_mem (sep : UInt8) (s : GoString) :
    ∀ x ∈ (splitOn sep s).filter (· ≠ []), x ≠ [] ∧ sep ∉ x := by
  intro x hx
  rw [List.mem_filter] at hx
  exact ⟨by simpa using hx.2, splitOn_no_sep sep s x hx.1⟩

theorem pieces_joinWith (sep : UInt8) (l : List GoString) (h : ∀ x ∈ l, x ≠ [] ∧ sep ∉ x) :
    (splitOn sep (joinWith [sep] l)).filter (· ≠ []) = l := by
  by_cases hl : l = []
  · subst hl; rfl
  · rw [splitOn_joinWith sep l hl (fun x hx => (h x hx).2), List.filter_eq_self]
    intro x hx
    simpa using (h x hx).1

theorem parseCommaList_append (a b : GoString) :
    parseCommaList (a ++ [44] ++ b) = parseCommaList a ++ parseCommaList b :=
  pieces_append 44 a b

theorem parseCommaList_joinWith (l : List GoString)
    (h : ∀ x ∈ l, x ≠ [] ∧ (44 : UInt8) ∉ x) : parseCommaList (joinWith [44] l) = l :=
  pieces_joinWith 44 l h

theorem parseCommaList_mem (s : GoString) :
    ∀ x ∈ parseCommaList s, x ≠ [] ∧ (44 : UInt8) ∉ x :=
  pieces_mem 44 s

theorem parseFragments_mem (p : GoString) :
    ∀ x ∈ parseFragments p, x ≠ [] ∧ (47 : UInt8) ∉ x :=
  pieces_mem 47 p

/-! ### The emitted path -/

theorem emittedPath_nil (u : URL) (h : u.fragments = []) : Spec.emittedPath u = [] := by
  simp [Spec.emittedPath, h]

theorem emittedPath_ne_nil (u : URL) (h : u.fragments ≠ []) :
    Spec.emittedPath u = [47] ++ joinWith [47] u.fragments := by
  unfold Spec.emittedPath
  split
  · next e => exact absurd e h
  · rfl

theorem parseFragments_emittedPath (u : URL)
    (h : ∀ x ∈ u.fragments, x ≠ [] ∧ (47 : UInt8) ∉ x) :
    parseFragments (Spec.emittedPath u) = u.fragments := by
  by_cases hf : u.fragments = []
  · rw [emittedPath_nil u hf, hf]; rfl
  · rw [emittedPath_ne_nil u hf]
    exact (pieces_append 47 [] _).trans (pieces_joinWith 47 _ h)

#print axioms splitOn_joinWith
#print axioms parseCommaList_joinWith
#print axioms parseFragments_emittedPath

end Jsonapi.UrlL.Num
