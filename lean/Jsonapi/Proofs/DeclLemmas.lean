/- The struct a user would declare for a type (`declOfTyp`; `Spec.structable` says when
`Check`/`Wrap` accept it), `Check`/`Wrap` on it, and the wrapper's Get/Set against the history
(`runSets`). For C17, and through UnmarshalLemmas2 for the struct-backed resources of C05 / C06 /
C13. Builds on ResourceLemmas and on StructLemmas (C20). -/
import Jsonapi.Proofs.ResourceLemmas
import Jsonapi.Proofs.StructLemmas
namespace Jsonapi
open GoMap

/-! ### The declaration built for a type -/

def idField (t : Typ) : SField :=
  { name := sID, ty := .attr .string false, json := idName, api := t.name }

def attrTy (a : Attr) : GoTy :=
  match Kind.ofCode? a.ty with
  | some k => .attr k a.nullable
  | none => .other 0 false

def attrField (p : GoString × Attr) : SField :=
  { name := [70], ty := attrTy p.2, json := p.2.name, api := sAttr }

def relTy (r : Rel) : GoTy := if r.toOne then .attr .string false else .strs

def relApi (r : Rel) : GoString :=
  sRelComma ++ r.toType ++ (if r.toName = [] then [] else comma :: r.toName)

def relField (p : GoString × Rel) : SField :=
  { name := [70], ty := relTy p.2, json := p.2.fromName, api := relApi p.2 }

theorem declOfTyp_eq (t : Typ) :
    declOfTyp t = idField t :: ((Typ.sortByKey t.attrs).map attrField ++ (Typ.sortByKey t.rels).map relField) :=
  rfl

theorem sortByKey_perm {β} (m : GoMap β) : (Typ.sortByKey m).Perm m := List.mergeSort_perm _ _

theorem mem_declOfTyp (t : Typ) (f : SField) :
    f ∈ declOfTyp t ↔ f = idField t ∨ (∃ p ∈ t.attrs, attrField p = f) ∨ (∃ p ∈ t.rels, relField p = f) := by
  rw [declOfTyp_eq]
  simp only [List.mem_cons, List.mem_append, List.mem_map, (sortByKey_perm _).mem_iff]

theorem forall_mem_declOfTyp {t : Typ} {P : SField → Prop} (h0 : P (idField t))
    (hA : ∀ p ∈ t.attrs, P (attrField p)) (hR : ∀ p ∈ t.rels, P (relField p)) :
    ∀ f ∈ declOfTyp t, P f := by
  intro f hf
  rcases (mem_declOfTyp t f).1 hf with rfl | ⟨p, hp, rfl⟩ | ⟨p, hp, rfl⟩
  · exact h0
  · exact hA p hp
  · exact hR p hp

theorem declOfTyp_json_perm {t : Typ} (ht : TypWF t) :
    ((declOfTyp t).map (·.json)).Perm (idName :: t.fieldKeys) := by
  rw [declOfTyp_eq]
  simp only [List.map_cons, List.map_append, List.map_map]
  exact .cons _ (.append
    (((sortByKey_perm t.attrs).map _).trans (.of_eq (List.map_congr_left fun p hp => (ht.attrs p hp).1.symm)))
    (((sortByKey_perm t.rels).map _).trans (.of_eq (List.map_congr_left fun p hp => (ht.rels p hp).1.symm))))

theorem fieldKeys_nodup {t : Typ} (ht : TypWF t) : t.fieldKeys.Nodup := by
  unfold Typ.fieldKeys
  rw [List.nodup_append]
  exact ⟨ht.ndA, ht.ndR, fun a ha b hb e => ht.disj a ha (e ▸ hb)⟩

theorem declOfTyp_json_nodup {t : Typ} (ht : TypWF t) (hn : Spec.namesOk t = true) :
    ((declOfTyp t).map (·.json)).Nodup := by
  rw [(declOfTyp_json_perm ht).nodup_iff, List.nodup_cons]
  exact ⟨fun h => (namesOk_mem hn h).1 rfl, fieldKeys_nodup ht⟩

/-! ### `Check` accepts the declaration -/

/-- A type for which the declared struct passes `Check` and `Wrap`: the type name is
non-empty and does not read as a field tag, and no relationship target contains a comma. -/
def Spec.structable (t : Typ) : Bool :=
  t.name ≠ [] && t.name ≠ sAttr && t.name ≠ sRel && !hasPrefix t.name sRelComma &&
  t.rels.all (fun p => !p.2.toType.contains comma && !p.2.toName.contains comma)

theorem structable_name {t : Typ} (h : Spec.structable t = true) :
    t.name ≠ [] ∧ t.name ≠ sAttr ∧ t.name ≠ sRel ∧ hasPrefix t.name sRelComma = false := by
  unfold Spec.structable at h
  simp only [Bool.and_eq_true, decide_eq_true_eq, Bool.not_eq_true'] at h
  exact ⟨h.1.1.1.1, h.1.1.1.2, h.1.1.2, h.1.2⟩

theorem structable_rel {t : Typ} (h : Spec.structable t = true) {p : GoString × Rel} (hp : p ∈ t.rels) :
    comma ∉ p.2.toType ∧ comma ∉ p.2.toName := by
  unfold Spec.structable at h
  simp only [Bool.and_eq_true, List.all_eq_true] at h
  have := h.2 p hp
  simpa using this

theorem validKind {n : Nat} (h1 : 1 ≤ n) (h2 : n ≤ 14) : ∃ k, Kind.ofCode? n = some k := by
  have : ∀ n, n < 15 → 1 ≤ n → (Kind.ofCode? n).isSome = true := by decide
  exact Option.isSome_iff_exists.1 (this n (by omega) h1)

theorem relApi_eq (r : Rel) :
    relApi r = sRel ++ comma :: (r.toType ++ (if r.toName = [] then [] else comma :: r.toName)) := by
  simp [relApi, sRelComma, sRel, comma]

theorem splitComma_relApi (r : Rel) (h1 : comma ∉ r.toType) (h2 : comma ∉ r.toName) :
    splitComma (relApi r) =
      if r.toName = [] then [sRel, r.toType] else [sRel, r.toType, r.toName] := by
  rw [relApi_eq, splitComma_comma _ _ (by decide)]
  split
  · rw [List.append_nil, splitComma_nocomma _ h1]
  · rw [splitComma_comma _ _ h1, splitComma_nocomma _ h2]

theorem relApi_isRelTagged (r : Rel) : hasPrefix (relApi r) sRelComma = true := by
  simp [hasPrefix, relApi, List.append_assoc]

theorem relApi_ne_nil (r : Rel) : relApi r ≠ [] := by
  simp [relApi, sRelComma]

theorem relApi_ne_attr (r : Rel) : relApi r ≠ sAttr := by
  simp [relApi, sRelComma, sAttr]

theorem namesOk_of (seen : List GoString) (l : StructDecl)
    (h1 : ∀ f ∈ l, f.api ≠ [] ∧ f.json ≠ [] ∧ (f.name ≠ sID → f.json ≠ idName) ∧ f.json ∉ seen)
    (h2 : (l.map (·.json)).Nodup) : checkStruct.namesOk seen l = true := by
  induction l generalizing seen with
  | nil => rfl
  | cons f rest ih =>
    obtain ⟨a1, a2, a3, a4⟩ := h1 f List.mem_cons_self
    simp only [List.map_cons, List.nodup_cons] at h2
    unfold checkStruct.namesOk
    rw [if_neg a1]
    simp only []
    have hc : ¬ (((f.name ≠ sID && (f.isAttr || f.isRelTagged)) && (f.json = [] || f.json = idName)) ||
        (f.json ≠ [] && seen.contains f.json)) = true := by
      simp only [Bool.or_eq_true, Bool.and_eq_true, decide_eq_true_eq, List.contains_eq_mem, not_or,
        not_and]
      refine ⟨?_, fun _ => a4⟩
      rintro ⟨hid, _⟩
      exact ⟨a2, a3 hid⟩
    rw [if_neg hc]
    apply ih
    · intro g hg
      obtain ⟨b1, b2, b3, b4⟩ := h1 g (List.mem_cons_of_mem _ hg)
      refine ⟨b1, b2, b3, ?_⟩
      simp only [List.mem_cons, not_or]
      exact ⟨fun e => h2.1 (e ▸ List.mem_map.2 ⟨g, hg, rfl⟩), b4⟩
    · exact h2.2

theorem find?_id_declOfTyp (t : Typ) :
    (declOfTyp t).find? (fun f => f.name = sID) = some (idField t) := by
  rw [declOfTyp_eq]; simp [idField]

theorem checkStruct_declOfTyp {t : Typ} (ht : TypWF t) (hn : Spec.namesOk t = true)
    (hs : Spec.structable t = true) : checkStruct (declOfTyp t) = true := by
  obtain ⟨n1, n2, n3, n4⟩ := structable_name hs
  unfold checkStruct
  rw [find?_id_declOfTyp]
  simp only [Bool.and_eq_true]
  refine ⟨⟨⟨⟨⟨rfl, by simp [idField, n1]⟩, ?_⟩, ?_⟩, ?_⟩, ?_⟩
  · simp [idField, n2, n3, n4]
  · apply namesOk_of _ _ _ (declOfTyp_json_nodup ht hn)
    refine forall_mem_declOfTyp ?_ (fun p hp => ?_) (fun p hp => ?_)
    · exact ⟨n1, by simp [idField, idName], fun h => absurd rfl h, by simp⟩
    · have hk : p.2.name ∈ t.fieldKeys :=
        List.mem_append_left _ (List.mem_map.2 ⟨p, hp, (ht.attrs p hp).1⟩)
      exact ⟨by simp [attrField, sAttr], (namesOk_mem hn hk).2, fun _ => (namesOk_mem hn hk).1, by simp⟩
    · have hk : p.2.fromName ∈ t.fieldKeys :=
        List.mem_append_right _ (List.mem_map.2 ⟨p, hp, (ht.rels p hp).1⟩)
      exact ⟨relApi_ne_nil _, (namesOk_mem hn hk).2, fun _ => (namesOk_mem hn hk).1, by simp⟩
  · rw [List.all_eq_true]
    refine forall_mem_declOfTyp ?_ (fun p hp => ?_) (fun p hp => ?_)
    · simp [SField.isAttr, idField, n2]
    · obtain ⟨_, _, k1, k2⟩ := ht.attrs p hp
      obtain ⟨k, hk⟩ := validKind k1 k2
      have : (attrField p).ty = .attr k p.2.nullable := by simp [attrField, attrTy, hk]
      rw [this]
      simp [(checkAttrTypes_iff _).2 ⟨k, p.2.nullable, rfl⟩]
    · simp [SField.isAttr, relField, relApi_ne_attr]
  · rw [List.all_eq_true]
    refine forall_mem_declOfTyp ?_ (fun p hp => ?_) (fun p hp => ?_)
    · simp [SField.isRelTagged, idField, n3, n4]
    · have : (attrField p).isRelTagged = false :=
        (by decide : (decide (sAttr = sRel) || hasPrefix sAttr sRelComma) = false)
      simp [this]
    · obtain ⟨c1, c2⟩ := structable_rel hs hp
      have hsp := splitComma_relApi p.2 c1 c2
      have hlen : 2 ≤ (splitComma (relField p).api).length ∧ (splitComma (relField p).api).length ≤ 3 := by
        show 2 ≤ (splitComma (relApi p.2)).length ∧ (splitComma (relApi p.2)).length ≤ 3
        rw [hsp]; split <;> simp
      have hty : (relField p).ty = .attr .string false ∨ (relField p).ty = .strs := by
        simp only [relField, relTy]; split <;> simp
      simp only [Bool.or_eq_true, Bool.and_eq_true, decide_eq_true_eq]
      exact .inr ⟨hlen, hty⟩

theorem structTypeName_declOfTyp (t : Typ) : structTypeName (declOfTyp t) = t.name := by
  unfold structTypeName
  rw [find?_id_declOfTyp]; rfl

theorem wrap_declOfTyp {t : Typ} (ht : TypWF t) (hn : Spec.namesOk t = true)
    (hs : Spec.structable t = true) (vals : List GoVal) :
    ∃ w, wrap (declOfTyp t) vals = .ok w ∧ w.decl = declOfTyp t ∧ w.vals = vals ∧ w.typ = t.name ∧
      w.attrs = structAttrs (declOfTyp t) ∧
      structRels t.name (declOfTyp t) = .ok w.rels := by
  have hc := checkStruct_declOfTyp ht hn hs
  refine ⟨_, wrap_ok hc vals, rfl, rfl, structTypeName_declOfTyp t, rfl, ?_⟩
  rw [← structTypeName_declOfTyp t]
  exact (checkFacts hc).structRels_ok

/-- The Go type of the struct field declared for a field name. -/
def fieldTy (t : Typ) (k : GoString) : GoTy :=
  match t.attrs.get? k with
  | some a => attrTy a
  | none => match t.rels.get? k with
    | some r => relTy r
    | none => .other 0 false

/-- index selected by getField / setField in the declaration of `t` -/
def didx (t : Typ) (k : GoString) : Option Nat :=
  (declOfTyp t).findIdx? (fun f => f.json = k && f.api ≠ [])

theorem ty_of_mem_decl {t : Typ} (ht : TypWF t) (hn : Spec.namesOk t = true) {k : GoString}
    (hk : k ∈ t.fieldKeys) {f : SField} (hf : f ∈ declOfTyp t) (hj : f.json = k) :
    f.ty = fieldTy t k := by
  revert hj
  refine forall_mem_declOfTyp (P := fun f => f.json = k → f.ty = fieldTy t k) ?_ (fun p hp hj => ?_)
    (fun p hp hj => ?_) f hf
  · exact fun hj => absurd hj.symm (namesOk_mem hn hk).1
  · have e1 : p.1 = k := ((ht.attrs p hp).1).trans hj
    have hg : t.attrs.get? k = some p.2 := by
      rw [← e1]; exact get?_of_mem_nodup ht.ndA hp
    simp [fieldTy, hg, attrField]
  · have e1 : p.1 = k := ((ht.rels p hp).1).trans hj
    have hkr : k ∈ t.rels.keys := List.mem_map.2 ⟨p, hp, e1⟩
    have hg : t.rels.get? k = some p.2 := by
      rw [← e1]; exact get?_of_mem_nodup ht.ndR hp
    have hna : t.attrs.get? k = none := get?_eq_none_of_not_mem (fun h => ht.disj k h hkr)
    simp [fieldTy, hg, hna, relField]

theorem exists_field_of_key {t : Typ} (ht : TypWF t) {k : GoString} (hk : k ∈ t.fieldKeys) :
    ∃ f ∈ declOfTyp t, f.json = k ∧ f.api ≠ [] := by
  rcases List.mem_append.1 hk with h | h
  · obtain ⟨p, hp, e⟩ := List.mem_map.1 h
    exact ⟨attrField p, (mem_declOfTyp t _).2 (.inr (.inl ⟨p, hp, rfl⟩)),
      ((ht.attrs p hp).1).symm.trans e, by simp [attrField, sAttr]⟩
  · obtain ⟨p, hp, e⟩ := List.mem_map.1 h
    exact ⟨relField p, (mem_declOfTyp t _).2 (.inr (.inr ⟨p, hp, rfl⟩)),
      ((ht.rels p hp).1).symm.trans e, relApi_ne_nil _⟩

theorem didx_spec {t : Typ} (ht : TypWF t) (hn : Spec.namesOk t = true) {k : GoString}
    (hk : k ∈ t.fieldKeys) :
    ∃ i f, didx t k = some i ∧ i ≠ 0 ∧ (declOfTyp t)[i]? = some f ∧ f.json = k ∧ f.ty = fieldTy t k := by
  unfold didx
  cases hfi : (declOfTyp t).findIdx? (fun f => f.json = k && f.api ≠ []) with
  | none =>
    exfalso
    rw [List.findIdx?_eq_none_iff] at hfi
    obtain ⟨f, hf, e1, e2⟩ := exists_field_of_key ht hk
    have := hfi f hf
    simp [e1, e2] at this
  | some i =>
    obtain ⟨hlt, hp, _⟩ := List.findIdx?_eq_some_iff_getElem.1 hfi
    simp only [Bool.and_eq_true, decide_eq_true_eq] at hp
    refine ⟨i, (declOfTyp t)[i], rfl, ?_, by simp [hlt], hp.1,
      ty_of_mem_decl ht hn hk (List.getElem_mem hlt) hp.1⟩
    intro e
    subst e
    have : (declOfTyp t)[0].json = idName := by simp [declOfTyp_eq, idField]
    exact (namesOk_mem hn hk).1 (hp.1.symm.trans this)

theorem didx_inj {t : Typ} {k k' : GoString} {i : Nat} (h : didx t k = some i) (h' : didx t k' = some i) :
    k = k' := by
  unfold didx at h h'
  obtain ⟨hlt, hp, _⟩ := List.findIdx?_eq_some_iff_getElem.1 h
  obtain ⟨_, hp', _⟩ := List.findIdx?_eq_some_iff_getElem.1 h'
  simp only [Bool.and_eq_true, decide_eq_true_eq] at hp hp'
  exact hp.1.symm.trans hp'.1

theorem idIdx_declOfTyp (t : Typ) : (declOfTyp t).findIdx? (fun f => f.name = sID) = some 0 := by
  rw [declOfTyp_eq]; simp [List.findIdx?_cons, idField]

theorem canon_attrTy_zero {a : Attr} (h1 : 1 ≤ a.ty) (h2 : a.ty ≤ 14) :
    Spec.canon (attrTy a).zero = Spec.canon a.zero := by
  obtain ⟨k, hk⟩ := validKind h1 h2
  simp only [attrTy, Attr.zero, hk, GoTy.zero, GoTy.zero.GoVal.zero', GoVal.zero]
  cases a.nullable <;> cases k <;> rfl

theorem relTy_zero (r : Rel) : (relTy r).zero = r.zero := by
  unfold relTy Rel.zero
  split <;> rfl

theorem canon_fieldTy_zero {t : Typ} (ht : TypWF t) {k : GoString} (hk : k ∈ t.fieldKeys) :
    Spec.canon (fieldTy t k).zero = Spec.zeroOf t k := by
  unfold fieldTy Spec.zeroOf
  rcases List.mem_append.1 hk with h | h
  · obtain ⟨a, ha⟩ := mem_keys_get? h
    obtain ⟨_, _, k1, k2⟩ := ht.attrs _ (mem_of_get? ha)
    simp only [ha]
    exact canon_attrTy_zero k1 k2
  · have hna : t.attrs.get? k = none := get?_eq_none_of_not_mem (fun h' => ht.disj k h' h)
    obtain ⟨r, hr⟩ := mem_keys_get? h
    simp only [hna, hr]
    rw [relTy_zero, canon_relZero]

/-! ### The wrapper against the history -/

/-- What holds of the wrapped struct after the calls of `h`. -/
structure WInv (t : Typ) (h : Hist) (w : Wrapped) : Prop where
  decl : w.decl = declOfTyp t
  typ : w.typ = t.name
  len : w.vals.length = (declOfTyp t).length
  id : w.vals[0]? = some (.val .string (.s (Spec.specId h)))
  vals : ∀ f ∈ t.fieldKeys, ∀ i, didx t f = some i →
    ∃ v, w.vals[i]? = some v ∧ Spec.canon v = Spec.specGet t h f

theorem WInv.getID {t : Typ} {h : Hist} {w : Wrapped} (inv : WInv t h w) : w.getID = Spec.specId h := by
  unfold Wrapped.getID
  rw [inv.decl, idIdx_declOfTyp]
  simp only [inv.id]

theorem WInv.get_id {t : Typ} {h : Hist} {w : Wrapped} (inv : WInv t h w) :
    w.get idName = .ok (.val .string (.s (Spec.specId h))) := by
  unfold Wrapped.get
  rw [if_pos rfl, inv.getID]

theorem WInv.get_field {t : Typ} (ht : TypWF t) (hn : Spec.namesOk t = true) {h : Hist} {w : Wrapped}
    (inv : WInv t h w) {f : GoString} (hf : f ∈ t.fieldKeys) :
    ∃ v, w.get f = .ok v ∧ Spec.canon v = Spec.specGet t h f := by
  obtain ⟨hid, hne⟩ := namesOk_mem hn hf
  obtain ⟨i, _, hi, _, _, _, _⟩ := didx_spec ht hn hf
  obtain ⟨v, hv, hc⟩ := inv.vals f hf i hi
  unfold Wrapped.get Wrapped.getField Wrapped.fieldIdx
  rw [if_neg hid, if_neg hne, inv.decl]
  unfold didx at hi
  rw [hi]
  simp only []
  rw [hv]
  split
  · rename_i e; cases e
  · rename_i k' e
    simp only [Option.some.injEq] at e
    subst e
    exact ⟨.nil, rfl, by rw [← hc]; rfl⟩
  · rename_i v' _ e
    simp only [Option.some.injEq] at e
    subst e
    exact ⟨v, rfl, hc⟩

theorem WInv.init {t : Typ} (ht : TypWF t) (hn : Spec.namesOk t = true) (w : Wrapped)
    (hd : w.decl = declOfTyp t) (hv : w.vals = Wrapped.zeroVals (declOfTyp t))
    (hty : w.typ = t.name) : WInv t [] w := by
  refine ⟨hd, hty, by rw [hv]; simp [Wrapped.zeroVals], ?_, ?_⟩
  · rw [hv]; simp [Wrapped.zeroVals, declOfTyp_eq, idField, GoTy.zero, GoTy.zero.GoVal.zero', GoVal.zero,
      specId_nil]
  · intro f hf i hi
    obtain ⟨i', g, hi', _, hg, _, hty⟩ := didx_spec ht hn hf
    rw [hi] at hi'
    simp only [Option.some.injEq] at hi'
    subst hi'
    refine ⟨g.ty.zero, by rw [hv]; simp [Wrapped.zeroVals, hg], ?_⟩
    rw [hty, specGet_nil]
    exact canon_fieldTy_zero ht hf

theorem accepts_of_hasAttrType {v : GoVal} {k : Kind} {n : Bool} (h : v.hasAttrType k n = true) :
    (GoTy.attr k n).accepts v = true := by
  rcases hasAttrType_cases h with ⟨p, rfl, -⟩ | ⟨rfl, rfl⟩
  · cases n <;> simp [mkVal, GoTy.accepts]
  · simp [GoTy.accepts]

/-- A well-typed value for field `k`: either a non-nil value the field's Go type accepts,
or untyped nil for a nullable attribute (stored as the typed nil pointer). -/
theorem setOk_field {t : Typ} {k : GoString} {v : GoVal} (hkid : k ≠ idName)
    (hok : Spec.setOk t k v = true) :
    k ∈ t.fieldKeys ∧
    ((v ≠ .nil ∧ (fieldTy t k).accepts v = true) ∨
     (v = .nil ∧ Spec.canon (fieldTy t k).zero = .nil)) := by
  unfold Spec.setOk at hok
  rw [if_neg hkid] at hok
  unfold fieldTy
  cases ha : t.attrs.get? k with
  | some a =>
    refine ⟨List.mem_append_left _ (mem_keys_of_get? ha), ?_⟩
    simp only [ha] at hok ⊢
    cases hkind : Kind.ofCode? a.ty with
    | none => simp [hkind] at hok
    | some kind =>
      simp only [hkind, Bool.or_eq_true, Bool.and_eq_true, decide_eq_true_eq] at hok
      simp only [attrTy, hkind]
      rcases hok with hok | ⟨hnul, hnil⟩
      · left
        refine ⟨?_, accepts_of_hasAttrType hok⟩
        intro e; subst e; simp [GoVal.hasAttrType] at hok
      · right
        exact ⟨hnil, by simp [hnul, GoTy.zero, GoTy.zero.GoVal.zero', Spec.canon]⟩
  | none =>
    simp only [ha] at hok ⊢
    cases hr : t.rels.get? k with
    | none => simp [hr] at hok
    | some r =>
      refine ⟨List.mem_append_right _ (mem_keys_of_get? hr), ?_⟩
      simp only [hr] at hok ⊢
      left
      split at hok
      · simp [relTy, hok, GoTy.accepts]
      · simp only [Bool.not_eq_true'] at hok
        simp [relTy, hok, GoTy.accepts]
      · cases hok

theorem WInv.step {t : Typ} (ht : TypWF t) (hn : Spec.namesOk t = true) {h : Hist} {w : Wrapped}
    (inv : WInv t h w) (k : GoString) (v : GoVal) (hok : Spec.setOk t k v = true) :
    ∃ w', w.set k v = .ok w' ∧ WInv t (h ++ [(k, v)]) w' := by
  have hpos : 0 < (declOfTyp t).length := by rw [declOfTyp_eq]; simp
  by_cases hkid : k = idName
  · have hd0 : (declOfTyp t)[0]? = some (idField t) := by rw [declOfTyp_eq]; rfl
    refine ⟨{ w with vals := w.vals.set 0 (.val .string (.s (idOf v))) }, ?_, ?_⟩
    · unfold Wrapped.set Wrapped.setID
      rw [if_pos hkid, inv.decl, idIdx_declOfTyp]
      simp only [hd0]
      rfl
    · refine ⟨inv.decl, inv.typ, by simp [inv.len], ?_, ?_⟩
      · rw [specId_snoc, if_pos hkid]
        simp [inv.len, hpos]
      · intro f hf i hi
        obtain ⟨i', _, hi', hne, _, _, _⟩ := didx_spec ht hn hf
        rw [hi] at hi'; simp only [Option.some.injEq] at hi'; subst hi'
        obtain ⟨x, hx, hc⟩ := inv.vals f hf i hi
        refine ⟨x, by simp only [List.getElem?_set, if_neg (Ne.symm hne)]; exact hx, ?_⟩
        rw [specGet_snoc, if_neg (fun e => (namesOk_mem hn hf).1 (e.symm.trans hkid))]
        exact hc
  · obtain ⟨hkf, hcase⟩ := setOk_field hkid hok
    obtain ⟨i, g, hi, hne0, hg, hgj, hgty⟩ := didx_spec ht hn hkf
    have hlt : i < w.vals.length := by
      rw [inv.len]
      exact (List.getElem?_eq_some_iff.1 hg).1
    have key : ∀ x : GoVal, Spec.canon x = Spec.canon v →
        WInv t (h ++ [(k, v)]) { w with vals := w.vals.set i x } := by
      intro x hx
      refine ⟨inv.decl, inv.typ, by simp [inv.len], ?_, ?_⟩
      · rw [specId_snoc, if_neg hkid]
        simp only [List.getElem?_set, if_neg hne0]
        exact inv.id
      · intro f hf j hj
        rw [specGet_snoc]
        by_cases e : k = f
        · subst e
          rw [hi] at hj; simp only [Option.some.injEq] at hj; subst hj
          exact ⟨x, by simp [hlt], by rw [if_pos rfl]; exact hx⟩
        · have hij : i ≠ j := fun e' => e (didx_inj hi (e' ▸ hj))
          obtain ⟨y, hy, hc⟩ := inv.vals f hf j hj
          exact ⟨y, by simp only [List.getElem?_set, if_neg hij]; exact hy, by rw [if_neg e]; exact hc⟩
    have hfi : w.fieldIdx k = some i := by
      unfold Wrapped.fieldIdx; rw [inv.decl]; exact hi
    unfold Wrapped.set Wrapped.setField
    rw [if_neg hkid, if_neg (namesOk_mem hn hkf).2, hfi]
    have hg' : w.decl[i]? = some g := by rw [inv.decl]; exact hg
    simp only [hg']
    rcases hcase with ⟨hnn, hacc⟩ | ⟨hnil, hz⟩
    · rw [if_neg hnn, hgty, if_pos hacc]
      exact ⟨_, rfl, key v rfl⟩
    · rw [if_pos hnil]
      refine ⟨_, rfl, key _ ?_⟩
      rw [hgty, hz, hnil]; rfl

/-- All the Sets of a history, one after the other (a panic or error is absorbing). -/
def runSets (w : Wrapped) (h : Hist) : Res Wrapped :=
  h.foldl (fun acc p => acc.bind (fun w => w.set p.1 p.2)) (.ok w)

theorem WInv.run {t : Typ} (ht : TypWF t) (hn : Spec.namesOk t = true) (h : Hist) (hok : SetHistOk t h) :
    ∀ (pre : Hist) (w : Wrapped), WInv t pre w →
      ∃ w', runSets w h = .ok w' ∧ WInv t (pre ++ h) w' := by
  induction h with
  | nil => intro pre w inv; exact ⟨w, rfl, by simpa using inv⟩
  | cons p h ih =>
    intro pre w inv
    obtain ⟨w1, h1, inv1⟩ := WInv.step ht hn inv p.1 p.2 (hok p List.mem_cons_self)
    obtain ⟨w2, h2, inv2⟩ := ih (fun q hq => hok q (List.mem_cons_of_mem _ hq)) _ w1 inv1
    refine ⟨w2, ?_, by simpa [List.append_assoc] using inv2⟩
    unfold runSets at h2 ⊢
    simp only [List.foldl_cons, Res.bind, h1]
    exact h2

/-! ### The attribute and relationship maps `Wrap` builds for the declaration -/

theorem foldSet_eq_append {α β : Type} (p : α → Bool) (key : α → GoString) (val : α → β)
    (l : List α) (m : GoMap β) (h : (m.keys ++ (l.filter p).map key).Nodup) :
    foldSet p key val l m = m ++ (l.filter p).map (fun f => (key f, val f)) := by
  induction l generalizing m with
  | nil => simp [foldSet_nil]
  | cons a l ih =>
    rw [foldSet_cons]
    by_cases hp : p a = true
    · rw [List.filter_cons_of_pos hp] at h ⊢
      have hnm : key a ∉ m.keys := fun hm =>
        (List.nodup_append.1 h).2.2 _ hm _ List.mem_cons_self rfl
      rw [if_pos hp, set_of_not_mem m _ _ hnm, ih _ (by simpa [keys, List.append_assoc] using h)]
      simp
    · rw [List.filter_cons_of_neg hp] at h ⊢
      rw [if_neg hp, ih m h]

theorem attrOf_attrField {p : GoString × Attr}
    (hp : p.1 = p.2.name ∧ p.2.name ≠ [] ∧ 1 ≤ p.2.ty ∧ p.2.ty ≤ 14) :
    ((attrField p).json, attrOf (attrField p)) = p := by
  obtain ⟨k, hk⟩ := validKind hp.2.2.1 hp.2.2.2
  simp only [attrField, attrOf, attrTy, hk, Kind.code_of_ofCode? hk]
  exact Prod.ext hp.1.symm rfl

theorem sortByKey_keys_perm {β} (m : GoMap β) : (Typ.sortByKey m).keys.Perm m.keys :=
  (sortByKey_perm m).map _

theorem structAttrs_declOfTyp {t : Typ} (ht : TypWF t) (hs : Spec.structable t = true) :
    structAttrs (declOfTyp t) = Typ.sortByKey t.attrs := by
  obtain ⟨_, n2, _, _⟩ := structable_name hs
  have hf : (declOfTyp t).filter SField.isAttr = (Typ.sortByKey t.attrs).map attrField := by
    rw [declOfTyp_eq, List.filter_cons_of_neg (by simp [SField.isAttr, idField, n2]),
      List.filter_append, List.filter_eq_self.2, List.filter_eq_nil_iff.2, List.append_nil]
    · intro f hf; obtain ⟨p, _, rfl⟩ := List.mem_map.1 hf
      simp [SField.isAttr, relField, relApi_ne_attr]
    · intro f hf; obtain ⟨p, _, rfl⟩ := List.mem_map.1 hf; rfl
  have hA : ∀ p ∈ Typ.sortByKey t.attrs, ((attrField p).json, attrOf (attrField p)) = p :=
    fun p hp => attrOf_attrField (ht.attrs p ((sortByKey_perm _).mem_iff.1 hp))
  rw [structAttrs_eq, foldSet_eq_append, hf, List.map_map, List.nil_append]
  · exact (List.map_congr_left (g := id) hA).trans (List.map_id _)
  · rw [hf, List.map_map, List.map_congr_left (f := SField.json ∘ attrField) (g := Prod.fst)
      (fun p hp => congrArg Prod.fst (hA p hp))]
    exact (sortByKey_keys_perm t.attrs).nodup_iff.2 ht.ndA

/-- The relationship definition `Wrap` derives from the declared field. -/
def normRel (n : GoString) (r : Rel) : Rel := { r with fromType := n, fromOne := false }

theorem relOf_relField (n : GoString) {p : GoString × Rel} (hp : p.1 = p.2.fromName)
    (c1 : comma ∉ p.2.toType) (c2 : comma ∉ p.2.toName) :
    ((relField p).json, relOf n (relField p)) = (p.1, normRel n p.2) := by
  simp only [relOf, splitComma_relApi p.2 c1 c2, hp, normRel, relField, relTy]
  by_cases hN : p.2.toName = [] <;> by_cases ho : p.2.toOne = true <;> simp [hN, ho]

theorem structRels_declOfTyp_eq {t : Typ} (ht : TypWF t) (hs : Spec.structable t = true) :
    structRels t.name (declOfTyp t) =
      .ok ((Typ.sortByKey t.rels).map (fun p => (p.1, normRel t.name p.2))) := by
  obtain ⟨_, _, n3, n4⟩ := structable_name hs
  have hf : (declOfTyp t).filter SField.isRelTagged = (Typ.sortByKey t.rels).map relField := by
    rw [declOfTyp_eq, List.filter_cons_of_neg (by simp [SField.isRelTagged, idField, n3, n4]),
      List.filter_append, List.filter_eq_nil_iff.2, List.filter_eq_self.2, List.nil_append]
    · intro f hf; obtain ⟨p, _, rfl⟩ := List.mem_map.1 hf
      simp [SField.isRelTagged, relField, relApi_isRelTagged]
    · intro f hf; obtain ⟨p, _, rfl⟩ := List.mem_map.1 hf
      exact Bool.eq_false_iff.1
        (by decide : (decide (sAttr = sRel) || hasPrefix sAttr sRelComma) = false)
  have hc : ∀ p ∈ Typ.sortByKey t.rels, comma ∉ p.2.toType ∧ comma ∉ p.2.toName :=
    fun p hp => structable_rel hs ((sortByKey_perm _).mem_iff.1 hp)
  have hR : ∀ p ∈ Typ.sortByKey t.rels,
      ((relField p).json, relOf t.name (relField p)) = (p.1, normRel t.name p.2) := fun p hp =>
    relOf_relField _ (ht.rels p ((sortByKey_perm _).mem_iff.1 hp)).1 (hc p hp).1 (hc p hp).2
  rw [structRels_eq, foldSet_eq_append, hf, List.map_map, List.nil_append]
  · exact congrArg _ (List.map_congr_left hR)
  · rw [hf, List.map_map, List.map_congr_left (f := SField.json ∘ relField) (g := Prod.fst)
      (fun p hp => congrArg Prod.fst (hR p hp))]
    exact (sortByKey_keys_perm t.rels).nodup_iff.2 ht.ndR
  · intro f hf' hr
    have := List.mem_filter.2 ⟨hf', hr⟩
    rw [hf] at this
    obtain ⟨p, hp, rfl⟩ := List.mem_map.1 this
    show 2 ≤ (splitComma (relApi p.2)).length
    rw [splitComma_relApi p.2 (hc p hp).1 (hc p hp).2]; split <;> simp

/-! ### The view of a wrapped struct -/

theorem filterMap_get_eq (names : List GoString) (g : GoString → Res GoVal)
    (h : ∀ n ∈ names, ∃ v, g n = .ok v) :
    names.filterMap (fun n => match g n with | .ok v => some (n, v) | _ => none) =
      names.map (fun n => (n, match g n with | .ok v => v | _ => GoVal.nil)) := by
  induction names with
  | nil => rfl
  | cons a l ih =>
    obtain ⟨v, hv⟩ := h a List.mem_cons_self
    simp only [List.filterMap_cons, List.map_cons, hv]
    rw [ih (fun n hn => h n (List.mem_cons_of_mem _ hn))]

/-- The view of a wrapper all of whose `Get`s return. -/
def Wrapped.viewOf (w : Wrapped) : ResView :=
  { typeName := w.typ, id := w.getID, attrs := w.attrs, rels := w.rels,
    vals := (w.attrs.keys ++ w.rels.keys).map
      (fun n => (n, match w.get n with | .ok v => v | _ => GoVal.nil)) }

theorem Wrapped.view_eq_viewOf (w : Wrapped)
    (hall : ∀ n ∈ w.attrs.keys ++ w.rels.keys, ∃ v, w.get n = .ok v) :
    w.view = some w.viewOf := by
  unfold Wrapped.view Wrapped.viewOf
  simp only []
  generalize hvals : List.filterMap _ (w.attrs.keys ++ w.rels.keys) = vs
  have e : vs = (w.attrs.keys ++ w.rels.keys).map
      (fun n => (n, match w.get n with | .ok v => v | _ => GoVal.nil)) := by
    rw [← hvals]; exact filterMap_get_eq _ _ hall
  subst e
  simp only [List.length_map, if_true]

theorem Wrapped.viewOf_get {w : Wrapped} {f : GoString} {x : GoVal}
    (hf : f ∈ w.attrs.keys ++ w.rels.keys) (hx : w.get f = .ok x) : w.viewOf.get f = x := by
  unfold ResView.get Wrapped.viewOf
  simp only []
  rw [get?_map_mk, if_pos hf, hx]
  rfl

theorem WInv.view {t : Typ} (ht : TypWF t) (hn : Spec.namesOk t = true) {h : Hist} {w : Wrapped}
    (inv : WInv t h w) (hA : w.attrs.keys.Perm t.attrs.keys) (hR : w.rels.keys.Perm t.rels.keys) :
    ∃ v, w.view = some v ∧ v.typeName = w.typ ∧ v.id = Spec.specId h ∧ v.attrs = w.attrs ∧
      v.rels = w.rels ∧ ∀ f ∈ t.fieldKeys, ∀ x, w.get f = .ok x → v.get f = x := by
  have hnames : ∀ n, n ∈ w.attrs.keys ++ w.rels.keys ↔ n ∈ t.fieldKeys := by
    intro n
    unfold Typ.fieldKeys
    simp only [List.mem_append, hA.mem_iff, hR.mem_iff]
  refine ⟨_, w.view_eq_viewOf fun n hn' => ?_, rfl, inv.getID, rfl, rfl,
    fun f hf x hx => Wrapped.viewOf_get ((hnames f).2 hf) hx⟩
  obtain ⟨v, hv, _⟩ := inv.get_field ht hn ((hnames n).1 hn')
  exact ⟨v, hv⟩

end Jsonapi
