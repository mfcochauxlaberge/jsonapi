/- A SoftResource given by its three components (type, ID, data map): the fields of a keyed
type, what `check` does to the data map, every call (Get, Set, AddAttr, AddRel, RemoveField,
SetType) as an equation on the components, and the edits of a keyed type. Shared by C17, C17S,
C19 and the bridge. -/
import Jsonapi.Spec.Collection
import Jsonapi.Proofs.GoMapLemmas
import Jsonapi.Proofs.C14Lemmas
namespace Jsonapi
open GoMap

/-! ### Keyed types, fields -/

theorem TypWF.keyed {t : Typ} (h : TypWF t) : TypKeyed t :=
  ⟨fun p hp => (h.attrs p hp).1, fun p hp => (h.rels p hp).1, h.ndA, h.ndR, h.disj⟩

instance (t : Typ) : Decidable (TypWF t) :=
  decidable_of_iff
    ((∀ p ∈ t.attrs, p.1 = p.2.name ∧ p.2.name ≠ [] ∧ 1 ≤ p.2.ty ∧ p.2.ty ≤ 14) ∧
      (∀ p ∈ t.rels, p.1 = p.2.fromName ∧ p.2.fromName ≠ [] ∧ p.2.toType ≠ []) ∧
      t.attrs.keys.Nodup ∧ t.rels.keys.Nodup ∧ ∀ k ∈ t.attrs.keys, k ∉ t.rels.keys)
    ⟨fun ⟨a, b, c, d, e⟩ => ⟨a, b, c, d, e⟩, fun h => ⟨h.attrs, h.rels, h.ndA, h.ndR, h.disj⟩⟩

theorem TypKeyed.nodup_keys {t : Typ} (ht : TypKeyed t) : (t.attrs.keys ++ t.rels.keys).Nodup :=
  List.nodup_append.2 ⟨ht.ndA, ht.ndR, fun a ha _ hb e => ht.disj a ha (e ▸ hb)⟩

namespace Spec

theorem isField_iff (t : Typ) (f : GoString) :
    isField t f = true ↔ f ∈ t.attrs.keys ∨ f ∈ t.rels.keys := by
  unfold isField; rw [Bool.or_eq_true, has_iff_mem_keys, has_iff_mem_keys]

theorem isField_iff_mem (t : Typ) (f : GoString) :
    isField t f = true ↔ f ∈ t.attrs.keys ++ t.rels.keys :=
  (isField_iff t f).trans List.mem_append.symm

theorem isField_false_iff (t : Typ) (f : GoString) :
    isField t f = false ↔ f ∉ t.attrs.keys ∧ f ∉ t.rels.keys := by
  rw [← Bool.not_eq_true, isField_iff, not_or]

theorem isField_of_attr {t : Typ} {f : GoString} {a : Attr} (h : t.attrs.get? f = some a) :
    isField t f = true := by
  unfold isField; rw [has_of_get? h]; rfl

theorem isField_of_rel {t : Typ} {f : GoString} {r : Rel} (h : t.rels.get? f = some r) :
    isField t f = true := by
  unfold isField; rw [has_of_get? h, Bool.or_true]

theorem isField_false_get? {t : Typ} {f : GoString} (h : isField t f = false) :
    t.attrs.get? f = none ∧ t.rels.get? f = none := by
  unfold isField at h
  rwa [Bool.or_eq_false_iff, has_false_iff, has_false_iff] at h

theorem ne_of_isField {t : Typ} {f g : GoString} (hf : isField t f = true) (hg : isField t g = false) :
    f ≠ g := fun e => by rw [e, hg] at hf; cases hf

theorem isField_id_of_namesOk {t : Typ} (hn : namesOk t = true) : isField t idName = false :=
  Bool.eq_false_iff.2 fun h => by
    have := List.all_eq_true.1 hn idName ((isField_iff_mem t _).1 h)
    simp at this

theorem accepts_isField {t : Typ} {f : GoString} {v : GoVal} (h : accepts t f v = true) :
    isField t f = true := by
  unfold accepts at h
  cases ha : t.attrs.get? f with
  | some a => exact isField_of_attr ha
  | none =>
    cases hr : t.rels.get? f with
    | some r => exact isField_of_rel hr
    | none => rw [ha, hr] at h; cases h

end Spec
open Spec

theorem Soft.get?_fieldMap (t : Typ) (G : GoString → GoVal) (f : GoString) :
    get? ((t.attrs.keys ++ t.rels.keys).map fun n => (n, G n)) f =
      if isField t f = true then some (G f) else none := by
  rw [get?_map_mk]
  by_cases h : isField t f = true
  · rw [if_pos h, if_pos ((isField_iff_mem t f).1 h)]
  · rw [if_neg h, if_neg (mt (isField_iff_mem t f).2 h)]

theorem Soft.fields_eq {t : Typ} (ht : TypKeyed t) : Soft.fields t = t.attrs.keys ++ t.rels.keys := by
  unfold Soft.fields
  rw [vals_map_eq_keys _ _ ht.attrs, vals_map_eq_keys _ _ ht.rels]

theorem Soft.contains_fields {t : Typ} (ht : TypKeyed t) (f : GoString) :
    (Soft.fields t).contains f = isField t f := by
  rw [Bool.eq_iff_iff, isField_iff_mem, Soft.fields_eq ht, List.contains_iff_mem]

/-- The value of a relationship has the Go type of its cardinality: a string for a to-one,
a string list for a to-many relationship. -/
def RelShape (x : GoVal) (one : Bool) : Prop :=
  if one = true then ∃ id, x = .val .string (.s id) else ∃ l, x = .strs l

namespace RelShape

theorem val {id : GoString} {one : Bool} : RelShape (.val .string (.s id)) one ↔ one = true := by
  unfold RelShape; cases one <;> simp

theorem strs {l : List GoString} {one : Bool} : RelShape (.strs l) one ↔ one = false := by
  unfold RelShape; cases one <;> simp

theorem other {x : GoVal} {one : Bool} (h1 : ∀ id, x = .val .string (.s id) → False)
    (h2 : ∀ l, x = .strs l → False) : ¬ RelShape x one := by
  unfold RelShape; cases one
  · exact fun ⟨l, e⟩ => h2 l e
  · exact fun ⟨id, e⟩ => h1 id e

end RelShape

theorem Spec.accepts_rel {t : Typ} {f : GoString} {r : Rel} (ha : t.attrs.get? f = none)
    (hr : t.rels.get? f = some r) (v : GoVal) : accepts t f v = true ↔ RelShape v r.toOne := by
  unfold accepts
  simp only [ha, hr]
  split
  · exact RelShape.val.symm
  · rw [RelShape.strs, Bool.not_eq_true']
  · rename_i h1 h2; exact iff_of_false Bool.false_ne_true (RelShape.other h1 h2)

/-! ### `check` on the data map -/

@[simp] theorem Soft.check_typ (s : Soft) : s.check.typ = s.typ := rfl
@[simp] theorem Soft.check_id (s : Soft) : s.check.id = s.id := rfl
@[simp] theorem Soft.check_data (s : Soft) : s.check.data = Soft.checkData s.typ s.data := rfl

/-- The first half of `check`: fill in the zero values. -/
def Soft.fill (t : Typ) (d : GoMap GoVal) : GoMap GoVal :=
  t.rels.foldl (fun d p => if d.has p.2.fromName then d else d.set p.2.fromName p.2.zero)
    (t.attrs.foldl (fun d p => if d.has p.2.name then d else d.set p.2.name p.2.zero) d)

theorem Soft.checkData_eq (t : Typ) (d : GoMap GoVal) :
    Soft.checkData t d =
      if (Soft.fields t).length < (Soft.fill t d).length
      then (Soft.fill t d).filter (fun p => (Soft.fields t).contains p.1) else Soft.fill t d := rfl

theorem Soft.get?_fill {t : Typ} (ht : TypKeyed t) (d : GoMap GoVal) (f : GoString) :
    (Soft.fill t d).get? f =
      (d.get? f).or (if isField t f = true then some (fieldZero t f) else none) := by
  unfold Soft.fill
  rw [GoMap.get?_fill Rel.fromName Rel.zero t.rels ht.rels,
    GoMap.get?_fill Attr.name Attr.zero t.attrs ht.attrs]
  unfold isField fieldZero GoMap.has
  cases d.get? f <;> cases t.attrs.get? f <;> cases t.rels.get? f <;> rfl

theorem Soft.checkData_get?_field {t : Typ} (ht : TypKeyed t) (d : GoMap GoVal) {f : GoString}
    (hf : isField t f = true) :
    (Soft.checkData t d).get? f = some ((d.get? f).getD (fieldZero t f)) := by
  have h2 : (Soft.fill t d).get? f = some ((d.get? f).getD (fieldZero t f)) := by
    rw [Soft.get?_fill ht, if_pos hf]; cases d.get? f <;> rfl
  rw [Soft.checkData_eq]; split
  · rw [GoMap.get?_filter (fun k => (Soft.fields t).contains k), Soft.contains_fields ht, if_pos hf, h2]
  · exact h2

/-- A name that is no field has no value after `check`: were it still there, the filled map
would hold more values than there are fields and the Go code's pruning test would have fired. -/
theorem Soft.checkData_get?_nonfield {t : Typ} (ht : TypKeyed t) (d : GoMap GoVal)
    {f : GoString} (hf : isField t f = false) :
    (Soft.checkData t d).get? f = none := by
  rw [Soft.checkData_eq]; split
  · rw [GoMap.get?_filter (fun k => (Soft.fields t).contains k), Soft.contains_fields ht, hf]; rfl
  · rename_i hlen
    rw [GoMap.get?_eq_none_iff]
    intro hmem
    apply hlen
    have hnd : (f :: (t.attrs.keys ++ t.rels.keys)).Nodup :=
      List.nodup_cons.2 ⟨fun hm => Bool.noConfusion (((isField_iff_mem t f).2 hm).symm.trans hf), ht.nodup_keys⟩
    have hsub : (f :: (t.attrs.keys ++ t.rels.keys)) ⊆ (Soft.fill t d).keys := by
      intro k hk
      rcases List.mem_cons.1 hk with e | hk
      · exact e ▸ hmem
      · refine has_iff_mem_keys.1 ?_
        unfold GoMap.has
        rw [Soft.get?_fill ht, if_pos ((isField_iff_mem t k).2 hk)]
        cases d.get? k <;> rfl
    have hle := hnd.length_le_of_subset hsub
    rw [Soft.fields_eq ht]
    simpa [GoMap.keys, Nat.lt_iff_add_one_le] using hle

theorem Soft.checkData_get? {t : Typ} (ht : TypKeyed t) (d : GoMap GoVal) (f : GoString) :
    (Soft.checkData t d).get? f =
      if isField t f = true then some ((d.get? f).getD (fieldZero t f)) else none := by
  split
  · rename_i hf; exact Soft.checkData_get?_field ht d hf
  · rename_i hf; exact Soft.checkData_get?_nonfield ht d (Bool.not_eq_true _ ▸ hf)

theorem Soft.has_checkData {t : Typ} (ht : TypKeyed t) (d : GoMap GoVal) (f : GoString) :
    (Soft.checkData t d).has f = isField t f := by
  unfold GoMap.has
  rw [Soft.checkData_get? ht]
  cases isField t f <;> rfl

/-! ### The calls on a resource given by its components -/

theorem Soft.get_id (s : Soft) : s.get idName = .val .string (.s s.id) := by
  simp [Soft.get, Soft.check]

theorem Soft.get_eq {t : Typ} (ht : TypKeyed t) (id : GoString) (d : GoMap GoVal) (f : GoString) :
    ({ typ := t, id := id, data := d } : Soft).get f =
      if f = idName then .val .string (.s id)
      else if isField t f = true then (d.get? f).getD (fieldZero t f) else .nil := by
  unfold Soft.get
  simp only [Soft.check_data, Soft.check_typ, Soft.check_id, Soft.checkData_get? ht]
  unfold isField
  cases t.attrs.has f <;> cases t.rels.has f <;> rfl

theorem Soft.view_get_eq {t : Typ} (ht : TypKeyed t) (id : GoString) (d : GoMap GoVal)
    {f : GoString} (hf : isField t f = true) (hid : f ≠ idName) :
    ({ typ := t, id := id, data := d } : Soft).view.get f = (d.get? f).getD (fieldZero t f) := by
  unfold Soft.view ResView.get
  simp only [Soft.check]
  rw [Soft.get?_fieldMap, if_pos hf, Option.getD_some, Soft.get_eq ht, if_neg hid, if_pos hf,
    Soft.checkData_get?_field ht d hf]
  rfl

theorem Soft.set_eq (t : Typ) (id : GoString) (d : GoMap GoVal) (k : GoString) (v : GoVal)
    (hk : k ≠ idName) :
    ({ typ := t, id := id, data := d } : Soft).set k v =
      { typ := t, id := id,
        data := if accepts t k v = true then (Soft.checkData t d).set k (stored t k v)
                else Soft.checkData t d } := by
  unfold Soft.set Spec.accepts Spec.stored
  simp only [hk, if_false, Soft.check]
  cases ha : t.attrs.get? k with
  | some a =>
    simp only []
    by_cases h1 : v.attrType = (a.ty, a.nullable)
    · simp [h1]
    · by_cases h2 : v = .nil ∧ a.nullable = true
      · obtain ⟨e1, e2⟩ := h2
        subst e1
        rw [e2] at h1
        simp [h1, e2]
      · simp only [h1, h2, if_false]
        have : ¬ (v = .nil ∧ a.nullable = true) := h2
        simp [this]
  | none =>
    simp only []
    cases hr : t.rels.get? k with
    | none => simp
    | some r =>
      simp only []
      split
      · by_cases hto : r.toOne = true <;> simp [hto]
      · by_cases hto : r.toOne = true <;> simp [hto]
      · rename_i hx1 hx2
        split
        · exact absurd rfl (hx1 _)
        · exact absurd rfl (hx2 _)
        · simp

/-- The ID a `Set("id", v)` stores. -/
def idOf (v : GoVal) : GoString := match v with | .val .string (.s id) => id | _ => []

theorem Soft.set_id (t : Typ) (id : GoString) (d : GoMap GoVal) (v : GoVal) :
    ({ typ := t, id := id, data := d } : Soft).set idName v =
      { typ := t, id := idOf v, data := Soft.checkData t d } := by
  unfold Soft.set
  rw [if_pos rfl]
  rfl

theorem Soft.addAttr_eq {t : Typ} (ht : TypKeyed t) (id : GoString) (d : GoMap GoVal) (a : Attr) :
    ({ typ := t, id := id, data := d } : Soft).addAttr a =
      { typ := if isField t a.name = true then t else { t with attrs := t.attrs.set a.name a },
        id := id, data := Soft.checkData t d } := by
  unfold Soft.addAttr
  simp only [Soft.check, Soft.contains_fields ht]
  split <;> rfl

theorem Soft.addRel_eq {t : Typ} (ht : TypKeyed t) (id : GoString) (d : GoMap GoVal) (r : Rel) :
    ({ typ := t, id := id, data := d } : Soft).addRel r =
      { typ := if isField t r.fromName = true then t else { t with rels := t.rels.set r.fromName r },
        id := id, data := Soft.checkData t d } := by
  unfold Soft.addRel
  simp only [Soft.check, Soft.contains_fields ht]
  split <;> rfl

/-- The type `SoftResource.RemoveField f0` leaves (soft_resource.go; `Soft.removeField`): `f0` is
deleted from both maps, whichever held it. -/
def Typ.without (t : Typ) (f0 : GoString) : Typ :=
  { t with attrs := t.attrs.del f0, rels := t.rels.del f0 }

theorem Soft.removeField_eq (t : Typ) (id : GoString) (d : GoMap GoVal) (f0 : GoString) :
    ({ typ := t, id := id, data := d } : Soft).removeField f0 =
      { typ := t.without f0, id := id, data := Soft.checkData t d } := rfl

theorem Soft.setType_eq (t : Typ) (id : GoString) (d : GoMap GoVal) (t' : Typ) :
    ({ typ := t, id := id, data := d } : Soft).setType t' =
      { typ := t', id := id, data := Soft.checkData t d } := rfl

/-! ### Editing a keyed type

`isField`, `fieldZero`, `accepts` (and the typing of values) look at a type only through the
definitions it holds for the name in question, and an edit changes those of one name. -/

/-- `t'` defines the name `f` as `t` does. -/
def SameDef (t t' : Typ) (f : GoString) : Prop :=
  t'.attrs.get? f = t.attrs.get? f ∧ t'.rels.get? f = t.rels.get? f

namespace SameDef
variable {t t' : Typ} {f : GoString}

theorem isField (h : SameDef t t' f) : isField t' f = isField t f := by
  unfold Spec.isField GoMap.has; rw [h.1, h.2]

theorem fieldZero (h : SameDef t t' f) : fieldZero t' f = fieldZero t f := by
  unfold Spec.fieldZero; rw [h.1, h.2]

theorem accepts (h : SameDef t t' f) (v : GoVal) : accepts t' f v = accepts t f v := by
  unfold Spec.accepts; rw [h.1, h.2]

theorem setAttr (t : Typ) {a : Attr} (h : f ≠ a.name) :
    SameDef t { t with attrs := t.attrs.set a.name a } f :=
  ⟨get?_set_ne _ _ _ _ h, rfl⟩

theorem setRel (t : Typ) {r : Rel} (h : f ≠ r.fromName) :
    SameDef t { t with rels := t.rels.set r.fromName r } f :=
  ⟨rfl, get?_set_ne _ _ _ _ h⟩

theorem without (t : Typ) {f0 : GoString} (h : f ≠ f0) : SameDef t (t.without f0) f :=
  ⟨(get?_del _ _ _).trans (if_neg h), (get?_del _ _ _).trans (if_neg h)⟩

end SameDef

theorem Compat.sameDef {t t' : Typ} (h : Compat t t') {f : GoString} (hf : isField t f = true)
    (hf' : isField t' f = true) : SameDef t t' f :=
  h f ((isField_iff_mem t f).1 hf) hf'

namespace Spec

theorem isField_without (t : Typ) (f0 f : GoString) :
    isField (t.without f0) f = (decide (f ≠ f0) && isField t f) := by
  unfold isField Typ.without
  simp only [has_del]
  cases decide (f ≠ f0) <;> simp

theorem isField_setAttr {t : Typ} (a : Attr) :
    isField { t with attrs := t.attrs.set a.name a } a.name = true :=
  isField_of_attr (get?_set_self _ _ _)

theorem isField_setRel {t : Typ} (r : Rel) :
    isField { t with rels := t.rels.set r.fromName r } r.fromName = true :=
  isField_of_rel (get?_set_self _ _ _)

theorem fieldZero_setAttr {t : Typ} (a : Attr) :
    fieldZero { t with attrs := t.attrs.set a.name a } a.name = a.zero := by
  unfold Spec.fieldZero; simp only [get?_set_self]

theorem fieldZero_setRel {t : Typ} (r : Rel) (hn : isField t r.fromName = false) :
    fieldZero { t with rels := t.rels.set r.fromName r } r.fromName = r.zero := by
  unfold Spec.fieldZero
  simp only [get?_set_self, (isField_false_get? hn).1]

end Spec

theorem TypKeyed.setAttr {t : Typ} (h : TypKeyed t) {a : Attr} (hn : isField t a.name = false) :
    TypKeyed { t with attrs := t.attrs.set a.name a } := by
  obtain ⟨hnA, hnR⟩ := (isField_false_iff t _).1 hn
  refine ⟨fun p hp => ?_, h.rels, nodup_keys_set _ _ h.ndA, h.ndR, fun k hk => ?_⟩
  · rcases mem_set hp with hp | hp
    · exact h.attrs p hp
    · rw [hp]
  · rcases keys_set_subset _ _ _ k hk with hk | hk
    · exact h.disj k hk
    · exact hk ▸ hnR

theorem TypKeyed.setRel {t : Typ} (h : TypKeyed t) {r : Rel} (hn : isField t r.fromName = false) :
    TypKeyed { t with rels := t.rels.set r.fromName r } := by
  obtain ⟨hnA, hnR⟩ := (isField_false_iff t _).1 hn
  refine ⟨h.attrs, fun p hp => ?_, h.ndA, nodup_keys_set _ _ h.ndR, fun k hk hk' => ?_⟩
  · rcases mem_set hp with hp | hp
    · exact h.rels p hp
    · rw [hp]
  · rcases keys_set_subset _ _ _ k hk' with hk' | hk'
    · exact h.disj k hk hk'
    · exact hnA (hk' ▸ hk)

theorem TypKeyed.without {t : Typ} (h : TypKeyed t) (f0 : GoString) : TypKeyed (t.without f0) := by
  constructor
  · intro p hp; exact h.attrs p (mem_del hp)
  · intro p hp; exact h.rels p (mem_del hp)
  · exact h.ndA.sublist (keys_del_sublist _ _)
  · exact h.ndR.sublist (keys_del_sublist _ _)
  · intro k hk hk'
    exact h.disj k ((keys_del_sublist t.attrs f0).subset hk) ((keys_del_sublist t.rels f0).subset hk')

end Jsonapi
