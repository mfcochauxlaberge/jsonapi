/- Helper lemmas for C05 / C06 / C13, part 4: partial unmarshaling of a resource (a
SoftResource whose type grows with the payload), and which fields the result has. -/
import Jsonapi.Proofs.UnmarshalLemmas3
namespace Jsonapi
open GoMap
namespace UnmL

/-! ### sub-types -/

/-- Every field definition of `t1` is a field definition of `t2`. -/
def Sub (t1 t2 : Typ) : Prop :=
  (∀ f a, t1.attrs.get? f = some a → t2.attrs.get? f = some a) ∧
  (∀ f r, t1.rels.get? f = some r → t2.rels.get? f = some r)

namespace Sub

theorem refl (t : Typ) : Sub t t := ⟨fun _ _ h => h, fun _ _ h => h⟩

theorem attrKeys {t1 t2 : Typ} (s : Sub t1 t2) {f : GoString} (hf : f ∈ t1.attrs.keys) :
    f ∈ t2.attrs.keys := by
  obtain ⟨a, ha⟩ := mem_keys_get? hf
  exact mem_keys_of_get? (s.1 f a ha)

theorem relKeys {t1 t2 : Typ} (s : Sub t1 t2) {f : GoString} (hf : f ∈ t1.rels.keys) :
    f ∈ t2.rels.keys := by
  obtain ⟨a, ha⟩ := mem_keys_get? hf
  exact mem_keys_of_get? (s.2 f a ha)

theorem fieldKeys {t1 t2 : Typ} (s : Sub t1 t2) {f : GoString} (hf : f ∈ t1.fieldKeys) :
    f ∈ t2.fieldKeys :=
  List.mem_append.2 ((List.mem_append.1 hf).imp s.attrKeys s.relKeys)

theorem namesOk_mono {t1 t2 : Typ} (s : Sub t1 t2) (hn : Spec.namesOk t2 = true) :
    Spec.namesOk t1 = true := by
  unfold Spec.namesOk
  rw [List.all_eq_true]
  intro f hf
  have := namesOk_mem hn (s.fieldKeys hf)
  simp [this.1, this.2]

theorem agree {t1 t2 : Typ} (s : Sub t1 t2) (wf1 : TypWF t1) (wf2 : TypWF t2) {f : GoString}
    (hf : f ∈ t1.fieldKeys) : t2.attrs.get? f = t1.attrs.get? f ∧ t2.rels.get? f = t1.rels.get? f := by
  rcases List.mem_append.1 hf with h | h
  · obtain ⟨a, ha⟩ := mem_keys_get? h
    rw [ha, s.1 f a ha, get?_eq_none_of_not_mem (wf1.disj f h),
      get?_eq_none_of_not_mem (wf2.disj f (s.attrKeys h))]
    exact ⟨rfl, rfl⟩
  · obtain ⟨r, hr⟩ := mem_keys_get? h
    rw [hr, s.2 f r hr, (rel_of_get? wf1 hr).2.2.2, (rel_of_get? wf2 (s.2 f r hr)).2.2.2]
    exact ⟨rfl, rfl⟩

theorem specGet_eq {t1 t2 : Typ} (s : Sub t1 t2) (wf1 : TypWF t1) (wf2 : TypWF t2) (h : Hist)
    {f : GoString} (hf : f ∈ t1.fieldKeys) : Spec.specGet t2 h f = Spec.specGet t1 h f := by
  unfold Spec.specGet Spec.zeroOf
  rw [(s.agree wf1 wf2 hf).1, (s.agree wf1 wf2 hf).2]

theorem setOk_mono {t1 t2 : Typ} (s : Sub t1 t2) (wf1 : TypWF t1) (wf2 : TypWF t2) {k : GoString}
    {v : GoVal} (h : Spec.setOk t1 k v = true) : Spec.setOk t2 k v = true := by
  by_cases e : k = idName
  · unfold Spec.setOk at h ⊢
    rwa [if_pos e] at h ⊢
  · obtain ⟨e1, e2⟩ := s.agree wf1 wf2 (setOk_field e h).1
    unfold Spec.setOk at h ⊢
    rwa [e1, e2]

end Sub

theorem SoftInv.extend {t1 t2 : Typ} (wf1 : TypWF t1) (wf2 : TypWF t2)
    (hn2 : Spec.namesOk t2 = true) (sub : Sub t1 t2) {h : Hist} {s : Soft} (inv : SoftInv t1 h s)
    (hok : SetHistOk t1 h) : SoftInv t2 h { s with typ := t2 } := by
  refine ⟨rfl, inv.id, fun x hx => sub.fieldKeys (inv.keys x hx), fun f hf => ?_⟩
  show Spec.canon ((s.data.get? f).getD (rawZero t2 f)) = _
  by_cases hf1 : f ∈ t1.fieldKeys
  · rw [rawZero, (sub.agree wf1 wf2 hf1).1, (sub.agree wf1 wf2 hf1).2, sub.specGet_eq wf1 wf2 h hf1]
    exact inv.vals f hf1
  · have hnot : f ∉ h.map (·.1) := by
      intro hm
      obtain ⟨p, hp, e⟩ := List.mem_map.1 hm
      by_cases e' : p.1 = idName
      · exact (namesOk_mem hn2 hf).1 (e ▸ e')
      · exact hf1 (e ▸ (setOk_field e' (hok p hp)).1)
    rw [get?_eq_none_of_not_mem fun hx => hf1 (inv.keys f hx), specGet_of_not_mem _ _ _ hnot,
      Option.getD_none, canon_rawZero]

/-! ### the invariant of partial unmarshaling -/

/-- After the Sets of `h` the partial resource's type holds exactly the fields set so
far, each with the definition of the schema type `t`, and reads as the abstract resource. -/
structure PInv (t : Typ) (h : Hist) (s : Soft) : Prop where
  wf : TypWF s.typ
  name : s.typ.name = t.name
  sub : Sub s.typ t
  inv : SoftInv s.typ h s
  hok : SetHistOk s.typ h
  flds : ∀ f, f ∈ s.typ.fieldKeys ↔ (f ≠ idName ∧ f ∈ h.map (·.1))

theorem PInv.extend_set {t : Typ} (_ht : TypWF t) (hn : Spec.namesOk t = true) {h : Hist} {s : Soft}
    (inv : PInv t h s) (t2 : Typ) (wf2 : TypWF t2) (name2 : t2.name = t.name) (sub2 : Sub t2 t)
    (sub12 : Sub s.typ t2) (k : GoString) (v : GoVal)
    (hflds : ∀ f, f ∈ t2.fieldKeys ↔ f ∈ s.typ.fieldKeys ∨ f = k)
    (hok : Spec.setOk t2 k v = true) :
    PInv t (h ++ [(k, v)]) (({ s with typ := t2 } : Soft).set k v) := by
  have hn2 := sub2.namesOk_mono hn
  have step := SoftInv.step wf2 hn2 (SoftInv.extend inv.wf wf2 hn2 sub12 inv.inv inv.hok) k v hok
  have hk : k ≠ idName := (namesOk_mem hn2 ((hflds k).2 (.inr rfl))).1
  refine ⟨step.typ.symm ▸ wf2, step.typ.symm ▸ name2, step.typ.symm ▸ sub2, step.typ.symm ▸ step, ?_,
    fun f => ?_⟩
  · rw [step.typ]
    intro p hp
    rcases List.mem_append.1 hp with hp | hp
    · exact sub12.setOk_mono inv.wf wf2 (inv.hok p hp)
    · rw [List.mem_singleton.1 hp]; exact hok
  · rw [step.typ, hflds f, inv.flds f, List.map_append, List.mem_append]
    constructor
    · rintro (⟨h1, h2⟩ | e)
      · exact ⟨h1, .inl h2⟩
      · exact ⟨e ▸ hk, .inr (List.mem_singleton.2 e)⟩
    · rintro ⟨h1, h2 | e⟩
      · exact .inl ⟨h1, h2⟩
      · exact .inr (List.mem_singleton.1 e)

theorem set_of_get? {β : Type} {m : GoMap β} {k : GoString} {v : β} (h : m.get? k = some v) :
    m.set k v = m := by
  induction m with
  | nil => cases h
  | cons p m ih =>
    unfold GoMap.get? at h
    unfold GoMap.set
    split at h
    · rename_i e; rw [if_pos e, ← e, ← Option.some.inj h]
    · rename_i e; rw [if_neg e, ih h]

theorem sub_set {β : Type} {m1 m : GoMap β} {k : GoString} {v : β}
    (sub : ∀ f x, m1.get? f = some x → m.get? f = some x) (h : m.get? k = some v) :
    (∀ f x, (m1.set k v).get? f = some x → m.get? f = some x) ∧
    (∀ f x, m1.get? f = some x → (m1.set k v).get? f = some x) := by
  refine ⟨fun f x hg => ?_, fun f x hg => ?_⟩
  · rw [get?_set] at hg
    split at hg
    · rename_i e; rw [e, h, hg]
    · exact sub f x hg
  · rw [get?_set]
    split
    · rename_i e; rw [← h, ← e, sub f x hg]
    · exact hg

/-- `AddAttr` with the definition a super-type has for the name: the name is free, or taken by
this very definition. -/
theorem addAttr_eq {t1 t : Typ} (wf1 : TypWF t1) (wft : TypWF t) (sub : Sub t1 t)
    {a : Attr} (ha : t.attrs.get? a.name = some a) :
    (t1.addAttr a).1 = { t1 with attrs := t1.attrs.set a.name a } := by
  obtain ⟨_, hne, h1, h2⟩ := wft.attrs _ (mem_of_get? ha)
  fun_cases Typ.addAttr t1 a
  · contradiction
  · rename_i h; simp [attrTypeStringNonEmpty, h1, h2] at h
  · rename_i hu
    obtain ⟨a', ha'⟩ := mem_keys_get? ((Typ.attrNameUsed_iff wf1 a.name).1 hu)
    rw [set_of_get? (Option.some.inj (ha ▸ sub.1 _ _ ha') ▸ ha')]
  · rename_i hr
    exact absurd (sub.relKeys ((Typ.relNameUsed_iff wf1 a.name).1 hr))
      (wft.disj a.name (mem_keys_of_get? ha))
  · rfl

theorem addRel_eq {t1 t : Typ} (wf1 : TypWF t1) (wft : TypWF t) (sub : Sub t1 t)
    {r : Rel} (hr : t.rels.get? r.fromName = some r) :
    (t1.addRel r).1 = { t1 with rels := t1.rels.set r.fromName r } := by
  obtain ⟨_, hne, hto, _⟩ := rel_of_get? wft hr
  fun_cases Typ.addRel t1 r
  · contradiction
  · contradiction
  · rename_i hu
    obtain ⟨r', hr'⟩ := mem_keys_get? ((Typ.relNameUsed_iff wf1 r.fromName).1 hu)
    rw [set_of_get? (Option.some.inj (hr ▸ sub.2 _ _ hr') ▸ hr')]
  · rename_i ha
    exact absurd (mem_keys_of_get? hr)
      (wft.disj r.fromName (sub.attrKeys ((Typ.attrNameUsed_iff wf1 r.fromName).1 ha)))
  · rfl

theorem addAttr_ext {t1 t : Typ} (wf1 : TypWF t1) (wft : TypWF t) (sub : Sub t1 t) {f : GoString}
    {a : Attr} (ha : t.attrs.get? f = some a) :
    TypWF (t1.addAttr a).1 ∧ (t1.addAttr a).1.name = t1.name ∧ Sub (t1.addAttr a).1 t ∧
    Sub t1 (t1.addAttr a).1 ∧ (t1.addAttr a).1.attrs.get? a.name = some a ∧
    (∀ g, g ∈ (t1.addAttr a).1.fieldKeys ↔ g ∈ t1.fieldKeys ∨ g = a.name) := by
  obtain ⟨rfl, _, _⟩ := attr_of_get? wft ha
  refine ⟨Typ.addAttr_wf wf1 a, Typ.addAttr_name t1 a, ?_⟩
  rw [addAttr_eq wf1 wft sub ha]
  refine ⟨⟨(sub_set sub.1 ha).1, sub.2⟩, ⟨(sub_set sub.1 ha).2, fun _ _ h => h⟩, get?_set_self _ _ _,
    fun g => ?_⟩
  simp only [Typ.fieldKeys, List.mem_append, mem_keys_set]
  exact ⟨fun h => h.elim (·.elim .inr (.inl ∘ .inl)) (.inl ∘ .inr),
    fun h => h.elim (·.elim (.inl ∘ .inr) .inr) (.inl ∘ .inl)⟩

theorem addRel_ext {t1 t : Typ} (wf1 : TypWF t1) (wft : TypWF t) (sub : Sub t1 t) {f : GoString}
    {r : Rel} (hr : t.rels.get? f = some r) :
    TypWF (t1.addRel r).1 ∧ (t1.addRel r).1.name = t1.name ∧ Sub (t1.addRel r).1 t ∧
    Sub t1 (t1.addRel r).1 ∧ (t1.addRel r).1.rels.get? r.fromName = some r ∧
    (∀ g, g ∈ (t1.addRel r).1.fieldKeys ↔ g ∈ t1.fieldKeys ∨ g = r.fromName) := by
  obtain ⟨rfl, _⟩ := rel_of_get? wft hr
  refine ⟨Typ.addRel_wf wf1 r, Typ.addRel_name t1 r, ?_⟩
  rw [addRel_eq wf1 wft sub hr]
  refine ⟨⟨sub.1, (sub_set sub.2 hr).1⟩, ⟨fun _ _ h => h, (sub_set sub.2 hr).2⟩, get?_set_self _ _ _,
    fun g => ?_⟩
  simp only [Typ.fieldKeys, List.mem_append, mem_keys_set]
  exact ⟨fun h => h.elim (.inl ∘ .inl) (·.elim .inr (.inl ∘ .inr)),
    fun h => h.elim (·.elim .inl (.inr ∘ .inr)) (.inr ∘ .inl)⟩

/-! ### `UnmarshalPartialResource` -/

def pAttrStep (t : Typ) (acc : Res Soft) (p : GoString × RawVal) : Res Soft :=
  match acc with
  | .ok s =>
    (match t.attrs.get? p.1 with
      | some a => (match unmarshalToType a p.2 with
        | .ok v => .ok (({ s with typ := (s.typ.addAttr a).1 } : Soft).set a.name v)
        | .err => .err
        | .panic => .panic)
      | none => .err)
  | e => e

def pRelStep (t : Typ) (acc : Res Soft) (p : GoString × RelRaw) : Res Soft :=
  match acc with
  | .ok s =>
    (match t.rels.get? p.1 with
      | some rel =>
        let (v, bad) := relValue rel p.2
        (match v with
          | some x =>
            let s' := ({ s with typ := (s.typ.addRel rel).1 } : Soft).set rel.fromName x
            if bad then .err else .ok s'
          | none => if bad then .err else .ok s)
      | none => .err)
  | e => e

def partInit (t : Typ) (sk : ResSke) : Soft :=
  { typ := { name := t.name, attrs := [], rels := [] }, id := sk.id, data := [] }

def partBody (st : SType) (sk : ResSke) : Res Soft :=
  sk.rels.foldl (pRelStep st.typ) (sk.attrs.foldl (pAttrStep st.typ) (.ok (partInit st.typ sk)))

theorem unmarshalPartialResource_eq (σ : SSchema) (sk : ResSke) :
    unmarshalPartialResource σ sk = withType σ sk.typ (partBody · sk) := rfl

theorem PInv.init (t : Typ) (sk : ResSke) : PInv t [idEntry sk] (partInit t sk) := by
  have no : ∀ {α : Type} {x : α} {P : Prop}, x ∈ ([] : List α) → P := fun h => nomatch h
  have no' : ∀ {β : Type} {f : GoString} {x : β} {P : Prop}, get? ([] : GoMap β) f = some x → P :=
    fun h => nomatch h
  refine ⟨⟨fun _ => no, fun _ => no, .nil, .nil, fun _ => no⟩, rfl, ⟨fun _ _ => no', fun _ _ => no'⟩,
    ⟨rfl, rfl, fun _ => no, fun _ => no⟩, ?_, fun f => ⟨no, fun h => absurd (List.mem_singleton.1 h.2) h.1⟩⟩
  intro p hp
  rw [List.mem_singleton.1 hp]; rfl

theorem pAttrStep_spec {t : Typ} (ht : TypWF t) (hn : Spec.namesOk t = true) :
    Steps (PInv t) (pAttrStep t) (attrEntry t) fun p => (attrEntry t p).isSome := by
  refine ⟨fun _ => rfl, ?_⟩
  intro h s p inv
  dsimp only
  have stay := Steps.stay inv
  fun_cases attrEntry t p
  · rename_i a ha v hv
    obtain ⟨_, _, k, hk⟩ := attr_of_get? ht ha
    obtain ⟨x1, x2, x3, x4, x5, x6⟩ := addAttr_ext inv.wf ht inv.sub ha
    have hid := (namesOk_mem (x3.namesOk_mono hn) ((x6 _).2 (.inr rfl))).1
    exact ⟨_, inv.extend_set ht hn _ x1 (x2.trans inv.name) x3 x4 a.name v x6
      (setOk_attr hid x5 hk (toType_hasAttrType a p.2 v k hv hk)), by simp only [pAttrStep, ha, hv]; rfl⟩
  · rename_i a ha hno
    refine ⟨s, stay, ?_⟩
    simp only [pAttrStep, ha]
    cases hv : unmarshalToType a p.2 with
    | ok v => exact absurd hv (hno v)
    | err => rfl
    | panic => exact absurd hv (toType_no_panic _ _)
  · rename_i ha
    exact ⟨s, stay, by simp only [pAttrStep, ha]; rfl⟩

theorem pRelStep_spec {t : Typ} (ht : TypWF t) (hn : Spec.namesOk t = true) :
    Steps (PInv t) (pRelStep t) (relEntry t) (relOk t) := by
  refine ⟨fun _ => rfl, ?_⟩
  intro h s p inv
  have stay := Steps.stay inv
  cases hr : t.rels.get? p.1 with
  | none =>
    rw [(relEntry_of_none hr).1, (relEntry_of_none hr).2]
    exact ⟨s, stay, by simp only [pRelStep, hr]; rfl⟩
  | some rel =>
    rw [(relEntry_of_some hr).1, (relEntry_of_some hr).2]
    rcases hvb : relValue rel p.2 with ⟨_ | x, bad⟩
    · exact ⟨s, stay, by simp only [pRelStep, hr, hvb]; cases bad <;> rfl⟩
    · obtain ⟨x1, x2, x3, x4, x5, x6⟩ := addRel_ext inv.wf ht inv.sub hr
      have hid := (namesOk_mem (x3.namesOk_mono hn) ((x6 _).2 (.inr rfl))).1
      exact ⟨_, inv.extend_set ht hn _ x1 (x2.trans inv.name) x3 x4 rel.fromName x x6
        (setOk_rel x1 hid x5 (relValue_typed rel p.2 x (congrArg Prod.fst hvb))),
        by simp only [pRelStep, hr, hvb]; cases bad <;> rfl⟩

theorem partBody_spec {st : SType} (ht : TypWF st.typ) (hn : Spec.namesOk st.typ = true) (sk : ResSke) :
    ∃ s, PInv st.typ (fullHist st.typ sk) s ∧ partBody st sk =
      bif attrsOk st.typ sk.attrs && relsOk st.typ sk.rels then .ok s else .err :=
  loops_spec (pAttrStep_spec ht hn) (pRelStep_spec ht hn) sk
    (PInv.init st.typ sk)

theorem partial_spec {σ : SSchema} (hσ : σ.WF) (sk : ResSke) :
    unmarshalPartialResource σ sk ≠ .panic ∧
    ∀ s, unmarshalPartialResource σ sk = .ok s ↔
      ∃ st, σ.getType sk.typ = some st ∧ attrsOk st.typ sk.attrs = true ∧ relsOk st.typ sk.rels = true ∧
        partBody st sk = .ok s ∧ PInv st.typ (fullHist st.typ sk) s := by
  rw [unmarshalPartialResource_eq]
  exact (entry_spec hσ sk fun _ _ ht hn _ => partBody_spec ht hn sk).imp id And.left

theorem partial_accept {σ : SSchema} (hσ : σ.WF) (sk : ResSke) :
    (∃ s, unmarshalPartialResource σ sk = .ok s) ↔
      ∃ st, σ.getType sk.typ = some st ∧ attrsOk st.typ sk.attrs = true ∧ relsOk st.typ sk.rels = true := by
  rw [unmarshalPartialResource_eq]
  exact (entry_spec hσ sk fun _ _ ht hn _ => partBody_spec ht hn sk).2.2

/-! ### the fields of the partial resource -/

theorem partial_field_sets {t : Typ} (ht : TypWF t) (hn : Spec.namesOk t = true) (sk : ResSke)
    (hR : sk.rels.keys.Nodup) (okA : attrsOk t sk.attrs = true) (okR : relsOk t sk.rels = true)
    {s : Soft} (inv : PInv t (fullHist t sk) s) :
    (∀ key, s.typ.attrs.has key = true ↔ sk.attrs.has key = true) ∧
    (∀ key, s.typ.rels.has key = true ↔ ∃ v, sk.rels.get? key = some v ∧ v.present = true) := by
  constructor
  · intro key
    rw [has_iff_mem_keys, has_iff_mem_keys]
    constructor
    · intro hk
      have hkt := inv.sub.attrKeys hk
      obtain ⟨_, hh⟩ := (inv.flds key).1 (List.mem_append_left _ hk)
      rcases mem_fullHist_keys ht sk key hh with h | h | h
      · exact absurd h (namesOk_mem hn (List.mem_append_left _ hkt)).1
      · exact h.1
      · exact absurd h.2 (ht.disj key hkt)
    · intro hk
      obtain ⟨p, hp, ep⟩ := List.mem_map.1 hk
      obtain ⟨e, he⟩ := all_attrEntry okA hp
      obtain ⟨a, ha, _, e1, _⟩ := attrEntry_some ht he
      rw [ep] at ha e1
      have h1 := List.mem_map.2 ⟨e, mem_fullHist_attr sk hp he, e1⟩
      have h2 := mem_keys_of_get? ha
      have hid := (namesOk_mem hn (List.mem_append_left _ h2)).1
      rcases List.mem_append.1 ((inv.flds key).2 ⟨hid, h1⟩) with h | h
      · exact h
      · exact absurd (inv.sub.relKeys h) (ht.disj key h2)
  · intro key
    rw [has_iff_mem_keys]
    constructor
    · intro hk
      have hkt := inv.sub.relKeys hk
      obtain ⟨_, hh⟩ := (inv.flds key).1 (List.mem_append_right _ hk)
      rcases mem_fullHist_keys ht sk key hh with h | h | h
      · exact absurd h (namesOk_mem hn (List.mem_append_right _ hkt)).1
      · exact absurd hkt (ht.disj key h.2)
      · obtain ⟨⟨p, hp, e, hpres⟩, _⟩ := h
        exact ⟨p.2, by rw [← e]; exact get?_of_mem_nodup hR hp, hpres⟩
    · rintro ⟨v, hg, hpres⟩
      have hp := mem_of_get? hg
      obtain ⟨rel, hr, _⟩ := all_relOk okR hp
      obtain ⟨x, _, he⟩ := relEntry_of_present hr hpres
      have h1 : key ∈ (fullHist t sk).map (·.1) :=
        List.mem_map.2 ⟨_, mem_fullHist_rel sk hp he, (rel_of_get? ht hr).1.symm⟩
      have h2 := mem_keys_of_get? hr
      have hid := (namesOk_mem hn (List.mem_append_right _ h2)).1
      rcases List.mem_append.1 ((inv.flds key).2 ⟨hid, h1⟩) with h | h
      · exact absurd h2 (ht.disj key (inv.sub.attrKeys h))
      · exact h

theorem partial_get {t : Typ} (ht : TypWF t) (hn : Spec.namesOk t = true) {h : Hist} {s : Soft}
    (inv : PInv t h s) {key : GoString} (hf : key ∈ s.typ.fieldKeys) :
    Spec.canon (s.get key) = Spec.specGet t h key := by
  have hid := (namesOk_mem (inv.sub.namesOk_mono hn) hf).1
  rw [Soft.get_field inv.wf s rfl inv.inv.keys hf hid, inv.inv.vals key hf]
  exact (inv.sub.specGet_eq inv.wf ht h hf).symm

end UnmL
end Jsonapi
