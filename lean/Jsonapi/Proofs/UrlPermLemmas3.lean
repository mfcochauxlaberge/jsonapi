/-
On UrlPermLemmas2 and UrlStringLemmas: NewParams / NewURL / NewURLFromRaw do not depend on the iteration order of the
values map, nor on the order of the `fields` map of the simple URL, nor (up to the order of
each field list) on the order of the names inside a `fields[t]` or include value.
-/
import Jsonapi.Proofs.UrlPermLemmas2
import Jsonapi.Proofs.UrlStringLemmas
namespace Jsonapi.UrlL.Perm
open Jsonapi

/-! ### `newParams` on simple URLs that agree up to order -/

theorem sel_perm (typ : Typ) {l l' : List GoString} (h : l.Perm l') :
    (sel typ l).Perm (sel typ l') ∧
    (((sel typ l).eraseDups.length ≠ (sel typ l).length) ↔
      ((sel typ l').eraseDups.length ≠ (sel typ l').length)) := by
  have hp : (sel typ l).Perm (sel typ l') := List.Perm.flatMap_right _ h
  refine ⟨hp, ?_⟩
  rw [Ne, Ne, eraseDups_length_iff, eraseDups_length_iff, hp.nodup_iff]

theorem prune_sort_perm (l l' : List GoString) (h : l.Perm l') :
    pruneIncludes (Typ.sortStrings l) = pruneIncludes (Typ.sortStrings l') := by
  rw [DetL.sortStrings_eq_of_perm h]

/-! #### the "Fields" loop in closed form -/

def fieldOk (σ : Schema) (resType : GoString) (p : GoString × List GoString) : Bool :=
  if p.1 ≠ resType ∧ (σ.getType p.1).name = [] then false
  else if (σ.getType p.1).name ≠ [] then decide (sel (σ.getType p.1) p.2).Nodup
  else true

theorem fieldOk_perm (σ : Schema) (rt : GoString) (k : GoString) {v v' : List GoString}
    (h : v.Perm v') : fieldOk σ rt (k, v) = fieldOk σ rt (k, v') := by
  unfold fieldOk
  simp only []
  rw [decide_eq_decide.2 (sel_perm (σ.getType k) h).1.nodup_iff]

def fieldApply (σ : Schema) (m : GoMap (List GoString)) (p : GoString × List GoString) :
    GoMap (List GoString) :=
  if (σ.getType p.1).name ≠ [] then m.set p.1 (sel (σ.getType p.1) p.2) else m

theorem fieldStep_closed (σ : Schema) (resType : GoString) (m : GoMap (List GoString))
    (p : GoString × List GoString) :
    fieldStep σ resType m p = if fieldOk σ resType p then .ok (fieldApply σ m p) else .err := by
  unfold fieldStep fieldOk fieldApply
  by_cases h1 : p.1 ≠ resType ∧ (σ.getType p.1).name = []
  · rw [if_pos h1, if_pos h1]; rfl
  · rw [if_neg h1, if_neg h1]
    by_cases hn : (σ.getType p.1).name ≠ []
    · rw [if_pos hn, if_pos hn, if_pos hn]
      by_cases hd : (sel (σ.getType p.1) p.2).Nodup
      · rw [if_neg (fun h => h ((eraseDups_length_iff _).2 hd)), decide_eq_true hd]; rfl
      · rw [if_pos (fun h => hd ((eraseDups_length_iff _).1 h)), decide_eq_false hd]; rfl
    · rw [if_neg hn, if_neg hn, if_neg hn]; rfl

theorem pFieldsRes_closed (σ : Schema) (su : SimpleURL) (resType : GoString) :
    pFieldsRes σ su resType =
      if su.fields.all (fieldOk σ resType)
      then .ok (su.fields.foldl (fieldApply σ) (pFields1 σ su resType)) else .err :=
  rfold_closed _ _ _ (fieldStep_closed σ resType) _ _

theorem fieldApply_get? (σ : Schema) (m : GoMap (List GoString)) (p : GoString × List GoString)
    (t : GoString) :
    (fieldApply σ m p).get? t =
      if t = p.1 ∧ (σ.getType p.1).name ≠ [] then some (sel (σ.getType p.1) p.2) else m.get? t := by
  unfold fieldApply
  by_cases h : (σ.getType p.1).name ≠ []
  · rw [if_pos h, GoMap.get?_set]
    by_cases ht : t = p.1 <;> simp [ht, h]
  · rw [if_neg h]
    simp [h]

theorem get?_foldl_fieldApply (σ : Schema) : ∀ (flds m : GoMap (List GoString)), flds.keys.Nodup →
    ∀ t, (flds.foldl (fieldApply σ) m).get? t =
      match flds.get? t with
      | some l => if (σ.getType t).name ≠ [] then some (sel (σ.getType t) l) else m.get? t
      | none => m.get? t
  | [], m, _, t => rfl
  | (k, v) :: rest, m, hnd, t => by
    simp only [GoMap.keys, List.map_cons, List.nodup_cons] at hnd
    rw [List.foldl_cons, get?_foldl_fieldApply σ rest _ hnd.2 t]
    simp only [GoMap.get?]
    by_cases hk : k = t
    · subst hk
      rw [GoMap.get?_eq_none_of_not_mem hnd.1, if_pos rfl]
      simp only [fieldApply_get?, true_and]
    · have hk' : ¬ t = k := fun e => hk e.symm
      rw [if_neg hk]
      simp only [fieldApply_get?, hk', false_and, if_false]

theorem foldl_fieldApply_get?_rel (σ : Schema) {flds flds' : GoMap (List GoString)}
    (m : GoMap (List GoString)) (hf : flds.keys.Nodup) (hf' : flds'.keys.Nodup)
    (h : ∀ t, PermO (flds.get? t) (flds'.get? t)) (t : GoString) :
    PermO ((flds.foldl (fieldApply σ) m).get? t) ((flds'.foldl (fieldApply σ) m).get? t) := by
  rw [get?_foldl_fieldApply σ _ _ hf, get?_foldl_fieldApply σ _ _ hf']
  have ht := h t
  cases h₁ : flds.get? t <;> cases h₂ : flds'.get? t <;> rw [h₁, h₂] at ht
  · exact PermO.refl _
  · exact ht.elim
  · exact ht.elim
  · simp only []
    split
    · exact (sel_perm _ ht).1
    · exact PermO.refl _

theorem foldl_fieldApply_nodup (σ : Schema) (flds m : GoMap (List GoString)) (h : m.keys.Nodup) :
    (fillDefault σ (flds.foldl (fieldApply σ) m)).keys.Nodup := by
  rw [keys_fillDefault]
  refine foldl_invariant (fieldApply σ) (fun m => m.keys.Nodup) (fun b x hb => ?_) flds m h
  unfold fieldApply
  split
  · exact GoMap.nodup_keys_set _ _ hb
  · exact hb

/-! #### equivalence of `Params`: up to the order of the maps (`PEq`), and of each field list (`PEqP`) -/

structure PEq (a b : Params) : Prop where
  filterLabel : a.filterLabel = b.filterLabel
  filter : a.filter = b.filter
  sortingRules : a.sortingRules = b.sortingRules
  incl : a.incl = b.incl
  fields : ∀ t, a.fields.get? t = b.fields.get? t
  page : ∀ k, a.page.get? k = b.page.get? k
  fieldsNodup₁ : a.fields.keys.Nodup
  fieldsNodup₂ : b.fields.keys.Nodup
  pageNodup₁ : a.page.keys.Nodup
  pageNodup₂ : b.page.keys.Nodup

structure PEqP (a b : Params) : Prop where
  filterLabel : a.filterLabel = b.filterLabel
  filter : a.filter = b.filter
  sortingRules : a.sortingRules = b.sortingRules
  incl : a.incl = b.incl
  fields : ∀ t, PermO (a.fields.get? t) (b.fields.get? t)
  page : ∀ k, a.page.get? k = b.page.get? k
  fieldsNodup₁ : a.fields.keys.Nodup
  fieldsNodup₂ : b.fields.keys.Nodup
  pageNodup₁ : a.page.keys.Nodup
  pageNodup₂ : b.page.keys.Nodup

theorem parts_congr (σ : Schema) {su su' : SimpleURL} (rt : GoString) (h : SEqP su su') :
    pFields1 σ su rt = pFields1 σ su' rt ∧ pRules σ su rt = pRules σ su' rt ∧
      pIncl σ su rt = pIncl σ su' rt := by
  have hi : pIncs su = pIncs su' := prune_sort_perm _ _ h.incl
  unfold pFields1 pFields0 pRules pIsCol pIncl
  rw [hi, h.fragments, h.sortingRules]
  exact ⟨rfl, rfl, rfl⟩

theorem newParams_rel {Q : Params → Params → Prop} (σ : Schema) {su su' : SimpleURL} (rt : GoString)
    (h : SEqP su su') (hf : su.fields.keys.Nodup) (hf' : su'.fields.keys.Nodup)
    (hQ : ∀ m r i, m.keys.Nodup →
      Q { fields := fillDefault σ (su.fields.foldl (fieldApply σ) m), filterLabel := su.filterLabel,
          filter := su.filter, sortingRules := r, page := su.page, incl := i }
        { fields := fillDefault σ (su'.fields.foldl (fieldApply σ) m), filterLabel := su'.filterLabel,
          filter := su'.filter, sortingRules := r, page := su'.page, incl := i }) :
    ResRel Q (newParams σ su rt) (newParams σ su' rt) := by
  obtain ⟨e1, e2, e3⟩ := parts_congr σ rt h
  rw [UrlL.newParams_eq, UrlL.newParams_eq, pFieldsRes_closed, pFieldsRes_closed, ← e1, ← e2, ← e3,
    ← all_eq_of_get?_rel hf hf' h.fields (fieldOk σ rt) (fun k _ _ hv => fieldOk_perm σ rt k hv)]
  by_cases hall : su.fields.all (fieldOk σ rt) = true
  · rw [if_pos hall, if_pos hall]
    exact hQ _ _ _ (pFields1_nodup σ su rt)
  · rw [if_neg hall, if_neg hall]; trivial

theorem newParams_congrP (σ : Schema) {su su' : SimpleURL} (rt : GoString) (h : SEqP su su')
    (hf : su.fields.keys.Nodup) (hf' : su'.fields.keys.Nodup)
    (hp : su.page.keys.Nodup) (hp' : su'.page.keys.Nodup) :
    ResRel PEqP (newParams σ su rt) (newParams σ su' rt) := by
  refine newParams_rel σ rt h hf hf' fun m r i hm =>
    ⟨h.filterLabel, h.filter, rfl, rfl, fun t => ?_, h.page, foldl_fieldApply_nodup σ _ m hm,
      foldl_fieldApply_nodup σ _ m hm, hp, hp'⟩
  show PermO ((fillDefault σ _).get? t) ((fillDefault σ _).get? t)
  rw [get?_fillDefault, get?_fillDefault]
  refine ORel.map _ (fun a b hab => ?_) (foldl_fieldApply_get?_rel σ _ hf hf' h.fields t)
  simp only [hab.isEmpty_eq]
  split
  · exact List.Perm.refl _
  · exact hab

theorem newParams_congr (σ : Schema) {su su' : SimpleURL} (rt : GoString) (h : SEq su su')
    (hf : su.fields.keys.Nodup) (hf' : su'.fields.keys.Nodup)
    (hp : su.page.keys.Nodup) (hp' : su'.page.keys.Nodup) :
    ResRel PEq (newParams σ su rt) (newParams σ su' rt) := by
  refine newParams_rel σ rt h.toP hf hf' fun m r i hm =>
    ⟨h.filterLabel, h.filter, rfl, rfl, fun t => ?_, h.page, foldl_fieldApply_nodup σ _ m hm,
      foldl_fieldApply_nodup σ _ m hm, hp, hp'⟩
  show (fillDefault σ _).get? t = (fillDefault σ _).get? t
  rw [get?_fillDefault, get?_fillDefault, get?_foldl_fieldApply σ _ _ hf,
    get?_foldl_fieldApply σ _ _ hf', h.fields t]

/-! ### NewURL -/

/-- equal URLs up to the relation `Q` on their parameters -/
structure UEqG (Q : Params → Params → Prop) (a b : URL) : Prop where
  fragments : a.fragments = b.fragments
  isCol : a.isCol = b.isCol
  resType : a.resType = b.resType
  resID : a.resID = b.resID
  rel : a.rel = b.rel
  params : Q a.params b.params

abbrev UEq := UEqG PEq

abbrev UEqP := UEqG PEqP

theorem newURL_congr {Q : Params → Params → Prop} (σ : Schema) {su su' : SimpleURL}
    (hfr : su.fragments = su'.fragments)
    (h : ∀ rt, ResRel Q (newParams σ su rt) (newParams σ su' rt)) :
    ResRel (UEqG Q) (newURL σ su) (newURL σ su') := by
  rw [newURL_eq, newURL_eq, ← hfr]
  cases urlHead σ su.fragments with
  | ok u0 =>
    have hu := h u0.resType
    simp only []
    cases h₁ : newParams σ su u0.resType <;> cases h₂ : newParams σ su' u0.resType <;>
      rw [h₁, h₂] at hu <;>
      first
        | exact hu.elim
        | trivial
        | exact ⟨rfl, rfl, rfl, rfl, rfl, hu⟩
  | err => trivial
  | panic => trivial

/-! ### NewURLFromRaw: the main theorems -/

theorem newURLFrom_congr {S : SimpleURL → SimpleURL → Prop} {Q : Params → Params → Prop}
    (σ : Schema) (p : GoString) {values₁ values₂ : GoMap (List GoString)} (fd : FilterDec)
    (hrel : ResRel S (newSimpleURL p values₁ fd) (newSimpleURL p values₂ fd))
    (hS : ∀ su su', S su su' → su.fields.keys.Nodup ∧ su.page.keys.Nodup →
      su'.fields.keys.Nodup ∧ su'.page.keys.Nodup → ResRel (UEqG Q) (newURL σ su) (newURL σ su')) :
    ResRel (UEqG Q) (newURLFrom σ (some (p, values₁, fd))) (newURLFrom σ (some (p, values₂, fd))) := by
  have hn₁ := @newSimpleURL_fields_nodup p values₁ fd
  have hn₂ := @newSimpleURL_fields_nodup p values₂ fd
  unfold newURLFrom
  simp only []
  cases h₁ : newSimpleURL p values₁ fd <;> cases h₂ : newSimpleURL p values₂ fd <;>
    rw [h₁, h₂] at hrel <;>
    first
      | exact hrel.elim
      | trivial
      | exact hS _ _ hrel (hn₁ h₁) (hn₂ h₂)

theorem newURLFrom_perm (σ : Schema) (p : GoString) (values₁ values₂ : GoMap (List GoString))
    (fd : FilterDec) (hp : values₁.Perm values₂) (hnd : values₁.keys.Nodup) :
    ResRel UEq (newURLFrom σ (some (p, values₁, fd))) (newURLFrom σ (some (p, values₂, fd))) :=
  newURLFrom_congr σ p fd (newSimpleURL_perm p fd hp hnd) fun _ _ h hn hn' =>
    newURL_congr σ h.fragments fun rt => newParams_congr σ rt h hn.1 hn'.1 hn.2 hn'.2

theorem newURLFrom_perm_E (σ : Schema) (p : GoString) (values₁ values' values₂ : GoMap (List GoString))
    (fd : FilterDec) (hp : values₁.Perm values') (hE : Forall2 E values' values₂)
    (hnd : values₁.keys.Nodup) :
    ResRel UEqP (newURLFrom σ (some (p, values₁, fd))) (newURLFrom σ (some (p, values₂, fd))) :=
  newURLFrom_congr σ p fd (newSimpleURL_perm_E p fd hp hE hnd) fun _ _ h hn hn' =>
    newURL_congr σ h.fragments fun rt => newParams_congrP σ rt h hn.1 hn'.1 hn.2 hn'.2

theorem UEq_string_eq {u₁ u₂ : URL} (h : UEq u₁ u₂) (env : StringEnv) :
    u₁.string env = u₂.string env :=
  string_canonical u₁ u₂ env h.fragments h.isCol h.params.filterLabel h.params.filter
    h.params.sortingRules (fun t => by rw [h.params.fields t]) h.params.fieldsNodup₁
    h.params.fieldsNodup₂ (fun _ => h.params.page) (fun _ => h.params.pageNodup₁)
    (fun _ => h.params.pageNodup₂)

theorem UEqP_string_eq {u₁ u₂ : URL} (h : UEqP u₁ u₂) (env : StringEnv) :
    u₁.string env = u₂.string env :=
  string_canonical u₁ u₂ env h.fragments h.isCol h.params.filterLabel h.params.filter
    h.params.sortingRules (fun t => (h.params.fields t).map_sort) h.params.fieldsNodup₁
    h.params.fieldsNodup₂ (fun _ => h.params.page) (fun _ => h.params.pageNodup₁)
    (fun _ => h.params.pageNodup₂)

/-- Whether `NewURLFromRaw` succeeds does not depend on Go's map iteration order. -/
theorem order_independent_isOk (σ : Schema) (p : GoString) (values₁ values₂ : GoMap (List GoString))
    (fd : FilterDec) (hp : values₁.Perm values₂) (hnd : values₁.keys.Nodup) :
    (newURLFrom σ (some (p, values₁, fd))).isOk = (newURLFrom σ (some (p, values₂, fd))).isOk :=
  (newURLFrom_perm σ p values₁ values₂ fd hp hnd).isOk_eq

/-- The URL built by `NewURLFromRaw` does not depend on Go's map iteration order, up to the
order of the `fields` / `page` association lists; in particular `String()` is the same. -/
theorem order_independent (σ : Schema) (p : GoString) (values₁ values₂ : GoMap (List GoString))
    (fd : FilterDec) (hp : values₁.Perm values₂) (hnd : values₁.keys.Nodup) (u₁ u₂ : URL)
    (h₁ : newURLFrom σ (some (p, values₁, fd)) = .ok u₁)
    (h₂ : newURLFrom σ (some (p, values₂, fd)) = .ok u₂) :
    u₁.fragments = u₂.fragments ∧ u₁.isCol = u₂.isCol ∧ u₁.resType = u₂.resType ∧
    u₁.resID = u₂.resID ∧ u₁.rel = u₂.rel ∧
    u₁.params.sortingRules = u₂.params.sortingRules ∧ u₁.params.filterLabel = u₂.params.filterLabel ∧
    u₁.params.filter = u₂.params.filter ∧ u₁.params.incl = u₂.params.incl ∧
    (∀ t, u₁.params.fields.get? t = u₂.params.fields.get? t) ∧
    (∀ k, u₁.params.page.get? k = u₂.params.page.get? k) ∧
    u₁.params.fields.keys.Nodup ∧ u₂.params.fields.keys.Nodup ∧
    u₁.params.page.keys.Nodup ∧ u₂.params.page.keys.Nodup ∧
    ∀ env, u₁.string env = u₂.string env := by
  have h := newURLFrom_perm σ p values₁ values₂ fd hp hnd
  rw [h₁, h₂] at h
  have hu : UEq u₁ u₂ := h
  exact ⟨hu.fragments, hu.isCol, hu.resType, hu.resID, hu.rel, hu.params.sortingRules,
    hu.params.filterLabel, hu.params.filter, hu.params.incl, hu.params.fields, hu.params.page,
    hu.params.fieldsNodup₁, hu.params.fieldsNodup₂, hu.params.pageNodup₁, hu.params.pageNodup₂,
    UEq_string_eq hu⟩

/-- (c) Whether `NewURLFromRaw` succeeds depends neither on the map iteration order nor on the
order of the names inside a `fields[t]` value or inside the `include` values. -/
theorem order_value_independent_isOk (σ : Schema) (p : GoString)
    (values₁ values' values₂ : GoMap (List GoString)) (fd : FilterDec)
    (hp : values₁.Perm values') (hE : Forall2 E values' values₂) (hnd : values₁.keys.Nodup) :
    (newURLFrom σ (some (p, values₁, fd))).isOk = (newURLFrom σ (some (p, values₂, fd))).isOk :=
  (newURLFrom_perm_E σ p values₁ values' values₂ fd hp hE hnd).isOk_eq

/-- (c) ... and neither does the URL, up to the order of the maps and of each field list
(`UEqP`); in particular `String()` is the same (`UEqP_string_eq`). -/
theorem order_value_independent (σ : Schema) (p : GoString)
    (values₁ values' values₂ : GoMap (List GoString)) (fd : FilterDec)
    (hp : values₁.Perm values') (hE : Forall2 E values' values₂) (hnd : values₁.keys.Nodup)
    (u₁ u₂ : URL)
    (h₁ : newURLFrom σ (some (p, values₁, fd)) = .ok u₁)
    (h₂ : newURLFrom σ (some (p, values₂, fd)) = .ok u₂) : UEqP u₁ u₂ := by
  have h := newURLFrom_perm_E σ p values₁ values' values₂ fd hp hE hnd
  rw [h₁, h₂] at h
  exact h

#print axioms string_canonical
#print axioms order_independent_isOk
#print axioms order_independent
#print axioms sel_perm
#print axioms prune_sort_perm
#print axioms order_value_independent_isOk
#print axioms order_value_independent

end Jsonapi.UrlL.Perm
