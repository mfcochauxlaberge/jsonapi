/- Lemmas about the association-list model of Go maps. -/
import Jsonapi.Model.Schema
import Jsonapi.Proofs.ListLemmas
namespace Jsonapi.GoMap
variable {β : Type}

theorem keys_set (m : GoMap β) (k : GoString) (v : β) :
    (k ∈ keys m ∧ keys (set m k v) = keys m) ∨ (k ∉ keys m ∧ keys (set m k v) = keys m ++ [k]) := by
  induction m with
  | nil => exact .inr ⟨List.not_mem_nil, rfl⟩
  | cons q m ih =>
    unfold set; split
    · rename_i e
      exact .inl ⟨e ▸ List.mem_cons_self, congrArg (· :: keys m) e.symm⟩
    · rename_i e
      rcases ih with ⟨hk, ih⟩ | ⟨hk, ih⟩
      · exact .inl ⟨List.mem_cons_of_mem _ hk, congrArg (q.1 :: ·) ih⟩
      · exact .inr ⟨fun h => (List.mem_cons.1 h).elim (fun h => e h.symm) hk, congrArg (q.1 :: ·) ih⟩

theorem mem_keys_set {m : GoMap β} {k k' : GoString} {v : β} :
    k' ∈ keys (set m k v) ↔ k' = k ∨ k' ∈ keys m := by
  rcases keys_set m k v with ⟨hk, e⟩ | ⟨_, e⟩ <;> rw [e]
  · exact ⟨.inr, fun h => h.elim (· ▸ hk) id⟩
  · rw [List.mem_append, List.mem_singleton, or_comm]

theorem nodup_keys_set {m : GoMap β} (k : GoString) (v : β) (h : (keys m).Nodup) :
    (keys (set m k v)).Nodup := by
  rcases keys_set m k v with ⟨_, e⟩ | ⟨hk, e⟩ <;> rw [e]
  · exact h
  · exact List.nodup_append.2 ⟨h, List.pairwise_singleton _ k, fun a ha b hb e =>
      hk (List.mem_singleton.1 hb ▸ e ▸ ha)⟩

theorem set_of_not_mem (m : GoMap β) (k : GoString) (v : β) (h : k ∉ keys m) :
    set m k v = m ++ [(k, v)] := by
  induction m with
  | nil => rfl
  | cons p m ih =>
    rw [keys, List.map_cons, List.mem_cons, not_or] at h
    rw [set, if_neg (fun e => h.1 e.symm), ih h.2]; rfl

theorem get?_set_self (m : GoMap β) (k : GoString) (v : β) : get? (set m k v) k = some v := by
  induction m with
  | nil => simp [set, get?]
  | cons p m ih => unfold set; split <;> simp [get?, *]

theorem get?_set_ne (m : GoMap β) (k k' : GoString) (v : β) (h : k' ≠ k) :
    get? (set m k v) k' = get? m k' := by
  induction m with
  | nil => simp [set, get?, h.symm]
  | cons p m ih =>
    unfold set; split
    · rename_i e; simp [get?, e, h.symm]
    · simp [get?, ih]

theorem mem_del {m : GoMap β} {k : GoString} {p : GoString × β} (h : p ∈ del m k) : p ∈ m :=
  (List.mem_filter.1 h).1

theorem keys_del_sublist (m : GoMap β) (k : GoString) : (keys (del m k)).Sublist (keys m) :=
  List.Sublist.map _ List.filter_sublist

theorem del_of_not_mem (m : GoMap β) (k : GoString) (h : k ∉ keys m) : del m k = m := by
  unfold del
  rw [List.filter_eq_self]
  intro p hp
  exact decide_eq_true fun e => h (e ▸ List.mem_map.2 ⟨p, hp, rfl⟩)

theorem not_mem_keys_del (m : GoMap β) (k : GoString) : k ∉ keys (del m k) := by
  intro h
  obtain ⟨p, hp, e⟩ := List.mem_map.1 h
  exact of_decide_eq_true (List.mem_filter.1 hp).2 e

theorem del_set_of_not_mem (m : GoMap β) (k : GoString) (v : β) (h : k ∉ keys m) :
    del (set m k v) k = m := by
  rw [set_of_not_mem m k v h, del, List.filter_append, ← del, del_of_not_mem m k h]
  simp

end Jsonapi.GoMap
