/- Helper lemmas for C14 (schema editing keeps the schema well-formed). -/
import Jsonapi.Proofs.GoMapLemmas
import Jsonapi.Proofs.SchemaLemmas
namespace Jsonapi
open Schema GoMap

/-- Well-formed type: key = name, names non-empty, kinds valid, targets non-empty,
one namespace for attributes and relationships. -/
structure TypWF (t : Typ) : Prop where
  attrs : ∀ p ∈ t.attrs, p.1 = p.2.name ∧ p.2.name ≠ [] ∧ 1 ≤ p.2.ty ∧ p.2.ty ≤ 14
  rels : ∀ p ∈ t.rels, p.1 = p.2.fromName ∧ p.2.fromName ≠ [] ∧ p.2.toType ≠ []
  ndA : t.attrs.keys.Nodup
  ndR : t.rels.keys.Nodup
  disj : ∀ k ∈ t.attrs.keys, k ∉ t.rels.keys

/-- C14's invariant. -/
def Inv (s : Schema) : Prop :=
  (s.types.map (·.name)).Nodup ∧ ∀ t ∈ s.types, t.name ≠ [] ∧ TypWF t

/-- Both are decidable: concrete schemas (the test vectors of C16) are checked by evaluation. -/
instance (t : Typ) : Decidable (TypWF t) :=
  decidable_of_iff (_ ∧ _ ∧ _ ∧ _ ∧ _)
    ⟨fun ⟨a, b, c, d, e⟩ => ⟨a, b, c, d, e⟩, fun h => ⟨h.attrs, h.rels, h.ndA, h.ndR, h.disj⟩⟩

instance (s : Schema) : Decidable (Inv s) := inferInstanceAs (Decidable (_ ∧ _))

namespace Typ

theorem attrNameUsed_iff {t : Typ} (h : TypWF t) (n : GoString) :
    t.attrNameUsed n = true ↔ n ∈ t.attrs.keys :=
  any_name_iff _ Attr.name (fun p hp => (h.attrs p hp).1) n

theorem relNameUsed_iff {t : Typ} (h : TypWF t) (n : GoString) :
    t.relNameUsed n = true ↔ n ∈ t.rels.keys :=
  any_name_iff _ Rel.fromName (fun p hp => (h.rels p hp).1) n

theorem addAttr_outcome (t : Typ) (a : Attr) :
    t.addAttr a = (t, .err) ∨
    (t.addAttr a = ({ t with attrs := t.attrs.set a.name a }, .ok ()) ∧ a.name ≠ [] ∧
      attrTypeStringNonEmpty a.ty a.nullable = true ∧
      t.attrNameUsed a.name = false ∧ t.relNameUsed a.name = false) := by
  unfold addAttr
  by_cases h1 : a.name = []
  · exact .inl (if_pos h1)
  · rw [if_neg h1]
    cases h2 : attrTypeStringNonEmpty a.ty a.nullable
    · exact .inl rfl
    · cases h3 : t.attrNameUsed a.name
      · cases h4 : t.relNameUsed a.name
        · exact .inr ⟨rfl, h1, rfl, rfl, rfl⟩
        · exact .inl rfl
      · exact .inl rfl

theorem addRel_outcome (t : Typ) (r : Rel) :
    t.addRel r = (t, .err) ∨
    (t.addRel r = ({ t with rels := t.rels.set r.fromName r }, .ok ()) ∧ r.fromName ≠ [] ∧
      r.toType ≠ [] ∧ t.relNameUsed r.fromName = false ∧ t.attrNameUsed r.fromName = false) := by
  unfold addRel
  by_cases h1 : r.fromName = []
  · exact .inl (if_pos h1)
  · by_cases h2 : r.toType = []
    · exact .inl (by rw [if_neg h1, if_pos h2])
    · rw [if_neg h1, if_neg h2]
      cases h3 : t.relNameUsed r.fromName
      · cases h4 : t.attrNameUsed r.fromName
        · exact .inr ⟨rfl, h1, h2, rfl, rfl⟩
        · exact .inl rfl
      · exact .inl rfl

theorem addAttr_name (t : Typ) (a : Attr) : (t.addAttr a).1.name = t.name := by
  rcases addAttr_outcome t a with e | ⟨e, _⟩ <;> rw [e]
theorem addRel_name (t : Typ) (r : Rel) : (t.addRel r).1.name = t.name := by
  rcases addRel_outcome t r with e | ⟨e, _⟩ <;> rw [e]
theorem removeAttr_name (t : Typ) (n : GoString) : (t.removeAttr n).name = t.name := by
  unfold removeAttr; split <;> rfl
theorem removeRel_name (t : Typ) (n : GoString) : (t.removeRel n).name = t.name := by
  unfold removeRel; split <;> rfl

theorem addAttr_err (t : Typ) (a : Attr) (h : (t.addAttr a).2 ≠ .ok ()) : (t.addAttr a).1 = t := by
  rcases addAttr_outcome t a with e | ⟨e, _⟩ <;> rw [e] at h ⊢
  exact absurd rfl h
theorem addRel_err (t : Typ) (r : Rel) (h : (t.addRel r).2 ≠ .ok ()) : (t.addRel r).1 = t := by
  rcases addRel_outcome t r with e | ⟨e, _⟩ <;> rw [e] at h ⊢
  exact absurd rfl h

theorem addAttr_no_panic (t : Typ) (a : Attr) : (t.addAttr a).2 ≠ .panic := by
  rcases addAttr_outcome t a with e | ⟨e, _⟩ <;> rw [e] <;> nofun
theorem addRel_no_panic (t : Typ) (r : Rel) : (t.addRel r).2 ≠ .panic := by
  rcases addRel_outcome t r with e | ⟨e, _⟩ <;> rw [e] <;> nofun

theorem addAttr_wf {t : Typ} (h : TypWF t) (a : Attr) : TypWF (t.addAttr a).1 := by
  rcases addAttr_outcome t a with e | ⟨e, h1, h2, _, h4⟩ <;> rw [e]
  · exact h
  · have hty : 1 ≤ a.ty ∧ a.ty ≤ 14 := by simpa [attrTypeStringNonEmpty] using h2
    exact {
      attrs := fun p hp => (mem_set hp).elim (h.attrs p) (fun e => e ▸ ⟨rfl, h1, hty⟩)
      rels := h.rels
      ndA := nodup_keys_set _ _ h.ndA
      ndR := h.ndR
      disj := fun k hk hm => (mem_keys_set.1 hk).elim
        (fun e => Bool.false_ne_true (h4 ▸ (relNameUsed_iff h _).2 (e ▸ hm))) (fun hk' => h.disj k hk' hm) }

theorem addRel_wf {t : Typ} (h : TypWF t) (r : Rel) : TypWF (t.addRel r).1 := by
  rcases addRel_outcome t r with e | ⟨e, h1, h2, _, h4⟩ <;> rw [e]
  · exact h
  · exact {
      attrs := h.attrs
      rels := fun p hp => (mem_set hp).elim (h.rels p) (fun e => e ▸ ⟨rfl, h1, h2⟩)
      ndA := h.ndA
      ndR := nodup_keys_set _ _ h.ndR
      disj := fun k hk hk' => (mem_keys_set.1 hk').elim
        (fun e => Bool.false_ne_true (h4 ▸ (attrNameUsed_iff h _).2 (e ▸ hk))) (h.disj k hk) }

theorem removeAttr_wf {t : Typ} (h : TypWF t) (n : GoString) : TypWF (t.removeAttr n) := by
  unfold removeAttr; split
  · exact {
      attrs := fun p hp => h.attrs p (mem_del hp)
      rels := h.rels
      ndA := (keys_del_sublist _ _).nodup h.ndA
      ndR := h.ndR
      disj := fun k hk => h.disj k ((keys_del_sublist _ _).subset hk) }
  · exact h

theorem removeRel_wf {t : Typ} (h : TypWF t) (n : GoString) : TypWF (t.removeRel n) := by
  unfold removeRel; split
  · exact {
      attrs := h.attrs
      rels := fun p hp => h.rels p (mem_del hp)
      ndA := h.ndA
      ndR := (keys_del_sublist _ _).nodup h.ndR
      disj := fun k hk hk' => h.disj k hk ((keys_del_sublist _ _).subset hk') }
  · exact h

theorem removeRel_addRel {t : Typ} (h : TypWF t) (r : Rel) (hok : (t.addRel r).2 = .ok ()) :
    (t.addRel r).1.removeRel r.fromName = t := by
  rcases addRel_outcome t r with e | ⟨e, _, _, h3, _⟩ <;> rw [e] at hok ⊢
  · cases hok
  · have hnR : r.fromName ∉ t.rels.keys := fun hm => Bool.false_ne_true (h3 ▸ (relNameUsed_iff h _).2 hm)
    have used : ({ t with rels := t.rels.set r.fromName r } : Typ).relNameUsed r.fromName = true := by
      unfold relNameUsed; simp [set_of_not_mem _ _ _ hnR]
    rw [removeRel, if_pos used]
    simp only [del_set_of_not_mem _ _ _ hnR]

theorem removeAttr_absent {t : Typ} (h : TypWF t) (n : GoString) (hn : n ∉ t.attrs.keys) :
    t.removeAttr n = t :=
  if_neg fun hu => hn ((attrNameUsed_iff h n).1 hu)
theorem removeRel_absent {t : Typ} (h : TypWF t) (n : GoString) (hn : n ∉ t.rels.keys) :
    t.removeRel n = t :=
  if_neg fun hu => hn ((relNameUsed_iff h n).1 hu)

theorem addRel_ok {t : Typ} (h : TypWF t) (r : Rel) (h1 : r.fromName ≠ []) (h2 : r.toType ≠ [])
    (h3 : r.fromName ∉ t.rels.keys) (h4 : r.fromName ∉ t.attrs.keys) :
    t.addRel r = ({ t with rels := t.rels.set r.fromName r }, .ok ()) := by
  rw [addRel, if_neg h1, if_neg h2, if_neg (mt (relNameUsed_iff h _).1 h3),
    if_neg (mt (attrNameUsed_iff h _).1 h4)]

end Typ

namespace Schema

theorem eraseFirst_eq_eraseP {α} (p : α → Bool) (l : List α) : eraseFirst p l = l.eraseP p := by
  induction l with
  | nil => rfl
  | cons a l ih => rw [eraseFirst, List.eraseP_cons, ih]; cases p a <;> rfl

theorem updFirst_eq_findIdx? (n : GoString) (f : Typ → Typ × Res Unit) (l : List Typ) :
    updFirst n f l = match l.findIdx? (fun t => decide (t.name = n)) with
      | some i => some (l.set i (f (l.getD i Typ.empty)).1, (f (l.getD i Typ.empty)).2)
      | none => none := by
  induction l with
  | nil => rfl
  | cons a l ih =>
    rw [updFirst, List.findIdx?_cons, ih]
    by_cases h : a.name = n
    · simp [h]
    · cases l.findIdx? (fun t => decide (t.name = n)) <;> simp [h]

theorem updFirst_none {n : GoString} {f : Typ → Typ × Res Unit} {ts : List Typ}
    (h : updFirst n f ts = none) : n ∉ ts.map (·.name) := by
  rw [updFirst_eq_findIdx?] at h
  cases hi : ts.findIdx? (fun t => decide (t.name = n)) with
  | some i => rw [hi] at h; cases h
  | none =>
    intro hm
    obtain ⟨t, ht, e⟩ := List.mem_map.1 hm
    exact Bool.false_ne_true ((List.findIdx?_eq_none_iff.1 hi t ht).symm.trans (decide_eq_true e))

theorem getD_findIdx? {l : List Typ} {n : GoString} {i : Nat}
    (h : l.findIdx? (fun t => decide (t.name = n)) = some i) :
    l.getD i Typ.empty = getType ⟨l⟩ n ∧ (l.map (·.name))[i]? = some n := by
  obtain ⟨hi, hp, _⟩ := List.findIdx?_eq_some_iff_getElem.1 h
  unfold getType
  rw [List.find?_eq_bind_findIdx?_getElem?, h, Option.bind_some, List.getD_eq_getElem?_getD,
    List.getElem?_map, List.getElem?_eq_getElem hi, Option.map_some, of_decide_eq_true hp]
  exact ⟨rfl, rfl⟩

theorem mapNamed_names (n : GoString) (f : Typ → Typ) (hf : ∀ t, (f t).name = t.name) (ts : List Typ) :
    (mapNamed n f ts).map (·.name) = ts.map (·.name) := by
  unfold mapNamed
  rw [List.map_map]
  apply List.map_congr_left
  intro t _; simp only [Function.comp]; split
  · exact hf t
  · rfl

theorem mem_mapNamed {n : GoString} {f : Typ → Typ} {ts : List Typ} {t' : Typ}
    (h : t' ∈ mapNamed n f ts) : t' ∈ ts ∨ ∃ t ∈ ts, t' = f t := by
  obtain ⟨t, ht, e⟩ := List.mem_map.1 h
  split at e
  · exact .inr ⟨t, ht, e.symm⟩
  · exact .inl (e ▸ ht)

theorem mapNamed_id_of_fix (n : GoString) (f : Typ → Typ) (ts : List Typ)
    (h : ∀ t ∈ ts, t.name = n → f t = t) : mapNamed n f ts = ts := by
  unfold mapNamed
  conv => rhs; rw [← List.map_id ts]
  apply List.map_congr_left
  intro t ht; split
  · exact h t ht ‹_›
  · rfl

theorem mapNamed_absent (n : GoString) (f : Typ → Typ) (ts : List Typ)
    (h : n ∉ ts.map (·.name)) : mapNamed n f ts = ts :=
  mapNamed_id_of_fix n f ts (fun t ht hn => absurd (List.mem_map.2 ⟨t, ht, hn⟩) h)

theorem mapNamed_id_of_getType {s : Schema} (hnd : (s.types.map (·.name)).Nodup) (n : GoString)
    (f : Typ → Typ) (h : f (s.getType n) = s.getType n) : mapNamed n f s.types = s.types :=
  mapNamed_id_of_fix n f _ fun t ht hn => by rw [← hn, getType_of_mem hnd ht] at h; exact h

theorem mapNamed_comp (n : GoString) (f g : Typ → Typ) (hf : ∀ t, (f t).name = t.name) (ts : List Typ) :
    mapNamed n g (mapNamed n f ts) = mapNamed n (fun t => g (f t)) ts := by
  unfold mapNamed
  rw [List.map_map]
  apply List.map_congr_left
  intro t _; simp only [Function.comp]
  split
  · rw [if_pos ((hf t).trans ‹_›)]
  · rfl

theorem getType_mapNamed {s : Schema} (hnd : (s.types.map (·.name)).Nodup) (n : GoString) (f : Typ → Typ)
    (hf : ∀ t, (f t).name = t.name) (m : GoString) (hm : s.hasType m = true) :
    ({ types := mapNamed n f s.types } : Schema).getType m =
      if m = n then f (s.getType m) else s.getType m := by
  obtain ⟨ht, e⟩ := getType_mem hm
  have hname : (if (s.getType m).name = n then f (s.getType m) else s.getType m).name = m := by
    split
    · exact (hf _).trans e
    · exact e
  have := getType_of_mem (σ := ⟨mapNamed n f s.types⟩) ((mapNamed_names n f hf _).symm ▸ hnd)
    (List.mem_map.2 ⟨_, ht, rfl⟩)
  rwa [hname, e] at this

theorem at_name (l : List Typ) (i : Nat) (n : GoString) (hnd : (l.map (·.name)).Nodup)
    (hat : (l.map (·.name))[i]? = some n) :
    l.getD i Typ.empty = getType ⟨l⟩ n ∧ ∀ f : Typ → Typ, l.set i (f (l.getD i Typ.empty)) = mapNamed n f l := by
  have hi : i < (l.map (·.name)).length := (List.getElem?_eq_some_iff.1 hat).1
  have hat' := hat
  rw [List.getElem?_map] at hat'
  obtain ⟨t, ht, rfl⟩ := Option.map_eq_some_iff.1 hat'
  rw [List.getD_eq_getElem?_getD, ht, Option.getD_some]
  refine ⟨(getType_of_mem (σ := ⟨l⟩) hnd (List.mem_of_getElem? ht)).symm, fun f => List.ext_getElem? fun j => ?_⟩
  rw [List.getElem?_set, mapNamed, List.getElem?_map]
  split
  · subst ‹i = j›
    rw [if_pos (by rwa [List.length_map] at hi), ht, Option.map_some, if_pos rfl]
  · cases hj : l[j]? with
    | none => rfl
    | some u =>
      -- another index holds another name
      rw [Option.map_some, if_neg fun e => ‹¬ i = j› ((List.getElem?_inj hi hnd).1 (by
        rw [hat, List.getElem?_map, hj, Option.map_some, e]))]

theorem updFirst_some {n : GoString} {f : Typ → Typ × Res Unit} {s : Schema} {ts' : List Typ}
    {r : Res Unit} (h : updFirst n f s.types = some (ts', r)) :
    r = (f (s.getType n)).2 ∧
    ((s.types.map (·.name)).Nodup → ts' = mapNamed n (fun t => (f t).1) s.types) := by
  rw [updFirst_eq_findIdx?] at h
  cases hi : s.types.findIdx? (fun t => decide (t.name = n)) with
  | none => rw [hi] at h; cases h
  | some i =>
    rw [hi] at h
    cases h
    exact ⟨by rw [(getD_findIdx? hi).1], fun hnd => (at_name _ i n hnd (getD_findIdx? hi).2).2 fun t => (f t).1⟩

/-- `Schema.AddAttr` / `Schema.AddRel`: no type of that name and an error, or the method `f` of
`Type` applied to the type found by name - with unique names, to every type of that name. -/
theorem updFirst_outcome (n : GoString) (f : Typ → Typ × Res Unit) (s : Schema) {res : Schema × Res Unit}
    (h : res = match updFirst n f s.types with
      | none => (s, .err)
      | some (ts, r) => ({ types := ts }, r)) :
    res = (s, .err) ∨ (res.2 = (f (s.getType n)).2 ∧
      ((s.types.map (·.name)).Nodup → res.1 = { types := mapNamed n (fun t => (f t).1) s.types })) := by
  subst h
  split
  · exact .inl rfl
  · rename_i hu
    exact .inr ⟨(updFirst_some hu).1, fun hnd => congrArg Schema.mk ((updFirst_some hu).2 hnd)⟩

theorem addType_outcome (s : Schema) (t : Typ) :
    s.addType t = (s, .err) ∨
    (s.addType t = ({ types := s.types ++ [t] }, .ok ()) ∧ t.name ≠ [] ∧ ¬ s.hasType t.name = true) := by
  unfold addType
  split
  · exact .inl rfl
  · split
    · exact .inl rfl
    · exact .inr ⟨rfl, ‹_›, ‹_›⟩

/-! ### the pieces of `AddTwoWayRel` -/

theorem inv_mapNamed {s : Schema} (h : Inv s) (n : GoString) (f : Typ → Typ)
    (hf : ∀ t, (f t).name = t.name) (hw : ∀ t, TypWF t → TypWF (f t)) :
    Inv { types := mapNamed n f s.types } := by
  refine ⟨(mapNamed_names n f hf _).symm ▸ h.1, fun t' ht' => ?_⟩
  rcases mem_mapNamed ht' with e | ⟨t, ht, rfl⟩
  · exact h.2 t' e
  · exact ⟨hf t ▸ (h.2 t ht).1, hw t (h.2 t ht).2⟩

theorem inv_twAdd {s : Schema} (h : Inv s) (x : Rel) : Inv (twAdd s x) :=
  inv_mapNamed h _ _ (fun t => Typ.addRel_name t x) (fun _ ht => Typ.addRel_wf ht x)

theorem inv_twUndo {s : Schema} (h : Inv s) (x : Rel) : Inv (twUndo s x) :=
  inv_mapNamed h _ _ (fun t => Typ.removeRel_name t _) (fun _ ht => Typ.removeRel_wf ht _)

theorem names_twAdd (s : Schema) (x : Rel) : (twAdd s x).types.map (·.name) = s.types.map (·.name) :=
  mapNamed_names x.fromType (fun t => (t.addRel x).1) (fun t => Typ.addRel_name t x) s.types

theorem hasType_twAdd (s : Schema) (x : Rel) (n : GoString) : (twAdd s x).hasType n = s.hasType n := by
  rw [Bool.eq_iff_iff, hasType_iff, hasType_iff, names_twAdd]

theorem twAdd_absent (s : Schema) (x : Rel) (h : ¬ s.hasType x.fromType = true) : twAdd s x = s := by
  unfold twAdd; rw [mapNamed_absent _ _ _ (fun hm => h ((hasType_iff s _).2 hm))]

theorem twUndo_absent (s : Schema) (x : Rel) (h : ¬ s.hasType x.fromType = true) : twUndo s x = s := by
  unfold twUndo; rw [mapNamed_absent _ _ _ (fun hm => h ((hasType_iff s _).2 hm))]

theorem twAdd_err (s : Schema) (x : Rel) (hnd : (s.types.map (·.name)).Nodup) (h : twRes s x ≠ .ok ()) :
    twAdd s x = s := by
  by_cases hh : s.hasType x.fromType = true
  · rw [twRes, if_pos hh] at h
    rw [twAdd, mapNamed_id_of_getType hnd _ _ (Typ.addRel_err _ x h)]
  · exact twAdd_absent s x hh

theorem twUndo_twAdd {s : Schema} (h : Inv s) (x : Rel) (hok : twRes s x = .ok ()) :
    twUndo (twAdd s x) x = s := by
  by_cases hh : s.hasType x.fromType = true
  · rw [twRes, if_pos hh] at hok
    rw [twUndo, twAdd, mapNamed_comp _ _ _ (fun t => Typ.addRel_name t x),
      mapNamed_id_of_getType h.1 _ _ (Typ.removeRel_addRel (h.2 _ (getType_mem hh).1).2 x hok)]
  · rw [twAdd_absent s x hh, twUndo_absent s x hh]

theorem twRes_no_panic (s : Schema) (x : Rel) : twRes s x ≠ .panic := by
  unfold twRes; split
  · exact Typ.addRel_no_panic _ _
  · nofun

/-- The four ways through `AddTwoWayRel`: the first half fails; the second fails and the first
is undone; both succeed and both types exist; a type is missing and both halves are undone. -/
theorem addTwoWayRel_outcome (s : Schema) (r : Rel) :
    let x := r.normalize; let y := x.invert; let s1 := twAdd s x; let s2 := twAdd s1 y
    (twRes s x ≠ .ok () ∧ s.addTwoWayRel r = (s, twRes s x)) ∨
    (twRes s x = .ok () ∧ twRes s1 y ≠ .ok () ∧ s.addTwoWayRel r = (twUndo s1 x, twRes s1 y)) ∨
    (twRes s x = .ok () ∧ twRes s1 y = .ok () ∧
      (s.hasType x.fromType && s.hasType y.fromType) = true ∧ s.addTwoWayRel r = (s2, .ok ())) ∨
    (twRes s x = .ok () ∧ twRes s1 y = .ok () ∧
      ¬ (s.hasType x.fromType && s.hasType y.fromType) = true ∧
      s.addTwoWayRel r = (twUndo (twUndo s2 x) y, .err)) := by
  intro x y s1 s2
  unfold addTwoWayRel
  by_cases c1 : twRes s x = .ok ()
  · by_cases c2 : twRes s1 y = .ok ()
    · by_cases c3 : (s.hasType x.fromType && s.hasType y.fromType) = true
      · exact .inr (.inr (.inl ⟨c1, c2, c3,
          (if_neg (not_not_intro c1)).trans ((if_neg (not_not_intro c2)).trans (if_pos c3))⟩))
      · exact .inr (.inr (.inr ⟨c1, c2, c3,
          (if_neg (not_not_intro c1)).trans ((if_neg (not_not_intro c2)).trans (if_neg c3))⟩))
    · exact .inr (.inl ⟨c1, c2, (if_neg (not_not_intro c1)).trans (if_pos c2)⟩)
  · exact .inl ⟨c1, if_pos c1⟩

theorem twAdd_ok {s : Schema} (h : Inv s) (x : Rel) (hft : s.hasType x.fromType = true)
    (hfn : x.fromName ≠ []) (htt : x.toType ≠ [])
    (hfree : x.fromName ∉ (s.getType x.fromType).attrs.keys ∧ x.fromName ∉ (s.getType x.fromType).rels.keys) :
    twRes s x = .ok () ∧ ∀ m, s.hasType m = true → (twAdd s x).getType m =
      if m = x.fromType then { s.getType m with rels := (s.getType m).rels.set x.fromName x }
      else s.getType m := by
  have a := Typ.addRel_ok (h.2 _ (getType_mem hft).1).2 x hfn htt hfree.2 hfree.1
  refine ⟨by rw [twRes, if_pos hft, a], fun m hm => ?_⟩
  rw [twAdd, getType_mapNamed h.1 _ _ (fun t => Typ.addRel_name t x) m hm]
  split
  · subst ‹m = _›; rw [a]
  · rfl

theorem twoway_core (s : Schema) (h : Inv s) (r x : Rel) (hx : r.normalize = x)
    (hft : s.hasType x.fromType = true) (htt : s.hasType x.toType = true)
    (hfn : x.fromName ≠ []) (htn : x.toName ≠ [])
    (hfreeF : x.fromName ∉ (s.getType x.fromType).attrs.keys ∧ x.fromName ∉ (s.getType x.fromType).rels.keys)
    (hfreeT : x.toName ∉ (s.getType x.toType).attrs.keys ∧ x.toName ∉ (s.getType x.toType).rels.keys)
    (hns : ¬ (x.fromType = x.toType ∧ x.fromName = x.toName)) :
    (s.addTwoWayRel r).2 = .ok () ∧
    ((s.addTwoWayRel r).1.getType x.fromType).rels.get? x.fromName = some x ∧
    ((s.addTwoWayRel r).1.getType x.toType).rels.get? x.toName = some x.invert := by
  have ne1 : x.fromType ≠ [] := (getType_mem hft).2 ▸ (h.2 _ (getType_mem hft).1).1
  have ne2 : x.toType ≠ [] := (getType_mem htt).2 ▸ (h.2 _ (getType_mem htt).1).1
  obtain ⟨r1, g1⟩ := twAdd_ok h x hft hfn ne2 hfreeF
  have hft1 : (twAdd s x).hasType x.fromType = true := (hasType_twAdd ..).trans hft
  have htt1 : (twAdd s x).hasType x.toType = true := (hasType_twAdd ..).trans htt
  obtain ⟨r2, g2⟩ := twAdd_ok (inv_twAdd h x) x.invert htt1 htn ne1 (by
    show x.toName ∉ ((twAdd s x).getType x.toType).attrs.keys ∧
      x.toName ∉ ((twAdd s x).getType x.toType).rels.keys
    rw [g1 _ htt]
    split
    · refine ⟨hfreeT.1, fun hm => (mem_keys_set.1 hm).elim (fun e => hns ⟨‹_ = _›.symm, e.symm⟩) hfreeT.2⟩
    · exact hfreeT)
  have e : s.addTwoWayRel r = (twAdd (twAdd s x) x.invert, .ok ()) := by
    simp only [Schema.addTwoWayRel, hx]
    rw [if_neg (not_not_intro r1), if_neg (not_not_intro r2), if_pos (by rw [hft]; exact htt)]
  rw [e]
  refine ⟨rfl, ?_, ?_⟩
  · rw [g2 _ hft1, g1 _ hft, if_pos rfl]
    split
    · exact (get?_set_ne _ _ _ _ (fun en => hns ⟨‹_›, en⟩)).trans (get?_set_self _ _ _)
    · exact get?_set_self _ _ _
  · rw [g2 _ htt1, if_pos (show x.toType = x.invert.fromType from rfl)]
    exact get?_set_self _ _ _

end Schema
end Jsonapi
