/-
NewSimpleURL does not depend on the iteration order of the values map
(up to the order of the `fields` / `page` association lists it builds), and depends on the
order of the names inside a `fields[t]` or include value only up to the order of the parsed lists.
-/
import Jsonapi.Proofs.UrlPermLemmas
import Jsonapi.Proofs.UrlLemmas
namespace Jsonapi.UrlL.Perm
open Jsonapi

theorem eq_of_classify {n₁ n₂ : GoString} {C : NameClass} (hC : C ≠ .other) (h₁ : classify n₁ = C)
    (h₂ : classify n₂ = C) : n₁ = n₂ := by
  have e₁ := classify_names n₁
  have e₂ := classify_names n₂
  rw [h₁] at e₁; rw [h₂] at e₂
  cases C with
  | fields t => exact e₁.1.trans e₂.1.symm
  | page k => exact e₁.1.trans e₂.1.symm
  | other => exact absurd rfl hC
  | _ => exact e₁.trans e₂.symm

/-! ### the effect of a step, component by component -/

def filterOk (fd : FilterDec) (vs : List GoString) : Bool :=
  if firstVal vs = [] then false
  else if (firstVal vs).head? ≠ some 123 then fd.label.isSome
  else fd.filter.isSome

def stepOk (fd : FilterDec) (name : GoString) (vs : List GoString) : Bool :=
  match classify name with
  | .filter => filterOk fd vs
  | .other => false
  | _ => true

/-- `g` applied to the component that names of class `C` act on -/
def onCls {α : Type} (C : NameClass) (name : GoString) (g : α → α) (x : α) : α :=
  if classify name = C then g x else x

def updKey {β : Type} (k : Option GoString) (v : Option β) (m : GoMap β) : GoMap β :=
  match k, v with
  | some k, some v => m.set k v
  | _, _ => m

def fieldsKey (name : GoString) : Option GoString :=
  match classify name with
  | .fields k => some k
  | _ => none

def pageKey (name : GoString) : Option GoString :=
  match classify name with
  | .page k => some k
  | _ => none

def stepApply (fd : FilterDec) (su : SimpleURL) (name : GoString) (vs : List GoString) : SimpleURL :=
  { fragments := su.fragments
    fields := updKey (fieldsKey name) (some (parseCommaList (firstVal vs))) su.fields
    filterLabel := onCls .filter name
      (fun x => if (firstVal vs).head? ≠ some 123 then fd.label.getD x else x) su.filterLabel
    filter := onCls .filter name
      (fun x => if (firstVal vs).head? ≠ some 123 then x else fd.filter.or x) su.filter
    sortingRules := onCls .sort name (· ++ vs.flatMap parseCommaList) su.sortingRules
    page := updKey (pageKey name)
      (if firstVal vs = [] then none else some (pageVal (firstVal vs))) su.page
    incl := onCls .incl name (· ++ vs.flatMap parseCommaList) su.incl }

/-- `simpleStep` in closed form: whether it succeeds does not depend on the accumulator -/
theorem simpleStep_closed (fd : FilterDec) (su : SimpleURL) (name : GoString) (vs : List GoString) :
    simpleStep fd su name vs =
      if stepOk fd name vs then .ok (stepApply fd su name vs) else .err := by
  rw [simpleStep_eq]
  unfold stepOk stepApply fieldsKey pageKey onCls
  cases classify name with
  | page k => by_cases hv : firstVal vs = [] <;> simp only [hv, if_true, if_false] <;> rfl
  | filter =>
    unfold filterOk filterStep
    by_cases hv : firstVal vs = []
    · simp only [hv, if_true]; rfl
    · by_cases hh : (firstVal vs).head? = some 123
      · simp only [hv, hh, ne_eq, not_true_eq_false, if_false]
        cases fd.filter <;> rfl
      · simp only [hv, hh, ne_eq, not_false_eq_true, if_true, if_false]
        cases fd.label <;> rfl
  | _ => rfl

theorem get?_updKey {β : Type} (k : Option GoString) (v : Option β) (m : GoMap β) (t : GoString) :
    (updKey k v m).get? t = if k = some t then v.or (m.get? t) else m.get? t := by
  cases k with
  | none => simp [updKey]
  | some k =>
    cases v with
    | none => simp [updKey]
    | some v =>
      simp only [updKey, GoMap.get?_set, Option.some.injEq, Option.some_or, eq_comm]

theorem updKey_comm {β : Type} {k₁ k₂ : Option GoString} (h : ∀ k, k₁ = some k → k₂ ≠ some k)
    (v₁ v₂ : Option β) (m : GoMap β) (t : GoString) :
    (updKey k₂ v₂ (updKey k₁ v₁ m)).get? t = (updKey k₁ v₁ (updKey k₂ v₂ m)).get? t := by
  simp only [get?_updKey]
  by_cases h₁ : k₁ = some t
  · simp [h₁, h t h₁]
  · simp [h₁]

theorem onCls_comm {α : Type} {C : NameClass} (hC : C ≠ .other) {n₁ n₂ : GoString} (h : n₁ ≠ n₂)
    (g₁ g₂ : α → α) (x : α) :
    onCls C n₂ g₂ (onCls C n₁ g₁ x) = onCls C n₁ g₁ (onCls C n₂ g₂ x) := by
  unfold onCls
  by_cases h₁ : classify n₁ = C
  · have h₂ : classify n₂ ≠ C := fun h₂ => h (eq_of_classify hC h₁ h₂)
    simp only [h₁, h₂, if_true, if_false]
  · simp only [h₁, if_false]

theorem fieldsKey_ne {n₁ n₂ : GoString} (h : n₁ ≠ n₂) (k : GoString)
    (h₁ : fieldsKey n₁ = some k) : fieldsKey n₂ ≠ some k := by
  unfold fieldsKey at h₁ ⊢
  intro h₂
  cases c₁ : classify n₁ <;> rw [c₁] at h₁ <;> cases h₁
  cases c₂ : classify n₂ <;> rw [c₂] at h₂ <;> cases h₂
  exact h (eq_of_classify (by nofun) c₁ c₂)

theorem pageKey_ne {n₁ n₂ : GoString} (h : n₁ ≠ n₂) (k : GoString)
    (h₁ : pageKey n₁ = some k) : pageKey n₂ ≠ some k := by
  unfold pageKey at h₁ ⊢
  intro h₂
  cases c₁ : classify n₁ <;> rw [c₁] at h₁ <;> cases h₁
  cases c₂ : classify n₂ <;> rw [c₂] at h₂ <;> cases h₂
  exact h (eq_of_classify (by nofun) c₁ c₂)

/-! ### equivalence of simple URLs: equal up to the order of the `fields` / `page` lists -/

structure SEq (a b : SimpleURL) : Prop where
  fragments : a.fragments = b.fragments
  filterLabel : a.filterLabel = b.filterLabel
  filter : a.filter = b.filter
  sortingRules : a.sortingRules = b.sortingRules
  incl : a.incl = b.incl
  fields : ∀ t, a.fields.get? t = b.fields.get? t
  page : ∀ k, a.page.get? k = b.page.get? k

theorem SEq.refl (a : SimpleURL) : SEq a a := ⟨rfl, rfl, rfl, rfl, rfl, fun _ => rfl, fun _ => rfl⟩

theorem SEq.trans {a b c : SimpleURL} (h₁ : SEq a b) (h₂ : SEq b c) : SEq a c :=
  ⟨h₁.fragments.trans h₂.fragments, h₁.filterLabel.trans h₂.filterLabel, h₁.filter.trans h₂.filter,
   h₁.sortingRules.trans h₂.sortingRules, h₁.incl.trans h₂.incl,
   fun t => (h₁.fields t).trans (h₂.fields t), fun k => (h₁.page k).trans (h₂.page k)⟩

theorem stepApply_congr (fd : FilterDec) {a b : SimpleURL} (n : GoString) (vs : List GoString)
    (h : SEq a b) : SEq (stepApply fd a n vs) (stepApply fd b n vs) where
  fragments := h.fragments
  filterLabel := by simp only [stepApply, h.filterLabel]
  filter := by simp only [stepApply, h.filter]
  sortingRules := by simp only [stepApply, h.sortingRules]
  incl := by simp only [stepApply, h.incl]
  fields t := by simp only [stepApply, get?_updKey, h.fields t]
  page t := by simp only [stepApply, get?_updKey, h.page t]

theorem stepApply_comm (fd : FilterDec) (su : SimpleURL) {n₁ n₂ : GoString} (h : n₁ ≠ n₂)
    (v₁ v₂ : List GoString) :
    SEq (stepApply fd (stepApply fd su n₁ v₁) n₂ v₂) (stepApply fd (stepApply fd su n₂ v₂) n₁ v₁) where
  fragments := rfl
  filterLabel := by simp only [stepApply]; exact onCls_comm (by nofun) h _ _ _
  filter := by simp only [stepApply]; exact onCls_comm (by nofun) h _ _ _
  sortingRules := by simp only [stepApply]; exact onCls_comm (by nofun) h _ _ _
  incl := by simp only [stepApply]; exact onCls_comm (by nofun) h _ _ _
  fields := by simp only [stepApply]; exact updKey_comm (fieldsKey_ne h) _ _ _
  page := by simp only [stepApply]; exact updKey_comm (pageKey_ne h) _ _ _

/-! ### NewSimpleURL -/

/-- the initial accumulator of `NewSimpleURL` -/
def su0 (path : GoString) : SimpleURL :=
  { fragments := parseFragments path, fields := [], filterLabel := [], filter := none,
    sortingRules := [], page := [], incl := [] }

theorem newSimpleURL_closed (path : GoString) (values : GoMap (List GoString)) (fd : FilterDec) :
    newSimpleURL path values fd =
      if values.all (fun p => stepOk fd p.1 p.2)
      then .ok (values.foldl (fun su p => stepApply fd su p.1 p.2) (su0 path)) else .err := by
  rw [newSimpleURL_eq]
  exact rfold_closed _ (fun p => stepOk fd p.1 p.2) (fun su p => stepApply fd su p.1 p.2)
    (fun s x => simpleStep_closed fd s x.1 x.2) values (su0 path)

theorem names_pairwise_ne {β} (m : GoMap β) (h : m.keys.Nodup) :
    m.Pairwise (fun x y => x.1 ≠ y.1) :=
  List.pairwise_map.1 (List.nodup_iff_pairwise_ne.1 h)

theorem newSimpleURL_isOk_perm (path : GoString) {values₁ values₂ : GoMap (List GoString)}
    (fd : FilterDec) (hp : values₁.Perm values₂) :
    (newSimpleURL path values₁ fd).isOk = (newSimpleURL path values₂ fd).isOk := by
  rw [newSimpleURL_closed, newSimpleURL_closed, hp.all_eq]
  split <;> rfl

/-- result of NewSimpleURL: order independent up to `SEq`; maps have unique keys -/
theorem newSimpleURL_perm (path : GoString) {values₁ values₂ : GoMap (List GoString)}
    (fd : FilterDec) (hp : values₁.Perm values₂) (hnd : values₁.keys.Nodup) :
    ResRel SEq (newSimpleURL path values₁ fd) (newSimpleURL path values₂ fd) := by
  rw [newSimpleURL_closed, newSimpleURL_closed, hp.all_eq]
  split
  · exact foldl_perm_rel (fun su (p : GoString × List GoString) => stepApply fd su p.1 p.2) SEq
      (fun x y => x.1 ≠ y.1) SEq.refl (fun _ _ _ => SEq.trans)
      (fun a b x h => stepApply_congr fd x.1 x.2 h)
      (fun x y h => h.symm)
      (fun a x y h => stepApply_comm fd a h x.2 y.2)
      hp (names_pairwise_ne values₁ hnd) (su0 path)
  · trivial

/-! ### values whose parsed items are permuted

Reordering the names inside a `fields[t]` value or inside the include values. -/

/-- simple URLs equal up to the order of the maps, of the includes and of each field list -/
structure SEqP (a b : SimpleURL) : Prop where
  fragments : a.fragments = b.fragments
  filterLabel : a.filterLabel = b.filterLabel
  filter : a.filter = b.filter
  sortingRules : a.sortingRules = b.sortingRules
  incl : a.incl.Perm b.incl
  fields : ∀ t, PermO (a.fields.get? t) (b.fields.get? t)
  page : ∀ k, a.page.get? k = b.page.get? k

theorem SEq.toP {a b : SimpleURL} (h : SEq a b) : SEqP a b :=
  ⟨h.fragments, h.filterLabel, h.filter, h.sortingRules, h.incl ▸ List.Perm.refl _,
   fun t => ORel.of_eq List.Perm.refl (h.fields t), h.page⟩

theorem SEqP.refl (a : SimpleURL) : SEqP a a := (SEq.refl a).toP

theorem SEqP.trans {a b c : SimpleURL} (h₁ : SEqP a b) (h₂ : SEqP b c) : SEqP a c :=
  ⟨h₁.fragments.trans h₂.fragments, h₁.filterLabel.trans h₂.filterLabel, h₁.filter.trans h₂.filter,
   h₁.sortingRules.trans h₂.sortingRules, h₁.incl.trans h₂.incl,
   fun t => (h₁.fields t).trans (h₂.fields t), fun k => (h₁.page k).trans (h₂.page k)⟩

/-- the name has the form `fields[` + non-empty key + `]` -/
def isFieldsName (n : GoString) : Bool :=
  hasPrefix n sFieldsOpen && n.getLast? = some 93 && n.length > 8

/-- entrywise relation between two values maps: same name; for a `fields[..]` name the parsed
items of the first value are permuted, for `include` the parsed items of all values are
permuted, any other value list is unchanged -/
def E (x y : GoString × List GoString) : Prop :=
  x.1 = y.1 ∧
  (if isFieldsName x.1 then (parseCommaList (firstVal x.2)).Perm (parseCommaList (firstVal y.2))
   else if x.1 = sInclude then (x.2.flatMap parseCommaList).Perm (y.2.flatMap parseCommaList)
   else x.2 = y.2)

theorem classify_of_isFieldsName {n : GoString} (h : isFieldsName n = true) :
    classify n = .fields ((n.drop 7).dropLast) := by
  unfold isFieldsName at h
  unfold classify
  rw [if_pos h]

theorem classify_sInclude : classify sInclude = .incl := by rfl

theorem E_cases {n : GoString} {vs vs' : List GoString} (h : E (n, vs) (n, vs')) :
    (∃ k, classify n = .fields k ∧
      (parseCommaList (firstVal vs)).Perm (parseCommaList (firstVal vs'))) ∨
    (classify n = .incl ∧ (vs.flatMap parseCommaList).Perm (vs'.flatMap parseCommaList)) ∨
    vs = vs' := by
  obtain ⟨_, h⟩ := h
  simp only [] at h
  by_cases hf : isFieldsName n = true
  · rw [if_pos hf] at h
    exact Or.inl ⟨_, classify_of_isFieldsName hf, h⟩
  · rw [if_neg hf] at h
    by_cases hi : n = sInclude
    · rw [if_pos hi] at h
      exact Or.inr (Or.inl ⟨hi ▸ classify_sInclude, h⟩)
    · rw [if_neg hi] at h
      exact Or.inr (Or.inr h)

theorem stepOk_E (fd : FilterDec) {n : GoString} {vs vs' : List GoString} (h : E (n, vs) (n, vs')) :
    stepOk fd n vs = stepOk fd n vs' := by
  rcases E_cases h with ⟨k, hc, _⟩ | ⟨hc, _⟩ | he
  · simp only [stepOk, hc]
  · simp only [stepOk, hc]
  · rw [he]

theorem stepApply_E (fd : FilterDec) (b : SimpleURL) {n : GoString} {vs vs' : List GoString}
    (h : E (n, vs) (n, vs')) : SEqP (stepApply fd b n vs) (stepApply fd b n vs') := by
  rcases E_cases h with ⟨k, hc, hp⟩ | ⟨hc, hp⟩ | he
  · simp only [stepApply, onCls, fieldsKey, pageKey, hc, reduceCtorEq, if_false]
    refine ⟨rfl, rfl, rfl, rfl, List.Perm.refl _, fun t => ?_, fun _ => rfl⟩
    simp only [get?_updKey]
    split
    · exact hp
    · exact PermO.refl _
  · simp only [stepApply, onCls, fieldsKey, pageKey, hc, reduceCtorEq, if_false, if_true]
    exact ⟨rfl, rfl, rfl, rfl, List.Perm.append (List.Perm.refl _) hp, fun _ => PermO.refl _,
      fun _ => rfl⟩
  · rw [he]; exact SEqP.refl _

theorem stepApply_congrP (fd : FilterDec) {a b : SimpleURL} (n : GoString) (vs : List GoString)
    (h : SEqP a b) : SEqP (stepApply fd a n vs) (stepApply fd b n vs) where
  fragments := h.fragments
  filterLabel := by simp only [stepApply, h.filterLabel]
  filter := by simp only [stepApply, h.filter]
  sortingRules := by simp only [stepApply, h.sortingRules]
  incl := by
    simp only [stepApply, onCls]
    split
    · exact List.Perm.append h.incl (List.Perm.refl _)
    · exact h.incl
  fields t := by
    simp only [stepApply, get?_updKey]
    split
    · exact PermO.refl _
    · exact h.fields t
  page t := by simp only [stepApply, get?_updKey, h.page t]

theorem foldl_E (fd : FilterDec) {l l' : GoMap (List GoString)} (h : Forall2 E l l') :
    ∀ a b, SEqP a b →
      l.all (fun p => stepOk fd p.1 p.2) = l'.all (fun p => stepOk fd p.1 p.2) ∧
      SEqP (l.foldl (fun su p => stepApply fd su p.1 p.2) a)
        (l'.foldl (fun su p => stepApply fd su p.1 p.2) b) := by
  induction h with
  | nil => intro a b hab; exact ⟨rfl, hab⟩
  | @cons x y _ _ hxy _ ih =>
    intro a b hab
    obtain ⟨n, vs⟩ := x
    obtain ⟨n', vs'⟩ := y
    have hn : n = n' := hxy.1
    subst hn
    have hstep : SEqP (stepApply fd a n vs) (stepApply fd b n vs') :=
      (stepApply_congrP fd n vs hab).trans (stepApply_E fd b hxy)
    obtain ⟨ih₁, ih₂⟩ := ih _ _ hstep
    refine ⟨?_, ih₂⟩
    simp only [List.all_cons, ih₁, stepOk_E fd hxy]

theorem newSimpleURL_E (path : GoString) {values values' : GoMap (List GoString)} (fd : FilterDec)
    (h : Forall2 E values values') :
    ResRel SEqP (newSimpleURL path values fd) (newSimpleURL path values' fd) := by
  obtain ⟨h₁, h₂⟩ := foldl_E fd h (su0 path) (su0 path) (SEqP.refl _)
  rw [newSimpleURL_closed, newSimpleURL_closed, h₁]
  split
  · exact h₂
  · trivial

theorem newSimpleURL_perm_E (p : GoString) {values₁ values' values₂ : GoMap (List GoString)}
    (fd : FilterDec) (hp : values₁.Perm values') (hE : Forall2 E values' values₂)
    (hnd : values₁.keys.Nodup) :
    ResRel SEqP (newSimpleURL p values₁ fd) (newSimpleURL p values₂ fd) :=
  ResRel.comp (Q := SEq) (Q' := SEqP) (Q'' := SEqP) (fun _ _ _ h₁ h₂ => (SEq.toP h₁).trans h₂) (newSimpleURL_perm p fd hp hnd)
    (newSimpleURL_E p fd hE)

#print axioms newSimpleURL_isOk_perm
#print axioms newSimpleURL_perm

end Jsonapi.UrlL.Perm
