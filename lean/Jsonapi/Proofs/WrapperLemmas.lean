/-
For C20, on StructLemmas: the Wrapper methods (Get, Set, SetID, New, Copy) on a wrapped value of
an accepted struct, and the well-typedness invariant they preserve.
-/
import Jsonapi.Proofs.StructLemmas
namespace Jsonapi

/-! ### Definitions used in the statement of C20 -/

/-- The value exists in Go: the payload has the shape and range of its kind. -/
def GoVal.wellFormed : GoVal → Bool
  | .val k p => k.payOk p
  | .ptr k (some p) => k.payOk p
  | _ => true

/-- What `getField` returns for a stored field value: nil pointers read as untyped nil. -/
def GoVal.read : GoVal → GoVal
  | .ptr _ none => .nil
  | v => v

/-- Go guarantees that a struct has at most one field named `ID` (field names are unique,
blank `_` fields aside). -/
def SingleID (d : StructDecl) : Prop :=
  ∀ f ∈ d, ∀ g ∈ d, f.name = sID → g.name = sID → f = g

/-- Well-typedness of a wrapped struct value: one value per field, each of the field's Go
type (and a real value of that type); the ID field may instead hold the string that SetID
stored (the model keeps a named string type opaque). -/
def Wrapped.WT (w : Wrapped) : Prop :=
  w.vals.length = w.decl.length ∧
  ∀ (i : Nat) (f : SField) (v : GoVal), w.decl[i]? = some f → w.vals[i]? = some v →
    (f.ty.accepts v = true ∧ v.wellFormed = true) ∨
    (f.name = sID ∧ ∃ id, v = .val .string (.s id))

/-- The wrapper of struct `d` holding the field values `vals`. -/
def mkW (d : StructDecl) (vals : List GoVal) : Wrapped :=
  { decl := d, vals := vals, typ := structTypeName d, attrs := structAttrs d, rels := relsOf d }

@[simp] theorem mkW_decl (d : StructDecl) (vals : List GoVal) : (mkW d vals).decl = d := rfl
@[simp] theorem mkW_vals (d : StructDecl) (vals : List GoVal) : (mkW d vals).vals = vals := rfl
@[simp] theorem mkW_attrs (d : StructDecl) (vals : List GoVal) :
    (mkW d vals).attrs = structAttrs d := rfl
@[simp] theorem mkW_rels (d : StructDecl) (vals : List GoVal) : (mkW d vals).rels = relsOf d := rfl

theorem wrap_mkW {d : StructDecl} (h : checkStruct d = true) (vals : List GoVal) :
    wrap d vals = .ok (mkW d vals) := wrap_ok h vals

theorem eq_mkW_of_wrap {d : StructDecl} (h : checkStruct d = true) {vals : List GoVal}
    {w : Wrapped} (hw : wrap d vals = .ok w) : w = mkW d vals := by
  rw [wrap_mkW h, Res.ok.injEq] at hw
  exact hw.symm

theorem GoTy.zero_ok (t : GoTy) : t.accepts t.zero = true ∧ t.zero.wellFormed = true := by
  cases t with
  | attr k n =>
    cases n with
    | true => exact ⟨by simp [GoTy.zero, GoTy.zero.GoVal.zero', GoTy.accepts], rfl⟩
    | false => cases k <;> exact ⟨rfl, rfl⟩
  | strs => exact ⟨rfl, rfl⟩
  | other n sk => exact ⟨by simp [GoTy.zero, GoTy.accepts], rfl⟩

theorem GoTy.accepts_nil (t : GoTy) : t.accepts .nil = false := by
  cases t with
  | attr k n => cases n <;> rfl
  | strs => rfl
  | other n sk => rfl

theorem GoTy.accepts_string {v : GoVal} (h : (GoTy.attr .string false).accepts v = true)
    (hw : v.wellFormed = true) : ∃ id, v = .val .string (.s id) := by
  cases v with
  | val k p =>
    simp only [GoTy.accepts, decide_eq_true_eq] at h
    subst h
    cases p with
    | s id => exact ⟨id, rfl⟩
    | _ => cases hw
  | _ => cases h

theorem GoTy.accepts_strs {v : GoVal} (h : GoTy.strs.accepts v = true) : ∃ l, v = .strs l := by
  cases v with
  | strs l => exact ⟨l, rfl⟩
  | _ => cases h

theorem GoVal.read_cases (v : GoVal) : (v.read = .nil ∧ ∃ k, v = .ptr k none) ∨ v.read = v := by
  cases v with
  | ptr k p => cases p with
    | none => exact Or.inl ⟨rfl, k, rfl⟩
    | some p => exact Or.inr rfl
  | _ => exact Or.inr rfl

theorem ne_of_findIdx? {α : Type} {p : α → Bool} {l : List α} {i j : Nat} {a : α}
    (hj : l.findIdx? p = some j) (hi : l[i]? = some a) (hp : p a = false) : i ≠ j := by
  rintro rfl
  obtain ⟨_, hpi, _⟩ := List.findIdx?_eq_some_iff_getElem.1 hj
  obtain ⟨_, e⟩ := List.getElem?_eq_some_iff.1 hi
  rw [e, hp] at hpi
  cases hpi

/-- The ID field: its index, found by `FieldByName("ID")`. -/
theorem CheckFacts.idIdx {d : StructDecl} (c : CheckFacts d) :
    ∃ i idf, d.findIdx? (fun f => f.name = sID) = some i ∧ d[i]? = some idf ∧
      idf.name = sID ∧ idf.ty.isStringKind = true := by
  obtain ⟨idf, hf, hk, _⟩ := c.idf
  have hp := List.find?_some hf
  exact ⟨_, idf, List.findIdx?_eq_some_of_exists ⟨idf, List.mem_of_find?_eq_some hf, hp⟩,
    List.find?_eq_getElem?_findIdx ▸ hf, of_decide_eq_true hp, hk⟩

theorem CheckFacts.field_not_ID {d : StructDecl} (c : CheckFacts d) (hs : SingleID d)
    {f : SField} (hf : f ∈ d) (hfld : f.isAttr = true ∨ f.isRelTagged = true) :
    f.name ≠ sID := by
  intro hn
  obtain ⟨idf, hfi, _, _, ha, hr⟩ := c.idf
  have hm := List.mem_of_find?_eq_some hfi
  have hi : idf.name = sID := by simpa using List.find?_some hfi
  have := hs f hf idf hm hn hi
  subst this
  rcases hfld with h | h
  · rw [ha] at h; exact absurd h (by simp)
  · rw [hr] at h; exact absurd h (by simp)

/-- getField / setField reach a declared field through its json name. -/
theorem CheckFacts.fieldIdx {d : StructDecl} (c : CheckFacts d) {i : Nat} {f : SField}
    (hi : d[i]? = some f) (hne : f.name ≠ sID)
    (hfld : f.isAttr = true ∨ f.isRelTagged = true) :
    d.findIdx? (fun g => g.json = f.json && g.api ≠ []) = some i := by
  obtain ⟨hlt, hfi⟩ := List.getElem?_eq_some_iff.1 hi
  have hf : f ∈ d := List.mem_of_getElem? hi
  have hapi : f.api ≠ [] := by
    rcases hfld with h | h
    · exact SField.isAttr_api_ne h
    · exact SField.isRelTagged_api_ne h
  have hj := (c.json_ok hf hne hfld).1
  rw [List.findIdx?_eq_some_iff_getElem]
  refine ⟨hlt, by simp [hfi, hapi], ?_⟩
  intro j hji hp
  simp only [Bool.and_eq_true, decide_eq_true_eq, ne_eq] at hp
  have := (List.pairwise_iff_getElem.1 c.uniq) j i (by omega) hlt hji hp.2
    (by rw [hfi]; exact hapi) (by rw [hp.1]; exact hj)
  rw [hfi] at this
  exact this hp.1

/-- An attribute name of an accepted struct is no relationship name (Check's `names` map). -/
theorem CheckFacts.attrs_rels_disj {d : StructDecl} (c : CheckFacts d) (hs : SingleID d) :
    ∀ k ∈ (structAttrs d).keys, k ∉ (relsOf d).keys := by
  intro k hk hk'
  obtain ⟨x, hx, rfl⟩ := List.mem_map.1 hk
  obtain ⟨f, hf, ha, rfl⟩ := structAttrs_mem hx
  obtain ⟨y, hy, hxy⟩ := List.mem_map.1 hk'
  obtain ⟨g, hg, hr, rfl⟩ := relsOf_mem hy
  simp only [] at hxy
  obtain ⟨i, hi⟩ := List.mem_iff_getElem?.1 hf
  obtain ⟨j, hj⟩ := List.mem_iff_getElem?.1 hg
  have h1 := c.fieldIdx hi (c.field_not_ID hs hf (.inl ha)) (.inl ha)
  have h2 := c.fieldIdx hj (c.field_not_ID hs hg (.inr hr)) (.inr hr)
  rw [hxy, h1, Option.some.injEq] at h2
  subst h2
  rw [hi, Option.some.injEq] at hj
  subst hj
  rw [SField.not_attr_and_rel ha] at hr
  cases hr

/-! ### Get and Set on a wrapped accepted struct -/

section ops
variable {d : StructDecl} {vals : List GoVal} {i : Nat} {f : SField}

theorem get_mkW (c : CheckFacts d) (hi : d[i]? = some f) (hne : f.name ≠ sID)
    (hfld : f.isAttr = true ∨ f.isRelTagged = true) {v : GoVal} (hv : vals[i]? = some v) :
    (mkW d vals).get f.json = .ok v.read := by
  have hj := c.json_ok (List.mem_of_getElem? hi) hne hfld
  unfold Wrapped.get
  rw [if_neg hj.2]
  unfold Wrapped.getField Wrapped.fieldIdx
  rw [if_neg hj.1]
  simp only [mkW_decl, mkW_vals, c.fieldIdx hi hne hfld, hv]
  cases v with
  | ptr k p => cases p <;> rfl
  | _ => rfl

theorem set_mkW (c : CheckFacts d) (hi : d[i]? = some f) (hne : f.name ≠ sID)
    (hfld : f.isAttr = true ∨ f.isRelTagged = true) {u : GoVal} (hu : f.ty.accepts u = true) :
    (mkW d vals).set f.json u = .ok (mkW d (vals.set i u)) := by
  have hj := c.json_ok (List.mem_of_getElem? hi) hne hfld
  have hnil : u ≠ .nil := by
    intro e; rw [e, GoTy.accepts_nil] at hu; exact absurd hu (by simp)
  unfold Wrapped.set
  rw [if_neg hj.2]
  unfold Wrapped.setField Wrapped.fieldIdx
  rw [if_neg hj.1]
  simp only [mkW_decl, c.fieldIdx hi hne hfld, hi, if_neg hnil, hu, if_true]
  rfl

theorem set_nil_mkW (c : CheckFacts d) (hi : d[i]? = some f) (hne : f.name ≠ sID)
    (hfld : f.isAttr = true ∨ f.isRelTagged = true) :
    (mkW d vals).set f.json .nil = .ok (mkW d (vals.set i f.ty.zero)) := by
  have hj := c.json_ok (List.mem_of_getElem? hi) hne hfld
  unfold Wrapped.set
  rw [if_neg hj.2]
  unfold Wrapped.setField Wrapped.fieldIdx
  rw [if_neg hj.1]
  simp only [mkW_decl, c.fieldIdx hi hne hfld, hi, if_true]
  rfl

theorem WT_set (h : (mkW d vals).WT) (hi : d[i]? = some f) {u : GoVal}
    (hu : (f.ty.accepts u = true ∧ u.wellFormed = true) ∨
          (f.name = sID ∧ ∃ id, u = .val .string (.s id))) :
    (mkW d (vals.set i u)).WT := by
  refine ⟨by simpa using h.1, ?_⟩
  intro j g v hj hv
  simp only [mkW_decl] at hj
  simp only [mkW_vals, List.getElem?_set] at hv
  split at hv
  · rename_i e
    subst e
    split at hv
    · rw [hi, Option.some.injEq] at hj
      rw [Option.some.injEq] at hv
      subst hj; subst hv; exact hu
    · exact absurd hv (by simp)
  · exact h.2 j g v hj hv

theorem WT_zero (d : StructDecl) : (mkW d (Wrapped.zeroVals d)).WT := by
  refine ⟨by simp [Wrapped.zeroVals], ?_⟩
  intro j g v hj hv
  simp only [mkW_decl] at hj
  simp only [mkW_vals, Wrapped.zeroVals, List.getElem?_map, hj, Option.map_some,
    Option.some.injEq] at hv
  subst hv
  exact Or.inl g.ty.zero_ok

theorem WT_val (h : (mkW d vals).WT) (hi : d[i]? = some f) : ∃ v, vals[i]? = some v := by
  obtain ⟨hlt, _⟩ := List.getElem?_eq_some_iff.1 hi
  have : i < vals.length := by have := h.1; simp only [mkW_decl, mkW_vals] at this; omega
  exact ⟨vals[i], List.getElem?_eq_getElem this⟩

theorem getID_set (hi : d[i]? = some f) (hne : f.name ≠ sID) (u : GoVal) :
    (mkW d (vals.set i u)).getID = (mkW d vals).getID := by
  unfold Wrapped.getID
  simp only [mkW_decl, mkW_vals]
  cases hx : d.findIdx? (fun f => decide (f.name = sID)) with
  | none => rfl
  | some j => simp only [List.getElem?_set_ne (ne_of_findIdx? hx hi (decide_eq_false hne))]

theorem get_set_other (hi : d[i]? = some f) (hne : f.name ≠ sID) (u : GoVal)
    {key : GoString} (hk : key ≠ f.json) :
    (mkW d (vals.set i u)).get key = (mkW d vals).get key := by
  unfold Wrapped.get
  by_cases h0 : key = idName
  · rw [if_pos h0, if_pos h0, getID_set hi hne]
  · rw [if_neg h0, if_neg h0]
    unfold Wrapped.getField Wrapped.fieldIdx
    by_cases h1 : key = []
    · rw [if_pos h1, if_pos h1]
    · rw [if_neg h1, if_neg h1]
      simp only [mkW_decl, mkW_vals]
      cases hx : d.findIdx? (fun g => decide (g.json = key) && decide (g.api ≠ [])) with
      | none => rfl
      | some j =>
        simp only [List.getElem?_set_ne (ne_of_findIdx? hx hi
          (by rw [decide_eq_false (Ne.symm hk), Bool.false_and]))]

theorem setID_mkW (c : CheckFacts d) :
    ∃ i idf, d[i]? = some idf ∧ idf.name = sID ∧
      (∀ vals id, (mkW d vals).setID id = .ok (mkW d (vals.set i (.val .string (.s id))))) ∧
      (∀ (vals : List GoVal) id, i < vals.length → (mkW d (vals.set i (.val .string (.s id)))).getID = id) := by
  obtain ⟨i, idf, hx, hi, hn, hk⟩ := c.idIdx
  refine ⟨i, idf, hi, hn, ?_, ?_⟩
  · intro vals id
    unfold Wrapped.setID
    simp only [mkW_decl, hx, hi, hk, if_true]
    rfl
  · intro vals id hlt
    unfold Wrapped.getID
    simp [hx, hlt]

theorem set_read_mkW (c : CheckFacts d) (h : (mkW d vals).WT) (hi : d[i]? = some f)
    (hne : f.name ≠ sID) (hfld : f.isAttr = true ∨ f.isRelTagged = true) {v : GoVal}
    (hv : f.ty.accepts v = true) (hw : v.wellFormed = true) :
    ∃ vs, (mkW d vals).set f.json v.read = .ok (mkW d vs) ∧ (mkW d vs).WT := by
  rcases v.read_cases with ⟨hr, _⟩ | hr
  · rw [hr]
    exact ⟨_, set_nil_mkW c hi hne hfld, WT_set h hi (Or.inl f.ty.zero_ok)⟩
  · rw [hr]
    exact ⟨_, set_mkW c hi hne hfld hv, WT_set h hi (Or.inl ⟨hv, hw⟩)⟩

theorem field_get (c : CheckFacts d) (h : (mkW d vals).WT) (hf : f ∈ d) (hne : f.name ≠ sID)
    (hfld : f.isAttr = true ∨ f.isRelTagged = true) :
    ∃ (i : Nat) (v : GoVal), d[i]? = some f ∧ vals[i]? = some v ∧ f.ty.accepts v = true ∧
      v.wellFormed = true ∧ (mkW d vals).get f.json = .ok v.read := by
  obtain ⟨i, hi⟩ := List.mem_iff_getElem?.1 hf
  obtain ⟨v, hv⟩ := WT_val h hi
  rcases h.2 i f v hi hv with ⟨ha, hw⟩ | ⟨hn, _⟩
  · exact ⟨i, v, hi, hv, ha, hw, get_mkW c hi hne hfld hv⟩
  · exact absurd hn hne

end ops

/-! ### Copy -/

theorem foldl_res_inv {α σ : Type} (step : Res σ → α → Res σ) (Inv : σ → Prop) (l : List α)
    (hstep : ∀ p ∈ l, ∀ x, Inv x → ∃ x', step (.ok x) p = .ok x' ∧ Inv x')
    (x0 : σ) (h0 : Inv x0) : ∃ x', l.foldl step (.ok x0) = .ok x' ∧ Inv x' := by
  induction l generalizing x0 with
  | nil => exact ⟨x0, rfl, h0⟩
  | cons a l ih =>
    obtain ⟨x1, hx1, h1⟩ := hstep a List.mem_cons_self x0 h0
    rw [List.foldl_cons, hx1]
    exact ih (fun p hp => hstep p (List.mem_cons_of_mem _ hp)) x1 h1

/-- One iteration of Copy's attribute loop. -/
def copyAttrStep (w : Wrapped) : Res Wrapped → GoString × Attr → Res Wrapped :=
  fun acc p =>
    match acc with
    | .ok (x : Wrapped) => (match w.get p.2.name with
      | .ok v => x.set p.2.name v
      | _ => .panic)
    | e => e

/-- One iteration of Copy's relationship loop. -/
def copyRelStep (w : Wrapped) : Res Wrapped → GoString × Rel → Res Wrapped :=
  fun acc p =>
    match acc with
    | .ok (x : Wrapped) => (match w.get p.2.fromName with
      | .ok (.val .string (.s id)) => if p.2.toOne then x.set p.2.fromName (.val .string (.s id)) else .panic
      | .ok (.strs l) => if p.2.toOne then .panic else x.set p.2.fromName (.strs l)
      | _ => .panic)
    | e => e

theorem copy_eq (w : Wrapped) :
    w.copy = match w.new.bind (fun nw => nw.setID w.getID) with
      | .ok nw => w.rels.foldl (copyRelStep w) (w.attrs.foldl (copyAttrStep w) (.ok nw))
      | e => e := rfl

theorem attrOf_name (f : SField) : (attrOf f).name = f.json := by
  unfold attrOf; split <;> rfl

section copy
variable {d : StructDecl} {vals : List GoVal}

theorem copyAttrStep_ok (c : CheckFacts d) (hs : SingleID d) (h : (mkW d vals).WT)
    {p : GoString × Attr} (hp : p ∈ structAttrs d) {vs : List GoVal} (hx : (mkW d vs).WT) :
    ∃ vs', copyAttrStep (mkW d vals) (.ok (mkW d vs)) p = .ok (mkW d vs') ∧ (mkW d vs').WT := by
  obtain ⟨f, hf, ha, rfl⟩ := structAttrs_mem hp
  have hne := c.field_not_ID hs hf (Or.inl ha)
  obtain ⟨i, v, hi, _, hav, hwv, hget⟩ := field_get c h hf hne (Or.inl ha)
  simp only [copyAttrStep, attrOf_name, hget]
  exact set_read_mkW c hx hi hne (Or.inl ha) hav hwv

theorem copyRelStep_ok (c : CheckFacts d) (hs : SingleID d) (h : (mkW d vals).WT)
    {p : GoString × Rel} (hp : p ∈ relsOf d) {vs : List GoVal} (hx : (mkW d vs).WT) :
    ∃ vs', copyRelStep (mkW d vals) (.ok (mkW d vs)) p = .ok (mkW d vs') ∧ (mkW d vs').WT := by
  obtain ⟨f, hf, hr, rfl⟩ := relsOf_mem hp
  have hne := c.field_not_ID hs hf (Or.inr hr)
  obtain ⟨i, v, hi, _, hav, hwv, hget⟩ := field_get c h hf hne (Or.inr hr)
  rcases (c.rels f hf hr).2.2 with hty | hty
  · rw [hty] at hav
    obtain ⟨id, rfl⟩ := GoTy.accepts_string hav hwv
    simp only [copyRelStep, relOf, hget, GoVal.read, hty]
    refine ⟨_, ?_, WT_set hx hi (Or.inl ⟨by rw [hty]; exact hav, hwv⟩)⟩
    simpa using set_mkW c hi hne (Or.inr hr) (by rw [hty]; exact hav)
  · rw [hty] at hav
    obtain ⟨l, rfl⟩ := GoTy.accepts_strs hav
    simp only [copyRelStep, relOf, hget, GoVal.read, hty]
    refine ⟨_, ?_, WT_set hx hi (Or.inl ⟨by rw [hty]; exact hav, hwv⟩)⟩
    simpa using set_mkW c hi hne (Or.inr hr) (by rw [hty]; exact hav)

theorem copy_mkW (hc : checkStruct d = true) (hs : SingleID d) (h : (mkW d vals).WT) :
    ∃ vs, (mkW d vals).copy = .ok (mkW d vs) ∧ (mkW d vs).WT := by
  have c := checkFacts hc
  obtain ⟨i0, idf, hi0, hn0, hset, _⟩ := setID_mkW c
  have hnew : (mkW d vals).new = .ok (mkW d (Wrapped.zeroVals d)) := wrap_mkW hc _
  have h1 : ((mkW d vals).new.bind fun nw => nw.setID (mkW d vals).getID) =
      .ok (mkW d ((Wrapped.zeroVals d).set i0 (.val .string (.s (mkW d vals).getID)))) := by
    rw [hnew]; exact hset _ _
  have hwt1 := WT_set (WT_zero d) hi0 (u := .val .string (.s (mkW d vals).getID))
    (Or.inr ⟨hn0, _, rfl⟩)
  rw [copy_eq, h1]
  simp only [mkW_attrs, mkW_rels]
  obtain ⟨x1, hx1, vs1, rfl, hw1⟩ := foldl_res_inv (copyAttrStep (mkW d vals))
    (fun x => ∃ vs, x = mkW d vs ∧ (mkW d vs).WT) (structAttrs d)
    (by
      rintro p hp x ⟨vs, rfl, hx⟩
      obtain ⟨vs', e, hw'⟩ := copyAttrStep_ok c hs h hp hx
      exact ⟨_, e, vs', rfl, hw'⟩)
    _ ⟨_, rfl, hwt1⟩
  rw [hx1]
  obtain ⟨x2, hx2, vs2, rfl, hw2⟩ := foldl_res_inv (copyRelStep (mkW d vals))
    (fun x => ∃ vs, x = mkW d vs ∧ (mkW d vs).WT) (relsOf d)
    (by
      rintro p hp x ⟨vs, rfl, hx⟩
      obtain ⟨vs', e, hw'⟩ := copyRelStep_ok c hs h hp hx
      exact ⟨_, e, vs', rfl, hw'⟩)
    _ ⟨_, rfl, hw1⟩
  exact ⟨vs2, hx2, hw2⟩

end copy

/-! ### The parts of C20_accept_safe, for `mkW d vals` -/

section safe
variable {d : StructDecl} {vals : List GoVal}

theorem keys_field {key : GoString} (hk : key ∈ (structAttrs d).keys ++ (relsOf d).keys) :
    ∃ f ∈ d, (f.isAttr = true ∨ f.isRelTagged = true) ∧ f.json = key := by
  rcases List.mem_append.1 hk with hk | hk
  · obtain ⟨x, hx, rfl⟩ := List.mem_map.1 hk
    obtain ⟨f, hf, ha, rfl⟩ := structAttrs_mem hx
    exact ⟨f, hf, Or.inl ha, rfl⟩
  · obtain ⟨x, hx, rfl⟩ := List.mem_map.1 hk
    obtain ⟨f, hf, hr, rfl⟩ := relsOf_mem hx
    exact ⟨f, hf, Or.inr hr, rfl⟩

theorem safe_get (c : CheckFacts d) (hs : SingleID d) (h : (mkW d vals).WT) {key : GoString}
    (hk : key ∈ (structAttrs d).keys ++ (relsOf d).keys) : ∃ v, (mkW d vals).get key = .ok v := by
  obtain ⟨f, hf, hfld, rfl⟩ := keys_field hk
  obtain ⟨i, v, _, _, _, _, hget⟩ := field_get c h hf (c.field_not_ID hs hf hfld) hfld
  exact ⟨_, hget⟩

theorem safe_get_rel (c : CheckFacts d) (hs : SingleID d) (h : (mkW d vals).WT) {key : GoString}
    {r : Rel} (hr : (relsOf d).get? key = some r) :
    ∃ v, (mkW d vals).get key = .ok v ∧
      (if r.toOne = true then ∃ id, v = .val .string (.s id) else ∃ l, v = .strs l) := by
  obtain ⟨f, hf, hrel, hx⟩ := relsOf_mem (GoMap.mem_of_get? hr)
  obtain ⟨rfl, rfl⟩ := Prod.mk.inj hx
  obtain ⟨i, v, _, _, hav, hwv, hget⟩ := field_get c h hf (c.field_not_ID hs hf (Or.inr hrel)) (Or.inr hrel)
  rcases (c.rels f hf hrel).2.2 with hty | hty
  · rw [hty] at hav
    obtain ⟨id, rfl⟩ := GoTy.accepts_string hav hwv
    exact ⟨_, hget, by simp [relOf, hty, GoVal.read]⟩
  · rw [hty] at hav
    obtain ⟨l, rfl⟩ := GoTy.accepts_strs hav
    exact ⟨_, hget, by simp [relOf, hty, GoVal.read]⟩

theorem safe_set (c : CheckFacts d) (h : (mkW d vals).WT) {f : SField} (hf : f ∈ d)
    (hne : f.name ≠ sID) (hfld : f.isAttr = true ∨ f.isRelTagged = true) :
    (∀ v, f.ty.accepts v = true → v.wellFormed = true →
      ∃ vs, (mkW d vals).set f.json v = .ok (mkW d vs) ∧ (mkW d vs).WT ∧
        (mkW d vs).get f.json = .ok v.read ∧
        ∀ key, key ≠ f.json → (mkW d vs).get key = (mkW d vals).get key) ∧
    (∃ vs, (mkW d vals).set f.json .nil = .ok (mkW d vs) ∧ (mkW d vs).WT ∧
        (mkW d vs).get f.json = .ok f.ty.zero.read ∧
        ∀ key, key ≠ f.json → (mkW d vs).get key = (mkW d vals).get key) := by
  obtain ⟨i, hi⟩ := List.mem_iff_getElem?.1 hf
  obtain ⟨v0, hv0⟩ := WT_val h hi
  have hlt : i < vals.length := (List.getElem?_eq_some_iff.1 hv0).1
  have hread : ∀ u, (mkW d (vals.set i u)).get f.json = .ok u.read := fun u =>
    get_mkW c hi hne hfld (by simp [hlt])
  refine ⟨?_, ?_⟩
  · intro v hv hw
    exact ⟨_, set_mkW c hi hne hfld hv, WT_set h hi (Or.inl ⟨hv, hw⟩), hread v,
      fun key hk => get_set_other hi hne v hk⟩
  · exact ⟨_, set_nil_mkW c hi hne hfld, WT_set h hi (Or.inl f.ty.zero_ok), hread _,
      fun key hk => get_set_other hi hne _ hk⟩

theorem zero_read_nullable (k : Kind) : (GoTy.attr k true).zero.read = .nil := by
  simp [GoTy.zero, GoTy.zero.GoVal.zero', GoVal.read]

theorem safe_setID (c : CheckFacts d) (h : (mkW d vals).WT) (v : GoVal) :
    ∃ vs, (mkW d vals).set idName v = .ok (mkW d vs) ∧ (mkW d vs).WT ∧
      (mkW d vs).getID = (match v with | .val .string (.s id) => id | _ => []) := by
  obtain ⟨i0, idf, hi0, hn0, hset, hget⟩ := setID_mkW c
  obtain ⟨v0, hv0⟩ := WT_val h hi0
  have hlt : i0 < vals.length := (List.getElem?_eq_some_iff.1 hv0).1
  unfold Wrapped.set
  rw [if_pos rfl, hset]
  exact ⟨_, rfl, WT_set h hi0 (Or.inr ⟨hn0, _, rfl⟩), hget _ _ hlt⟩

end safe

end Jsonapi
