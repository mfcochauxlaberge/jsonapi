/-
Laws of the modelled JSON codec of the `filter` parameter (Model/FilterJson.lean): `decodeAny`
is idempotent, what `Filter.UnmarshalJSON` returns is well formed and a well-formed filter is
recovered from its own JSON, the reader only returns JSON number literals, and Go's string
encoder with its U+FFFD replacement (`goStrBody`) agrees with the model's on well-formed UTF-8.
-/
import Jsonapi.Model.FilterJson
import Jsonapi.Proofs.JsonTextLemmas
namespace Jsonapi
namespace FjL
open Spec JsonL

/-- `k` is below the first key (if any) -/
def KeyLtHead (k : GoString) : List (GoString × Json) → Prop
  | [] => True
  | (k', _) :: _ => k < k'

/-- keys strictly increasing -/
def SortedKeys : List (GoString × Json) → Prop
  | [] => True
  | (k, _) :: rest => KeyLtHead k rest ∧ SortedKeys rest

theorem insAbsent_of_keyLtHead (k : GoString) (v : Json) (l : List (GoString × Json))
    (h : KeyLtHead k l) : insAbsent k v l = (k, v) :: l := by
  cases l with
  | nil => rfl
  | cons p rest => exact if_pos h

theorem keyLtHead_insAbsent (a k : GoString) (v : Json) (l : List (GoString × Json))
    (hl : KeyLtHead a l) (hk : a < k) : KeyLtHead a (insAbsent k v l) := by
  fun_cases insAbsent k v l
  case case1 | case2 => exact hk
  all_goals exact hl

theorem sortedKeys_insAbsent (k : GoString) (v : Json) (l : List (GoString × Json))
    (h : SortedKeys l) : SortedKeys (insAbsent k v l) := by
  fun_induction insAbsent k v l
  case case1 => exact ⟨trivial, trivial⟩
  case case2 h1 => exact ⟨h1, h⟩
  case case3 => exact h
  case case4 k' v' rest h1 h2 ih =>
    exact ⟨keyLtHead_insAbsent k' k v rest h.1
      ((List.le_iff_lt_or_eq.1 (List.not_lt.1 h1)).resolve_right (Ne.symm h2)), ih h.2⟩

theorem mem_insAbsent (k : GoString) (v : Json) (l : List (GoString × Json))
    (p : GoString × Json) (h : p ∈ insAbsent k v l) : p = (k, v) ∨ p ∈ l := by
  fun_induction insAbsent k v l
  case case1 => exact .inl (List.mem_singleton.1 h)
  case case2 => exact List.mem_cons.1 h
  case case3 => exact .inr h
  case case4 ih =>
    rcases List.mem_cons.1 h with h | h
    · exact .inr (h ▸ List.mem_cons_self)
    · exact (ih h).imp_right (List.mem_cons_of_mem _)

/-! ### `decodeAny` is idempotent -/

theorem decodeAnyMembers_sorted (nc : GoString → GoString) (ms : List (GoString × Json)) :
    SortedKeys (decodeAnyMembers nc ms) := by
  induction ms with
  | nil => exact trivial
  | cons p ms ih => rw [decodeAnyMembers]; exact sortedKeys_insAbsent _ _ _ ih

theorem decodeAnyMembers_fixed (nc : GoString → GoString) (l : List (GoString × Json))
    (hs : SortedKeys l) (hv : ∀ p ∈ l, decodeAny nc p.2 = p.2) : decodeAnyMembers nc l = l := by
  induction l with
  | nil => rfl
  | cons p rest ih =>
    obtain ⟨hp, hv⟩ := List.forall_mem_cons.1 hv
    rw [decodeAnyMembers, ih hs.2 hv, hp]
    exact insAbsent_of_keyLtHead p.1 p.2 rest hs.1

mutual
theorem decodeAny_idem (nc : GoString → GoString) (hnc : ∀ x, nc (nc x) = nc x) (j : Json) :
    decodeAny nc (decodeAny nc j) = decodeAny nc j :=
  match j with
  | .null | .bool _ | .str _ => by simp only [decodeAny]
  | .num lit => by simp only [decodeAny, hnc]
  | .arr l => by simp only [decodeAny, decodeAnyList_idem nc hnc l]
  | .obj ms => by
    simp only [decodeAny, decodeAnyMembers_fixed nc _ (decodeAnyMembers_sorted nc ms)
      (decodeAnyMembers_vals nc hnc ms)]
theorem decodeAnyList_idem (nc : GoString → GoString) (hnc : ∀ x, nc (nc x) = nc x)
    (l : List Json) : decodeAnyList nc (decodeAnyList nc l) = decodeAnyList nc l :=
  match l with
  | [] => by simp only [decodeAnyList]
  | v :: vs => by simp only [decodeAnyList, decodeAny_idem nc hnc v, decodeAnyList_idem nc hnc vs]
theorem decodeAnyMembers_vals (nc : GoString → GoString) (hnc : ∀ x, nc (nc x) = nc x)
    (ms : List (GoString × Json)) :
    ∀ p ∈ decodeAnyMembers nc ms, decodeAny nc p.2 = p.2 :=
  match ms with
  | [] => fun _ h => nomatch h
  | (k, v) :: ms => by
    intro p hp
    rw [decodeAnyMembers] at hp
    rcases mem_insAbsent _ _ _ _ hp with h | h
    · rw [h]; exact decodeAny_idem nc hnc v
    · exact decodeAnyMembers_vals nc hnc ms p h
end

mutual
theorem decodeAny_numsOk (nc : GoString → GoString) (hok : ∀ x, numOk x = true → numOk (nc x) = true)
    (j : Json) (h : j.numsOk = true) : (decodeAny nc j).numsOk = true :=
  match j with
  | .null | .bool _ | .str _ => by simp only [decodeAny, Json.numsOk]
  | .num lit => hok lit h
  | .arr l => decodeAnyList_numsOk nc hok l h
  | .obj ms => decodeAnyMembers_numsOk nc hok ms h
theorem decodeAnyList_numsOk (nc : GoString → GoString)
    (hok : ∀ x, numOk x = true → numOk (nc x) = true)
    (l : List Json) (h : Json.numsOkList l = true) :
    Json.numsOkList (decodeAnyList nc l) = true :=
  match l with
  | [] => rfl
  | v :: vs => by
    rw [Json.numsOkList, Bool.and_eq_true] at h
    rw [decodeAnyList, Json.numsOkList, decodeAny_numsOk nc hok v h.1,
      decodeAnyList_numsOk nc hok vs h.2]
    rfl
theorem decodeAnyMembers_numsOk (nc : GoString → GoString)
    (hok : ∀ x, numOk x = true → numOk (nc x) = true)
    (ms : List (GoString × Json)) (h : Json.numsOkMembers ms = true) :
    Json.numsOkMembers (decodeAnyMembers nc ms) = true :=
  match ms with
  | [] => rfl
  | (k, v) :: ms => by
    rw [Json.numsOkMembers, Bool.and_eq_true] at h
    have ih := (Json.numsOkMembers_iff _).1 (decodeAnyMembers_numsOk nc hok ms h.2)
    rw [decodeAnyMembers, Json.numsOkMembers_iff]
    intro p hp
    rcases mem_insAbsent _ _ _ _ hp with e | hp
    · rw [e]; exact decodeAny_numsOk nc hok v h.1
    · exact ih p hp
end

/-! ### well-formed filters -/

mutual
/-- What `Filter.UnmarshalJSON` guarantees of its result: a `[]*Filter` under `and` / `or`
exactly, with the field cleared; elsewhere an `any` value that is normalised (a fixed point
of decode-then-marshal) with JSON numbers. -/
def WF (nc : GoString → GoString) : FilterVal → Prop
  | .mk field op _ val => WFVal nc field op val
def WFVal (nc : GoString → GoString) (field op : GoString) : FVal → Prop
  | .any v => isAndOr op = false ∧ decodeAny nc v = v ∧ v.numsOk = true
  | .filters none => isAndOr op = true ∧ field = []
  | .filters (some l) => isAndOr op = true ∧ field = [] ∧ WFList nc l
def WFList (nc : GoString → GoString) : List (Option FilterVal) → Prop
  | [] => True
  | none :: rest => WFList nc rest
  | some f :: rest => WF nc f ∧ WFList nc rest
end

/-- well-formedness of a decoded `[]*Filter` -/
def WFSlice (nc : GoString → GoString) : Option (List (Option FilterVal)) → Prop
  | none => True
  | some l => WFList nc l

theorem readMembers_four (nc : GoString → GoString) (field op col : GoString) (vj : Json) :
    readMembers nc {} [([102], .str field), ([111], .str op), ([118], vj), ([99], .str col)]
      = .ok { field := field, op := op, col := col, val := some vj, slice := sliceOfJson nc vj } :=
  rfl

theorem filterOfJson_obj (nc : GoString → GoString) (ms : List (GoString × Json)) :
    filterOfJson nc (.obj ms) = (match readMembers nc {} ms with
      | .ok raw => finishFilter nc raw
      | .err => .err
      | .panic => .panic) := by
  rw [filterOfJson]; rfl

theorem sliceOfJson_arr (nc : GoString → GoString) (l : List Json) :
    sliceOfJson nc (.arr l) = (match elemsOfJson nc l with
      | .ok es => .ok (some es)
      | .err => .err
      | .panic => .panic) := by
  rw [sliceOfJson]; rfl

theorem elemsOfJson_null (nc : GoString → GoString) (rest : List Json) :
    elemsOfJson nc (.null :: rest) = (match elemsOfJson nc rest with
      | .ok es => .ok (none :: es)
      | .err => .err
      | .panic => .panic) := by
  rw [elemsOfJson]; rfl

theorem elemsOfJson_cons (nc : GoString → GoString) (v : Json) (rest : List Json)
    (hv : v ≠ .null) :
    elemsOfJson nc (v :: rest) = (match filterOfJson nc v with
      | .ok f => (match elemsOfJson nc rest with
        | .ok es => .ok (some f :: es)
        | .err => .err
        | .panic => .panic)
      | .err => .err
      | .panic => .panic) := by
  rw [elemsOfJson]
  · rfl
  · exact fun e => hv e

theorem filterToJson_eq (field op col : GoString) (val : FVal) :
    filterToJson (.mk field op col val)
      = .obj [([102], .str field), ([111], .str op), ([118], fvalToJson val), ([99], .str col)] := by
  rw [filterToJson]

mutual
theorem filterOfJson_filterToJson (nc : GoString → GoString) (t : FilterVal) (h : WF nc t) :
    filterOfJson nc (filterToJson t) = .ok t :=
  match t with
  | .mk field op col (.any v) => by
    simp only [WF, WFVal] at h
    rw [filterToJson_eq, filterOfJson_obj, readMembers_four]
    simp only [finishFilter, h.1, Bool.false_eq_true, if_false, fvalToJson, h.2.1]
  | .mk field op col (.filters none) => by
    simp only [WF, WFVal] at h
    rw [filterToJson_eq, filterOfJson_obj, readMembers_four]
    simp only [finishFilter, h.1, if_true, fvalToJson, sliceOfJson, h.2]
  | .mk field op col (.filters (some l)) => by
    simp only [WF, WFVal] at h
    rw [filterToJson_eq, filterOfJson_obj, readMembers_four]
    simp only [finishFilter, h.1, if_true, fvalToJson, sliceOfJson_arr,
      elemsOfJson_elemsToJson nc l h.2.2, h.2.1]
theorem elemsOfJson_elemsToJson (nc : GoString → GoString) (l : List (Option FilterVal))
    (h : WFList nc l) : elemsOfJson nc (elemsToJson l) = .ok l :=
  match l with
  | [] => by simp only [elemsToJson, elemsOfJson]
  | none :: rest => by
    simp only [WFList] at h
    simp only [elemsToJson, elemsOfJson_null, elemsOfJson_elemsToJson nc rest h]
  | some (.mk field op col val) :: rest => by
    simp only [WFList] at h
    rw [elemsToJson, elemsOfJson_cons _ _ _ (by rw [filterToJson_eq]; nofun),
      filterOfJson_filterToJson nc _ h.1, elemsOfJson_elemsToJson nc rest h.2]
end

/-- the invariant of `filter` while the members are read -/
def RawInv (nc : GoString → GoString) (raw : RawFilter) : Prop :=
  (∀ l, raw.slice = .ok l → WFSlice nc l) ∧ (∀ v, raw.val = some v → v.numsOk = true)

theorem rawStep_inv (nc : GoString → GoString) (acc acc' : RawFilter) (k : GoString) (v : Json)
    (sl : Res (Option (List (Option FilterVal)))) (hacc : RawInv nc acc)
    (hv : v.numsOk = true) (hsl : ∀ l, sl = .ok l → WFSlice nc l) :
    rawStep acc k v sl = .ok acc' → RawInv nc acc' := by
  -- 1: no field of `filter`; 2, 5, 8: `f`, `o`, `c` read a string or `null`; 11: `v`
  fun_cases rawStep acc k v sl
  case case1 | case2 | case5 | case8 => rintro ⟨⟩; exact hacc
  case case11 => rintro ⟨⟩; exact ⟨hsl, fun w hw => by cases hw; exact hv⟩
  all_goals nofun

theorem finishFilter_wf (nc : GoString → GoString) (hnc : ∀ x, nc (nc x) = nc x)
    (hok : ∀ x, numOk x = true → numOk (nc x) = true) (raw : RawFilter) (t : FilterVal)
    (hraw : RawInv nc raw) : finishFilter nc raw = .ok t → WF nc t := by
  fun_cases finishFilter nc raw
  case case1 hop l hs =>
    rintro ⟨⟩
    cases l with
    | none => exact ⟨hop, rfl⟩
    | some l => exact ⟨hop, rfl, hraw.1 _ hs⟩
  case case4 hop =>
    rintro ⟨⟩
    refine ⟨Bool.eq_false_iff.2 hop, ?_⟩
    cases hv : raw.val with
    | none => exact ⟨rfl, rfl⟩
    | some v => exact ⟨decodeAny_idem nc hnc v, decodeAny_numsOk nc hok v (hraw.2 v hv)⟩
  all_goals nofun

mutual
theorem filterOfJson_wf (nc : GoString → GoString) (hnc : ∀ x, nc (nc x) = nc x)
    (hok : ∀ x, numOk x = true → numOk (nc x) = true) (j : Json) (hj : j.numsOk = true)
    (t : FilterVal) (h : filterOfJson nc j = .ok t) : WF nc t :=
  match j with
  | .null => by cases h; exact ⟨rfl, rfl, rfl⟩
  | .obj ms => by
    rw [filterOfJson_obj] at h
    split at h
    · rename_i raw hr
      exact finishFilter_wf nc hnc hok raw t
        (readMembers_inv nc hnc hok ms hj {} ⟨fun _ h => (nomatch h), fun _ h => nomatch h⟩ raw hr) h
    all_goals cases h
  | .bool _ | .num _ | .str _ | .arr _ => by cases h
theorem readMembers_inv (nc : GoString → GoString) (hnc : ∀ x, nc (nc x) = nc x)
    (hok : ∀ x, numOk x = true → numOk (nc x) = true) (ms : List (GoString × Json))
    (hms : Json.numsOkMembers ms = true) (acc : RawFilter) (hacc : RawInv nc acc)
    (raw : RawFilter) (h : readMembers nc acc ms = .ok raw) : RawInv nc raw :=
  match ms with
  | [] => by cases h; exact hacc
  | (k, v) :: ms => by
    rw [Json.numsOkMembers, Bool.and_eq_true] at hms
    rw [readMembers] at h
    split at h
    · rename_i acc' hs
      exact readMembers_inv nc hnc hok ms hms.2 acc' (rawStep_inv nc acc acc' k v _ hacc hms.1
        (sliceOfJson_wf nc hnc hok v hms.1) hs) raw h
    all_goals cases h
theorem sliceOfJson_wf (nc : GoString → GoString) (hnc : ∀ x, nc (nc x) = nc x)
    (hok : ∀ x, numOk x = true → numOk (nc x) = true) (j : Json) (hj : j.numsOk = true)
    (l : Option (List (Option FilterVal))) (h : sliceOfJson nc j = .ok l) : WFSlice nc l :=
  match j with
  | .null => by cases h; exact trivial
  | .arr vs => by
    rw [sliceOfJson_arr] at h
    split at h
    · rename_i es he
      cases h
      exact elemsOfJson_wf nc hnc hok vs hj es he
    all_goals cases h
  | .bool _ | .num _ | .str _ | .obj _ => by cases h
theorem elemsOfJson_wf (nc : GoString → GoString) (hnc : ∀ x, nc (nc x) = nc x)
    (hok : ∀ x, numOk x = true → numOk (nc x) = true) (vs : List Json)
    (hvs : Json.numsOkList vs = true) (es : List (Option FilterVal))
    (h : elemsOfJson nc vs = .ok es) : WFList nc es :=
  match vs with
  | [] => by cases h; exact trivial
  | v :: rest => by
    rw [Json.numsOkList, Bool.and_eq_true] at hvs
    have ihr := elemsOfJson_wf nc hnc hok rest hvs.2
    by_cases hv : v = .null
    · rw [hv, elemsOfJson_null] at h
      split at h
      · rename_i es' he; cases h; exact ihr es' he
      all_goals cases h
    · rw [elemsOfJson_cons nc v rest hv] at h
      split at h
      · rename_i f hf
        split at h
        · rename_i es' he
          cases h
          exact ⟨filterOfJson_wf nc hnc hok v hvs.1 f hf, ihr es' he⟩
        all_goals cases h
      all_goals cases h
end

mutual
theorem filterToJson_numsOk (nc : GoString → GoString) (t : FilterVal) (h : WF nc t) :
    (filterToJson t).numsOk = true :=
  match t with
  | .mk field op col val => by
    simp only [filterToJson, Json.numsOk, Json.numsOkMembers, Bool.true_and, Bool.and_true]
    exact fvalToJson_numsOk nc field op val h
theorem fvalToJson_numsOk (nc : GoString → GoString) (field op : GoString) (val : FVal)
    (h : WFVal nc field op val) : (fvalToJson val).numsOk = true :=
  match val with
  | .any v => h.2.2
  | .filters none => rfl
  | .filters (some l) => elemsToJson_numsOk nc l h.2.2
theorem elemsToJson_numsOk (nc : GoString → GoString) (l : List (Option FilterVal))
    (h : WFList nc l) : Json.numsOkList (elemsToJson l) = true :=
  match l with
  | [] => rfl
  | none :: rest => elemsToJson_numsOk nc rest h
  | some f :: rest => by
    rw [elemsToJson, Json.numsOkList, filterToJson_numsOk nc f h.1,
      elemsToJson_numsOk nc rest h.2]
    rfl
end

/-! ### the reader only returns JSON numbers -/

/-- the three statements, for one fuel -/
def ParseNums (f : Nat) : Prop :=
  (∀ s v r, parseValue f s = some (v, r) → v.numsOk = true) ∧
  (∀ s l r, parseElems f s = some (l, r) → Json.numsOkList l = true) ∧
  (∀ s ms r, parseMembers f s = some (ms, r) → Json.numsOkMembers ms = true)

/-- By induction on the fuel and the branches of the three readers: a number token is only cut
when `numOk` accepts it, every other leaf has no number, and the lists are read by the
readers one unit of fuel below. -/
theorem parseNums (f : Nat) : ParseNums f := by
  induction f using Nat.strongRecOn with | _ f ih => ?_
  refine ⟨fun s => ?_, fun s => ?_, fun s => ?_⟩
  · fun_cases parseValue f s
    -- 3, 4: a number token; 5-8: `null`, `true`, `false`, a string; 10, 13: `[]`, `{}`;
    -- 11, 14: an array, an object; the others: no value
    case case3 hn => rw [if_pos hn]; rintro _ _ ⟨⟩; exact hn
    case case4 hn => rw [if_neg hn]; nofun
    case case5 | case6 | case7 | case8 =>
      intro v r h; obtain ⟨_, _, ⟨⟩⟩ := Option.map_eq_some_iff.1 h; rfl
    case case10 | case13 => rintro _ _ ⟨⟩; rfl
    case case11 =>
      intro v r h; obtain ⟨p, hp, ⟨⟩⟩ := Option.map_eq_some_iff.1 h
      exact (ih _ (Nat.lt_succ_self _)).2.1 _ _ _ hp
    case case14 =>
      intro v r h; obtain ⟨p, hp, ⟨⟩⟩ := Option.map_eq_some_iff.1 h
      exact (ih _ (Nat.lt_succ_self _)).2.2 _ _ _ hp
    all_goals nofun
  · fun_cases parseElems f s
    -- 4: the last element; 6: an element, a comma and the remaining ones
    case case4 hv =>
      rintro _ _ ⟨⟩
      simp only [Json.numsOkList, (ih _ (Nat.lt_succ_self _)).1 _ _ _ hv, Bool.and_self]
    case case6 he _ hv =>
      rintro _ _ ⟨⟩
      simp only [Json.numsOkList, (ih _ (Nat.lt_succ_self _)).1 _ _ _ hv,
        (ih _ (Nat.lt_succ_self _)).2.1 _ _ _ he, Bool.and_self]
    all_goals nofun
  · fun_cases parseMembers f s
    -- 7: the last member; 9: a member, a comma and the remaining ones
    case case7 hv =>
      rintro _ _ ⟨⟩
      simp only [Json.numsOkMembers, (ih _ (Nat.lt_succ_self _)).1 _ _ _ hv, Bool.and_self]
    case case9 he _ _ hv =>
      rintro _ _ ⟨⟩
      simp only [Json.numsOkMembers, (ih _ (Nat.lt_succ_self _)).1 _ _ _ hv,
        (ih _ (Nat.lt_succ_self _)).2.2 _ _ _ he, Bool.and_self]
    all_goals nofun

theorem parseJson_numsOk (s : GoString) (j : Json) (h : parseJson s = some j) :
    j.numsOk = true := by
  unfold parseJson at h
  split at h
  · rename_i v hp; cases h; exact (parseNums _).1 _ _ _ hp
  · cases h

/-! ### Go's string encoder is the model's on well-formed UTF-8 -/

theorem goStrBody_valid (l : GoString) (h : utf8Valid l = true) : goStrBody l = renderStrBody l := by
  fun_induction utf8Valid l with
  | case1 => rfl
  | case2 b rest hb ih =>
    rw [goStrBody.eq_def]
    simp only [if_pos hb]
    rw [ih h, rsb_cons_ne b rest fun e => absurd (e ▸ hb) (by decide)]
  | case3 b hb hr c r ih =>
    obtain ⟨hc, hv⟩ := Bool.and_eq_true_iff.1 h
    rw [rsb_hi b _ (fun e => absurd (e ▸ hr.2) (by decide)) hb,
      rsb_cont c 128 191 _ hc (by decide) (by decide), ← ih hv, goStrBody]
    simp only [if_neg hb, if_pos hr, hc, if_true]
  | case4 => cases h
  | case5 b hb h2 hr c d r ih =>
    obtain ⟨hcd, hv⟩ := Bool.and_eq_true_iff.1 h
    obtain ⟨hc, hd⟩ := Bool.and_eq_true_iff.1 hcd
    rw [goStrBody]
    simp only [if_neg hb, if_neg h2, if_pos hr, hcd, if_true]
    rw [ih hv, renderStrBody]
    split
    · rfl
    · split
      · rfl
      · rw [escByte_hi _ hb, rsb_cont c _ _ _ hc (by split <;> decide) (by split <;> decide),
          rsb_cont d 128 191 _ hd (by decide) (by decide)]
        rfl
  | case6 => cases h
  | case7 b hb h2 h3 hr c d e r ih =>
    obtain ⟨hcde, hv⟩ := Bool.and_eq_true_iff.1 h
    obtain ⟨hcd, he⟩ := Bool.and_eq_true_iff.1 hcde
    obtain ⟨hc, hd⟩ := Bool.and_eq_true_iff.1 hcd
    rw [rsb_hi b _ (fun x => absurd (x ▸ hr.1) (by decide)) hb,
      rsb_cont c _ _ _ hc (by split <;> decide) (by split <;> decide),
      rsb_cont d 128 191 _ hd (by decide) (by decide), rsb_cont e 128 191 _ he (by decide) (by decide),
      ← ih hv, goStrBody]
    simp only [if_neg hb, if_neg h2, if_neg h3, if_pos hr, hcde, if_true]
  | case8 => cases h
  | case9 => cases h

/-! ### the label body as `URL.String` writes it (`rewriteBrace`) -/

/-- the string reader decodes the escape backslash-u-0-0-7-b to the byte `{`: reading a body
whose leading `{` was rewritten gives what reading the body itself gives -/
theorem parseStrBody_rewriteBrace (v r : GoString) :
    parseStrBody (rewriteBrace v ++ r) = parseStrBody (v ++ r) := by
  unfold rewriteBrace
  split
  · rename_i t
    have h1 := parseStrBody_u00 123 (t ++ r) (by decide)
    have e : escU00 123 = [92, 117, 48, 48, 55, 98] := by decide
    rw [e] at h1
    rw [List.append_assoc, h1, List.cons_append,
      parseStrBody_plain 123 (t ++ r) (by decide) (by decide) (by decide)]
  · rfl

/-- a quoted text is read by the string reader alone (the fuel of the value reader plays no
part) -/
theorem parseJson_quoted (t : GoString) :
    parseJson (34 :: t) = match parseStrBody t with
      | some (s, []) => some (.str s)
      | _ => none := by
  have h : isNumByte 34 = false := by decide
  unfold parseJson
  rw [show 2 * (34 :: t).length + 2 = (2 * (34 :: t).length + 1) + 1 from rfl, parseValue.eq_def]
  simp only [h]
  cases hp : parseStrBody t with
  | none => simp
  | some p =>
    obtain ⟨s, r⟩ := p
    cases r <;> simp

/-- `json.Unmarshal("\"" + v + "\"", &label)` does not see the rewrite of a leading `{`:
for EVERY value `v` -/
theorem labelDec_rewriteBrace (v : GoString) : labelDec (rewriteBrace v) = labelDec v := by
  unfold labelDec
  rw [parseJson_quoted, parseJson_quoted, parseStrBody_rewriteBrace]

theorem labelDec_labelBodyEmitted (l : GoString) : labelDec (labelBodyEmitted l) = some l := by
  unfold labelBodyEmitted
  rw [labelDec_rewriteBrace]
  have h := parseJson_render (.str l) (by simp only [Json.numsOk])
  simp only [Json.render, renderStr] at h
  unfold labelDec labelBody
  rw [h]

end FjL
end Jsonapi
