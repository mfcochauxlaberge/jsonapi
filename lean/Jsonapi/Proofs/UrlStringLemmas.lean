/-
C08: `url.Parse` + `Query()` (spec side: `Spec.parseRaw`) on the text `URL.String` emits
give back the decoded path and one value per emitted name (`parse_string`); and that text
depends on the `fields` / `page` maps only through lookups on sorted keys (`string_canonical`).
Both rest on one decomposition of `URL.string` into path and parameter families (`string_eq`).
The file continues the namespace `UrlL.Esc` of UrlEscLemmas (all of it up to `parse_string'`);
`string_canonical` and its two congruences are in `UrlL.Perm`.
-/
import Jsonapi.Proofs.UrlEscLemmas
import Jsonapi.Proofs.UrlNumLemmas
import Jsonapi.Proofs.UrlPermLemmas
namespace Jsonapi.UrlL.Esc
open Jsonapi

theorem cut_append_sep (sep : UInt8) : ∀ (a b : GoString), sep ∉ a →
    Spec.cut sep (a ++ sep :: b) = (a, some b)
  | [], b, _ => by simp [Spec.cut]
  | c :: a, b, h => by
    have hc : c ≠ sep := fun e => h (by simp [e])
    have ha : sep ∉ a := fun e => h (List.mem_cons_of_mem _ e)
    simp only [List.cons_append, Spec.cut, hc, if_false, cut_append_sep sep a b ha]

theorem cut_of_not_mem (sep : UInt8) : ∀ (a : GoString), sep ∉ a → Spec.cut sep a = (a, none)
  | [], _ => by simp [Spec.cut]
  | c :: a, h => by
    have hc : c ≠ sep := fun e => h (by simp [e])
    have ha : sep ∉ a := fun e => h (List.mem_cons_of_mem _ e)
    simp only [Spec.cut, hc, if_false, cut_of_not_mem sep a ha]

theorem joinWith_nil (sep : GoString) : joinWith sep [] = [] := rfl
theorem joinWith_single (sep x : GoString) : joinWith sep [x] = x := rfl
theorem joinWith_cons_cons (sep x y : GoString) (ys : List GoString) :
    joinWith sep (x :: y :: ys) = x ++ sep ++ joinWith sep (y :: ys) := rfl

theorem mem_joinWith {sep : GoString} {c : UInt8} : ∀ {l : List GoString},
    c ∈ joinWith sep l → c ∈ sep ∨ ∃ e ∈ l, c ∈ e
  | [], h => by simp [joinWith_nil] at h
  | [x], h => Or.inr ⟨x, by simp, h⟩
  | x :: y :: ys, h => by
    rw [joinWith_cons_cons, List.mem_append, List.mem_append] at h
    rcases h with (h | h) | h
    · exact Or.inr ⟨x, by simp, h⟩
    · exact Or.inl h
    · rcases mem_joinWith h with h | ⟨e, he, hc⟩
      · exact Or.inl h
      · exact Or.inr ⟨e, List.mem_cons_of_mem _ he, hc⟩

/-- `for … { s += g f + sep }` is `strings.Join` plus a trailing separator -/
theorem flatMap_sep (g : GoString → GoString) (sep : GoString) : ∀ (l : List GoString), l ≠ [] →
    l.flatMap (fun f => g f ++ sep) = joinWith sep (l.map g) ++ sep
  | [], h => absurd rfl h
  | [x], _ => by simp [joinWith_single]
  | x :: y :: ys, _ => by
    have ih := flatMap_sep g sep (y :: ys) (by simp)
    rw [List.flatMap_cons, ih]
    simp only [List.map_cons, joinWith_cons_cons, List.append_assoc]

theorem unescape_joinWith (p : Bool) (esc : GoString → GoString) (sepE sepD : GoString)
    (hesc : ∀ s rest, Spec.unescape p (esc s ++ rest) =
      (Spec.unescape p rest).map (fun r => s ++ r))
    (hsep : ∀ rest, Spec.unescape p (sepE ++ rest) =
      (Spec.unescape p rest).map (fun r => sepD ++ r)) :
    ∀ (l : List GoString) (rest : GoString),
      Spec.unescape p (joinWith sepE (l.map esc) ++ rest) =
        (Spec.unescape p rest).map (fun r => joinWith sepD l ++ r)
  | [], rest => by simp [joinWith_nil]
  | [x], rest => by simp only [List.map_cons, List.map_nil, joinWith_single, hesc]
  | x :: y :: ys, rest => by
    have ih := unescape_joinWith p esc sepE sepD hesc hsep (y :: ys) rest
    rw [List.map_cons, List.map_cons, joinWith_cons_cons, ← List.map_cons, joinWith_cons_cons,
      List.append_assoc, List.append_assoc, hesc, hsep, ih]
    cases Spec.unescape p rest with
    | none => rfl
    | some r => simp only [Option.map_some, List.append_assoc]

theorem splitOn_joinWith (sep : UInt8) (l : List GoString) (hl : l ≠ [])
    (h : ∀ e ∈ l, sep ∉ e) : splitOn sep (joinWith [sep] l) = l :=
  Num.splitOn_joinWith sep l hl h

/-! ### One `name=value` pair and the fold of `Spec.parseQuery` -/

/-- `pair` is the emitted text of a parameter that decodes to `name`, `value` -/
def Enc (pair name value : GoString) : Prop :=
  ∃ en ev, pair = en ++ 61 :: ev ∧ (61 : UInt8) ∉ en ∧ (38 : UInt8) ∉ pair ∧
    Spec.unescape true en = some name ∧ Spec.unescape true ev = some value

/-- the body of the loop of `Spec.parseQuery` -/
def step (m : GoMap (List GoString)) (pair : GoString) : GoMap (List GoString) :=
  if pair = [] then m
  else
    let (k, v) := Spec.cut 61 pair
    match Spec.unescape true k, Spec.unescape true (v.getD []) with
    | some k', some v' => m.set k' ((m.get? k').getD [] ++ [v'])
    | _, _ => m

theorem parseQuery_eq (q : GoString) : Spec.parseQuery q = (splitOn 38 q).foldl step [] := rfl

theorem step_enc {m : GoMap (List GoString)} {pair name value : GoString}
    (h : Enc pair name value) (hk : name ∉ m.keys) : step m pair = m ++ [(name, [value])] := by
  obtain ⟨en, ev, rfl, h61, _, hen, hev⟩ := h
  have hne : en ++ 61 :: ev ≠ [] := by simp
  have hcut := cut_append_sep 61 en ev h61
  unfold step
  rw [if_neg hne, hcut]
  simp only [Option.getD_some, hen, hev, GoMap.get?_eq_none_of_not_mem hk, Option.getD_none,
    List.nil_append]
  exact GoMap.set_of_not_mem m name [value] hk

/-- relation between the emitted parameters and the entries of the values map -/
def EncEntry (pair : GoString) (e : GoString × List GoString) : Prop :=
  ∃ v, e.2 = [v] ∧ Enc pair e.1 v

theorem foldl_step {ps : List GoString} {vals : GoMap (List GoString)}
    (h : Forall2 EncEntry ps vals) :
    ∀ acc : GoMap (List GoString), (acc.keys ++ vals.keys).Nodup →
      ps.foldl step acc = acc ++ vals := by
  induction h with
  | nil => intro acc _; simp
  | @cons pair e ps vals hr _ ih =>
    intro acc hnd
    obtain ⟨name, vs⟩ := e
    obtain ⟨v, hv, henc⟩ := hr
    simp only at hv henc
    subst hv
    have hk : name ∉ acc.keys := by
      intro hmem
      have := (List.nodup_append.1 hnd).2.2 name hmem name (by simp [GoMap.keys])
      exact this rfl
    rw [List.foldl_cons, step_enc henc hk, ih]
    · simp
    · have : (acc ++ [(name, [v])]).keys ++ GoMap.keys vals
          = acc.keys ++ GoMap.keys ((name, [v]) :: vals) := by
        simp [GoMap.keys]
      rw [this]; exact hnd

theorem parseRaw_core (path dpath : GoString) (all : List GoString)
    (vals : GoMap (List GoString)) (hq : (63 : UInt8) ∉ path)
    (hp : Spec.unescape false path = some dpath) (hF : Forall2 EncEntry all vals)
    (hnd : vals.keys.Nodup) :
    Spec.parseRaw (path ++ (if all.isEmpty then [] else [63] ++ joinWith [38] all)) =
      some (dpath, vals) := by
  by_cases he : all = []
  · subst he
    have hv : vals = [] := by cases hF; rfl
    subst hv
    simp only [List.isEmpty_nil, if_true, List.append_nil]
    unfold Spec.parseRaw
    rw [cut_of_not_mem 63 path hq]
    simp only [hp, Option.getD_none, parseQuery_eq, Num.splitOn_nil]
    rfl
  · have hemp : all.isEmpty = false := by
      cases all with
      | nil => exact absurd rfl he
      | cons _ _ => rfl
    simp only [hemp, Bool.false_eq_true, if_false, List.cons_append, List.nil_append]
    unfold Spec.parseRaw
    rw [cut_append_sep 63 path _ hq]
    have hamp : ∀ e ∈ all, (38 : UInt8) ∉ e := by
      intro e hmem
      obtain ⟨b, _, v, _, en, ev, _, _, h38, _⟩ := hF.of_mem_left hmem
      exact h38
    simp only [hp, Option.getD_some, parseQuery_eq, splitOn_joinWith 38 all he hamp]
    rw [foldl_step hF [] (by simpa [GoMap.keys] using hnd)]
    simp

/-! ### Building `Enc`

Every parameter `String()` emits is the query-escaped name, `=`, and an escaped value:
`"fields%5B" + QueryEscape(t) + "%5D="` is `QueryEscape("fields[" + t + "]") + "="`. -/

theorem enc_intro (name : GoString) {ev value : GoString} (h38 : (38 : UInt8) ∉ ev)
    (hev : Spec.unescape true ev = some value) : Enc (queryEscape name ++ 61 :: ev) name value :=
  ⟨queryEscape name, ev, rfl, queryEscape_no_eq name,
    by simp [queryEscape_no_amp name, h38], unescape_queryEscape name, hev⟩

theorem gs_fieldsOpen : gs "fields%5B" = queryEscape sFieldsOpen := (eq_gs (by decide)).symm
theorem gs_pageOpen : gs "page%5B" = queryEscape sPageOpen := (eq_gs (by decide)).symm
theorem gs_close : gs "%5D=" = queryEscape [93] ++ [61] := (eq_gs (by decide)).symm
theorem gs_filter : gs "filter=" = queryEscape sFilter ++ [61] := (eq_gs (by decide)).symm
theorem gs_sort : gs "sort=" = queryEscape sSort ++ [61] := (eq_gs (by decide)).symm

theorem enc_bracket (opn x : GoString) {ev value : GoString} (h38 : (38 : UInt8) ∉ ev)
    (hev : Spec.unescape true ev = some value) :
    Enc (queryEscape opn ++ queryEscape x ++ (queryEscape [93] ++ [61]) ++ ev)
      (opn ++ x ++ [93]) value := by
  have := enc_intro (opn ++ x ++ [93]) h38 hev
  simpa only [queryEscape_append, List.append_assoc, List.singleton_append] using this

theorem unescape_commaList (l : List GoString) :
    Spec.unescape true (joinWith pct2C (l.map queryEscape)) = some (joinWith [44] l) := by
  have := unescape_joinWith true queryEscape pct2C [44] unescape_queryEscape_append
    (fun rest => unescape_pct2C true rest) l []
  simpa [unescape_nil] using this

theorem commaList_no_amp (l : List GoString) :
    (38 : UInt8) ∉ joinWith pct2C (l.map queryEscape) := by
  intro h
  rcases mem_joinWith h with h | ⟨e, he, hc⟩
  · revert h; unfold pct2C; decide
  · obtain ⟨x, _, rfl⟩ := List.mem_map.1 he
    exact queryEscape_no_amp x hc

def encPath (fs : List GoString) : GoString :=
  match fs with
  | [] => []
  | fs => [47] ++ joinWith [47] (fs.map pathEscape)

def decPath (fs : List GoString) : GoString :=
  match fs with
  | [] => []
  | fs => [47] ++ joinWith [47] fs

theorem emittedPath_eq (u : URL) : Spec.emittedPath u = decPath u.fragments := rfl

theorem unescape_encPath (fs : List GoString) :
    Spec.unescape false (encPath fs) = some (decPath fs) := by
  have hs := fun rest => unescape_lit false (c := 47) (by decide) (fun e => by cases e) rest
  cases fs with
  | nil => exact unescape_nil false
  | cons x l =>
    have := unescape_joinWith false pathEscape [47] [47] unescape_pathEscape_append hs (x :: l) []
    rw [List.append_nil, unescape_nil] at this
    show Spec.unescape false (47 :: joinWith [47] ((x :: l).map pathEscape)) = _
    rw [hs, this]
    simp [decPath]

theorem encPath_no_q (fs : List GoString) : (63 : UInt8) ∉ encPath fs := by
  cases fs with
  | nil => simp [encPath]
  | cons x l =>
    show (63 : UInt8) ∉ 47 :: joinWith [47] ((x :: l).map pathEscape)
    intro h
    rcases List.mem_cons.1 h with h | h
    · revert h; decide
    · rcases mem_joinWith h with h | ⟨e, he, hc⟩
      · revert h; decide
      · obtain ⟨y, _, rfl⟩ := List.mem_map.1 he
        exact pathEscape_no_q y hc

/-! ### The four parameter families -/

/-- which family a decoded name belongs to (by its first and third byte) -/
def fam : GoString → Nat
  | 102 :: _ :: 101 :: _ => 0
  | 102 :: _ :: 108 :: _ => 1
  | 112 :: _ => 2
  | 115 :: _ => 3
  | _ => 4

theorem nodup_fam_append {l₁ l₂ : List GoString} (n : Nat) (h₁ : l₁.Nodup) (h₂ : l₂.Nodup)
    (hf₁ : ∀ a ∈ l₁, fam a < n) (hf₂ : ∀ b ∈ l₂, fam b = n) :
    (l₁ ++ l₂).Nodup ∧ ∀ a ∈ l₁ ++ l₂, fam a < n + 1 := by
  refine ⟨List.nodup_append.2 ⟨h₁, h₂, ?_⟩, ?_⟩
  · intro a ha b hb e
    have := hf₁ a ha
    have := hf₂ b hb
    subst e; omega
  · intro a ha
    rcases List.mem_append.1 ha with ha | ha
    · have := hf₁ a ha; omega
    · have := hf₂ a ha; omega

theorem sortStrings_nodup {l : List GoString} (h : l.Nodup) : (Typ.sortStrings l).Nodup :=
  (List.Perm.nodup_iff (DetL.sortStrings_perm l)).2 h

theorem sortStrings_ne_nil {l : List GoString} (h : l ≠ []) : Typ.sortStrings l ≠ [] :=
  fun e => h (List.nil_perm.1 (e ▸ DetL.sortStrings_perm l))

theorem bracket_keys (opn : GoString) (val : GoString → List GoString) (i : Nat)
    (hfam : ∀ k, fam (opn ++ k ++ [93]) = i) {ks : List GoString} (hks : ks.Nodup) :
    (GoMap.keys ((Typ.sortStrings ks).map (fun k => (opn ++ k ++ [93], val k)))).Nodup ∧
    ∀ a ∈ GoMap.keys ((Typ.sortStrings ks).map (fun k => (opn ++ k ++ [93], val k))), fam a = i := by
  have e : GoMap.keys ((Typ.sortStrings ks).map (fun k => (opn ++ k ++ [93], val k))) =
      (Typ.sortStrings ks).map (fun k => opn ++ k ++ [93]) := by
    simp [GoMap.keys, List.map_map, Function.comp_def]
  rw [e]
  refine ⟨List.Pairwise.map _ (fun a b hab e => hab (by simpa using e)) (sortStrings_nodup hks), ?_⟩
  intro a ha
  obtain ⟨k, _, rfl⟩ := List.mem_map.1 ha
  exact hfam k

def fieldPar (u : URL) (t : GoString) : GoString :=
  (gs "fields%5B" ++ queryEscape t ++ gs "%5D=" ++
      ((Typ.sortStrings ((u.params.fields.get? t).getD [])).flatMap
        (fun f => queryEscape f ++ pct2C))).take
    ((gs "fields%5B" ++ queryEscape t ++ gs "%5D=" ++
      ((Typ.sortStrings ((u.params.fields.get? t).getD [])).flatMap
        (fun f => queryEscape f ++ pct2C))).length - 3)

def fieldPars (u : URL) : List GoString :=
  (Typ.sortStrings u.params.fields.keys).map (fieldPar u)

def fieldVals (u : URL) : GoMap (List GoString) :=
  (Typ.sortStrings u.params.fields.keys).map (fun t =>
    (Spec.fieldsName t, [joinWith [44] (Typ.sortStrings ((u.params.fields.get? t).getD []))]))

/-- cutting the trailing "%2C" of a non-empty list -/
theorem take_trailing (a : GoString) (fs : List GoString) (hfs : fs ≠ []) :
    (a ++ fs.flatMap (fun f => queryEscape f ++ pct2C)).take
      ((a ++ fs.flatMap (fun f => queryEscape f ++ pct2C)).length - 3) =
    a ++ joinWith pct2C (fs.map queryEscape) := by
  rw [flatMap_sep queryEscape pct2C fs hfs, ← List.append_assoc]
  exact List.take_left' (by simp [pct2C]; omega)

theorem field_seg (u : URL) (hne : NoEmptySelection u) :
    Forall2 EncEntry (fieldPars u) (fieldVals u) := by
  refine Forall2.of_map _ _ _ (fun t ht => ⟨_, rfl, ?_⟩)
  have ht' : t ∈ u.params.fields.keys := (DetL.sortStrings_perm _).mem_iff.1 ht
  obtain ⟨fs, hfs⟩ := GoMap.mem_keys_get? ht'
  have hfs' : Typ.sortStrings ((u.params.fields.get? t).getD []) ≠ [] := by
    rw [hfs]; exact sortStrings_ne_nil (hne t fs hfs)
  unfold fieldPar
  rw [take_trailing _ _ hfs', gs_fieldsOpen, gs_close]
  exact enc_bracket sFieldsOpen t (commaList_no_amp _) (unescape_commaList _)

def filterPars (u : URL) (env : StringEnv) : List GoString :=
  match u.params.filter with
  | some f => [gs "filter=" ++ queryEscape f]
  | none => if u.params.filterLabel ≠ [] then [gs "filter=" ++ queryEscape (rewriteBrace env.labelBody)] else []

def filterVals (u : URL) (env : StringEnv) : GoMap (List GoString) :=
  match u.params.filter with
  | some f => [(sFilter, [f])]
  | none => if u.params.filterLabel ≠ [] then [(sFilter, [rewriteBrace env.labelBody])] else []

theorem filter_enc (v : GoString) : EncEntry (gs "filter=" ++ queryEscape v) (sFilter, [v]) := by
  refine ⟨v, rfl, ?_⟩
  rw [gs_filter]
  exact enc_intro sFilter (queryEscape_no_amp v) (unescape_queryEscape v)

theorem filter_seg (u : URL) (env : StringEnv) :
    Forall2 EncEntry (filterPars u env) (filterVals u env) ∧
    (filterVals u env).keys.Nodup ∧ ∀ a ∈ (filterVals u env).keys, fam a = 1 := by
  have one : ∀ v, Forall2 EncEntry [gs "filter=" ++ queryEscape v] [(sFilter, [v])] ∧
      (GoMap.keys [(sFilter, [v])]).Nodup ∧ ∀ a ∈ GoMap.keys [(sFilter, [v])], fam a = 1 :=
    fun v => ⟨.cons (filter_enc v) .nil, by simp [GoMap.keys], by simp [GoMap.keys]; rfl⟩
  unfold filterPars filterVals
  cases u.params.filter with
  | some f => exact one f
  | none =>
    by_cases h : u.params.filterLabel ≠ []
    · simp only [if_pos h]; exact one _
    · simp only [if_neg h]; exact ⟨.nil, .nil, fun _ h => nomatch h⟩

def pagePar (u : URL) (k : GoString) : GoString :=
  gs "page%5B" ++ queryEscape k ++ gs "%5D=" ++
    queryEscape (((u.params.page.get? k).map PageVal.text).getD [])

def pagePars (u : URL) : List GoString :=
  if u.isCol then (Typ.sortStrings u.params.page.keys).map (pagePar u) else []

def pageVals (u : URL) : GoMap (List GoString) :=
  if u.isCol then (Typ.sortStrings u.params.page.keys).map (fun k =>
    (Spec.pageName k, [((u.params.page.get? k).map PageVal.text).getD []])) else []

theorem page_seg (u : URL) : Forall2 EncEntry (pagePars u) (pageVals u) := by
  unfold pagePars pageVals
  split
  · refine Forall2.of_map _ _ _ (fun k _ => ⟨_, rfl, ?_⟩)
    unfold pagePar
    rw [gs_pageOpen, gs_close]
    exact enc_bracket sPageOpen k (queryEscape_no_amp _) (unescape_queryEscape _)
  · exact .nil

def sortPars (u : URL) : List GoString :=
  if u.params.sortingRules.isEmpty then []
  else [gs "sort=" ++ joinWith pct2C (u.params.sortingRules.map queryEscape)]

def sortVals (u : URL) : GoMap (List GoString) :=
  if u.params.sortingRules.isEmpty then [] else [(sSort, [joinWith [44] u.params.sortingRules])]

theorem sort_seg (u : URL) :
    Forall2 EncEntry (sortPars u) (sortVals u) ∧
    (sortVals u).keys.Nodup ∧ ∀ a ∈ (sortVals u).keys, fam a = 3 := by
  unfold sortPars sortVals
  split
  · exact ⟨.nil, .nil, fun _ h => nomatch h⟩
  · refine ⟨.cons ⟨_, rfl, ?_⟩ .nil, by simp [GoMap.keys], by simp [GoMap.keys]; rfl⟩
    rw [gs_sort]
    exact enc_intro sSort (commaList_no_amp _) (unescape_commaList _)

/-! ### Assembly -/

theorem string_eq (u : URL) (env : StringEnv) :
    u.string env = encPath u.fragments ++
      (if (fieldPars u ++ filterPars u env ++ pagePars u ++ sortPars u).isEmpty then []
       else [63] ++ joinWith [38] (fieldPars u ++ filterPars u env ++ pagePars u ++ sortPars u)) :=
  rfl

theorem emittedValues_eq (u : URL) (env : StringEnv) :
    Spec.emittedValues u env = fieldVals u ++ filterVals u env ++ pageVals u ++ sortVals u := rfl

theorem emitted_seg (u : URL) (env : StringEnv) (hne : NoEmptySelection u) :
    Forall2 EncEntry (fieldPars u ++ filterPars u env ++ pagePars u ++ sortPars u)
      (fieldVals u ++ filterVals u env ++ pageVals u ++ sortVals u) :=
  Forall2.append (Forall2.append (Forall2.append (field_seg u hne) (filter_seg u env).1) (page_seg u))
    (sort_seg u).1

theorem emitted_keys_nodup (u : URL) (env : StringEnv)
    (hfk : u.params.fields.keys.Nodup) (hpk : u.isCol = true → u.params.page.keys.Nodup) :
    (fieldVals u ++ filterVals u env ++ pageVals u ++ sortVals u).keys.Nodup := by
  have hkeys : (fieldVals u ++ filterVals u env ++ pageVals u ++ sortVals u).keys =
      (fieldVals u).keys ++ (filterVals u env).keys ++ (pageVals u).keys ++ (sortVals u).keys := by
    simp [GoMap.keys]
  have h0 : (fieldVals u).keys.Nodup ∧ ∀ a ∈ (fieldVals u).keys, fam a = 0 :=
    bracket_keys sFieldsOpen _ 0 (fun _ => rfl) hfk
  have h2 : (pageVals u).keys.Nodup ∧ ∀ a ∈ (pageVals u).keys, fam a = 2 := by
    unfold pageVals
    split
    · next hc => exact bracket_keys sPageOpen _ 2 (fun _ => rfl) (hpk hc)
    · exact ⟨.nil, fun _ h => nomatch h⟩
  have h01 := nodup_fam_append 1 h0.1 (filter_seg u env).2.1
    (fun a ha => by rw [h0.2 a ha]; decide) (filter_seg u env).2.2
  have h012 := nodup_fam_append 2 h01.1 h2.1 h01.2 h2.2
  rw [hkeys]
  exact (nodup_fam_append 3 h012.1 (sort_seg u).2.1 h012.2 (sort_seg u).2.2).1

/-- C08 (spec side): parsing the text `URL.String` emits gives the decoded path and one
value per emitted name. -/
theorem parse_string (u : URL) (env : StringEnv) (hne : NoEmptySelection u)
    (hfk : u.params.fields.keys.Nodup) (hpk : u.isCol = true → u.params.page.keys.Nodup) :
    Spec.parseRaw (u.string env) = some (Spec.emittedPath u, Spec.emittedValues u env) := by
  rw [string_eq, emittedValues_eq, emittedPath_eq]
  exact parseRaw_core _ _ _ _ (encPath_no_q _) (unescape_encPath _) (emitted_seg u env hne)
    (emitted_keys_nodup u env hfk hpk)

theorem parse_string' (u : URL) (env : StringEnv) (hne : NoEmptySelection u)
    (hfk : u.params.fields.keys.Nodup) (hpk : u.params.page.keys.Nodup) :
    Spec.parseRaw (u.string env) = some (Spec.emittedPath u, Spec.emittedValues u env) :=
  parse_string u env hne hfk (fun _ => hpk)

end Jsonapi.UrlL.Esc

/-! ### `String()` is canonical -/

namespace Jsonapi.UrlL.Perm
open Jsonapi Esc

theorem fieldPars_congr {u₁ u₂ : URL}
    (hfields : ∀ t, (u₁.params.fields.get? t).map Typ.sortStrings =
      (u₂.params.fields.get? t).map Typ.sortStrings)
    (hk₁ : u₁.params.fields.keys.Nodup) (hk₂ : u₂.params.fields.keys.Nodup) :
    fieldPars u₁ = fieldPars u₂ := by
  have hsome : ∀ k, (u₁.params.fields.get? k).isSome = (u₂.params.fields.get? k).isSome :=
    fun k => by simpa using congrArg Option.isSome (hfields k)
  unfold fieldPars
  rw [sortKeys_eq_of_isSome hk₁ hk₂ hsome]
  apply List.map_congr_left
  intro t _
  unfold fieldPar
  rw [← Option.getD_map Typ.sortStrings, ← Option.getD_map Typ.sortStrings, hfields t]

theorem pagePars_congr {u₁ u₂ : URL} (hcol : u₁.isCol = u₂.isCol)
    (hpage : u₁.isCol = true → ∀ k, u₁.params.page.get? k = u₂.params.page.get? k)
    (hk₁ : u₁.isCol = true → u₁.params.page.keys.Nodup)
    (hk₂ : u₁.isCol = true → u₂.params.page.keys.Nodup) : pagePars u₁ = pagePars u₂ := by
  unfold pagePars
  rw [← hcol]
  split
  · next hc =>
    rw [sortKeys_eq_of_isSome (hk₁ hc) (hk₂ hc) (fun k => by rw [hpage hc k])]
    apply List.map_congr_left
    intro k _
    unfold pagePar
    rw [hpage hc k]
  · rfl

/-- `String()` reads the `fields` and `page` maps only through lookups on the sorted keys. -/
theorem string_canonical (u₁ u₂ : URL) (env : StringEnv)
    (hfr : u₁.fragments = u₂.fragments) (hcol : u₁.isCol = u₂.isCol)
    (hfl : u₁.params.filterLabel = u₂.params.filterLabel) (hf : u₁.params.filter = u₂.params.filter)
    (hs : u₁.params.sortingRules = u₂.params.sortingRules)
    (hfields : ∀ t, (u₁.params.fields.get? t).map Typ.sortStrings = (u₂.params.fields.get? t).map Typ.sortStrings)
    (hk₁ : u₁.params.fields.keys.Nodup) (hk₂ : u₂.params.fields.keys.Nodup)
    (hpage : u₁.isCol = true → ∀ k, u₁.params.page.get? k = u₂.params.page.get? k)
    (hpk₁ : u₁.isCol = true → u₁.params.page.keys.Nodup) (hpk₂ : u₁.isCol = true → u₂.params.page.keys.Nodup) :
    u₁.string env = u₂.string env := by
  rw [string_eq, string_eq, ← hfr, fieldPars_congr hfields hk₁ hk₂,
    pagePars_congr hcol hpage hpk₁ hpk₂]
  unfold filterPars sortPars
  rw [hfl, hf, hs]

end Jsonapi.UrlL.Perm


section
open Jsonapi.UrlL.Esc
#print axioms parse_string
#print axioms parse_string'
#print axioms parseRaw_core
#print axioms splitOn_joinWith
#print axioms foldl_step
#print axioms emitted_keys_nodup
#print axioms Jsonapi.UrlL.Perm.string_canonical
end
