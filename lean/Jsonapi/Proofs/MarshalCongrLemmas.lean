/-
Helpers for C11 (determinism of the marshaled tree): what `Spec.resourceObject` and
`Spec.documentTree` do not depend on - the iteration order of maps, the order and repetition of
selected names, the order of to-many IDs and of included resources.
-/
import Jsonapi.Proofs.MarshalSpecLemmas
namespace Jsonapi.DetL
open Jsonapi MarshalL

/-! ### congruence of the resource object -/

theorem buildSelfLink_congr {r₁ r₂ : ResView} (ht : r₁.typeName = r₂.typeName)
    (hi : r₁.id = r₂.id) (p : GoString) : buildSelfLink r₁ p = buildSelfLink r₂ p := by
  unfold buildSelfLink
  rw [ht, hi]

theorem relObject_congr {r₁ r₂ : ResView} (ht : r₁.typeName = r₂.typeName)
    (hi : r₁.id = r₂.id) (p : GoString) (rel : Rel) (w : Bool)
    (hd : Spec.relDataJson r₁ rel = Spec.relDataJson r₂ rel) :
    Spec.relObject r₁ p rel w = Spec.relObject r₂ p rel w := by
  unfold Spec.relObject buildRelationshipLinks
  rw [hd, buildSelfLink_congr ht hi]

theorem contains_congr {f₁ f₂ : List GoString} (hf : ∀ x, x ∈ f₁ ↔ x ∈ f₂) (x : GoString) :
    f₁.contains x = f₂.contains x := by
  rw [Bool.eq_iff_iff, List.contains_iff_mem, List.contains_iff_mem]
  exact hf x

theorem resourceObject_congr_core {r₁ r₂ : ResView} {p : GoString} {f₁ f₂ : List GoString}
    {rd₁ rd₂ : GoMap (List GoString)} (m : Meta)
    (ht : r₁.typeName = r₂.typeName) (hi : r₁.id = r₂.id)
    (hae : (attrMembers r₁ f₁).isEmpty = (attrMembers r₂ f₂).isEmpty)
    (ha : sortMembers (attrMembers r₁ f₁) = sortMembers (attrMembers r₂ f₂))
    (hre : (relMembers r₁ p f₁ (wantOf r₁ rd₁) r₁.rels).isEmpty =
           (relMembers r₂ p f₂ (wantOf r₂ rd₂) r₂.rels).isEmpty)
    (hr : sortMembers (relMembers r₁ p f₁ (wantOf r₁ rd₁) r₁.rels) =
          sortMembers (relMembers r₂ p f₂ (wantOf r₂ rd₂) r₂.rels)) :
    Spec.resourceObject r₁ p f₁ rd₁ m = Spec.resourceObject r₂ p f₂ rd₂ m := by
  rw [resourceObject_eq, resourceObject_eq]
  unfold topMembers
  rw [hae, ha, hre, hr, buildSelfLink_congr ht hi, ht, hi]

theorem selected_congr {α : Type} {key : α → GoString} {val₁ val₂ : α → Json}
    {f₁ f₂ : List GoString} {l : List α}
    (hf : ∀ x, x ∈ f₁ ↔ x ∈ f₂) (hv : ∀ a ∈ l, val₁ a = val₂ a) :
    (l.filter (fun a => f₁.contains (key a))).map (fun a => (key a, val₁ a)) =
    (l.filter (fun a => f₂.contains (key a))).map (fun a => (key a, val₂ a)) := by
  rw [show (fun a => f₁.contains (key a)) = (fun a => f₂.contains (key a)) from
    funext (fun a => contains_congr hf _)]
  exact List.map_congr_left (fun a ha => by rw [hv a (List.mem_filter.1 ha).1])

theorem relDataJson_congr_get {r₁ r₂ : ResView} (rel : Rel)
    (hg : r₁.get rel.fromName = r₂.get rel.fromName) :
    Spec.relDataJson r₁ rel = Spec.relDataJson r₂ rel := by
  unfold Spec.relDataJson
  rw [hg]

/-- Map keys are the names of the definitions stored under them, and attribute and
relationship names are pairwise distinct (what `Type.AddAttr` / `AddRel` maintain). -/
def keyed (r : ResView) : Prop :=
  (∀ p ∈ r.attrs, p.1 = p.2.name) ∧ (∀ p ∈ r.rels, p.1 = p.2.fromName) ∧
  (r.attrs.keys ++ r.rels.keys).Nodup

/-- The part of `keyed` that permutation invariance needs: no two attributes share a
name and no two relationships share a name. -/
def distinctNames (r : ResView) : Prop :=
  (r.attrs.vals.map (·.name)).Nodup ∧ (r.rels.vals.map (·.fromName)).Nodup

theorem keyed_distinctNames {r : ResView} (h : keyed r) : distinctNames r := by
  have hn := List.nodup_append.1 h.2.2
  exact ⟨GoMap.vals_map_eq_keys _ _ h.1 ▸ hn.1, GoMap.vals_map_eq_keys _ _ h.2.1 ▸ hn.2.1⟩

theorem keyed_rel_not_attr {r : ResView} (h : keyed r) {k : GoString} (hk : k ∈ r.rels.keys) :
    ∀ a ∈ r.attrs.vals, a.name ≠ k := by
  intro a ha heq
  have hmem : a.name ∈ r.attrs.vals.map (·.name) := List.mem_map_of_mem (f := (·.name)) ha
  rw [GoMap.vals_map_eq_keys _ _ h.1] at hmem
  exact (List.nodup_append.1 h.2.2).2.2 a.name hmem k hk heq

/-- `r₂` is `r₁` except that values that are ID lists (and are not read as attributes)
may have their IDs in another order. -/
def sameUpToToMany (r₁ r₂ : ResView) : Prop :=
  r₁.typeName = r₂.typeName ∧ r₁.id = r₂.id ∧ r₁.attrs = r₂.attrs ∧ r₁.rels = r₂.rels ∧
  ∀ k, r₁.get k = r₂.get k ∨
    ((∀ a ∈ r₁.attrs.vals, a.name ≠ k) ∧
      ∃ l l', r₁.get k = .strs l ∧ r₂.get k = .strs l' ∧ l.Perm l')

theorem relDataJson_strs {r₁ r₂ : ResView} (rel : Rel) {l l' : List GoString}
    (h₁ : r₁.get rel.fromName = .strs l) (h₂ : r₂.get rel.fromName = .strs l') (hp : l.Perm l') :
    Spec.relDataJson r₁ rel = Spec.relDataJson r₂ rel := by
  unfold Spec.relDataJson
  rw [h₁, h₂]
  cases rel.toOne
  · simp only [Bool.false_eq_true, if_false]
    rw [sortStrings_eq_of_perm hp]
  · simp only [if_true]

/-! ### the resource after a marshal: to-many lists sorted -/

def sortVal : GoVal → GoVal
  | .strs l => .strs (Typ.sortStrings l)
  | v => v

/-- Every `[]string` value replaced by its sorted copy (what `sort.Strings` in
`MarshalResource` leaves behind, at most). -/
def sortedToMany (r : ResView) : ResView :=
  { r with vals := r.vals.map (fun p => (p.1, sortVal p.2)) }

theorem sortedToMany_get (r : ResView) (k : GoString) :
    (sortedToMany r).get k = sortVal (r.get k) := by
  unfold sortedToMany ResView.get
  simp only
  rw [get?_map_val]
  cases GoMap.get? r.vals k <;> rfl

/-- No attribute holds a `[]string` (attribute values have one of the attribute types). -/
def attrsScalar (r : ResView) : Prop := ∀ a ∈ r.attrs.vals, ∀ l, r.get a.name ≠ .strs l

theorem sortVal_cases (v : GoVal) :
    sortVal v = v ∨ ∃ l, v = .strs l ∧ sortVal v = .strs (Typ.sortStrings l) := by
  cases v
  case strs l => exact Or.inr ⟨l, rfl, rfl⟩
  all_goals exact Or.inl rfl

theorem sortedToMany_same {r : ResView} (h : attrsScalar r) : sameUpToToMany (sortedToMany r) r := by
  refine ⟨rfl, rfl, rfl, rfl, ?_⟩
  intro k
  rw [sortedToMany_get]
  rcases sortVal_cases (r.get k) with h' | ⟨l, h₁, h₂⟩
  · exact Or.inl h'
  · refine Or.inr ⟨?_, Typ.sortStrings l, l, h₂, h₁, sortStrings_perm l⟩
    intro a ha heq
    exact h a ha l (heq ▸ h₁)

theorem sortedToMany_idem (r : ResView) : sortedToMany (sortedToMany r) = sortedToMany r := by
  unfold sortedToMany
  simp only [List.map_map]
  congr 1
  apply List.map_congr_left
  intro p _
  simp only [Function.comp]
  cases p.2 <;> simp [sortVal, sortStrings_idem]

/-! ### documents -/

theorem documentTree_congr {d₁ d₂ : Document} {f₁ f₂ : GoMap (List GoString)} (s : GoString)
    (ho : isOther d₁.data = isOther d₂.data)
    (he : d₁.errors = d₂.errors) (hm : d₁.dmeta = d₂.dmeta)
    (hd : Spec.dataMember d₁ f₁ = Spec.dataMember d₂ f₂)
    (hi : (sortById d₁.included).map (specObj d₁ f₁) = (sortById d₂.included).map (specObj d₂ f₂))
    (hl : sortMembers (docLinks d₁ s) = sortMembers (docLinks d₂ s)) :
    Spec.documentTree d₁ f₁ s = Spec.documentTree d₂ f₂ s := by
  rw [documentTree_eq, documentTree_eq, docBody_eq, docBody_eq]
  unfold shapeMembers bodyWith
  rw [← dataMember_eq, ← dataMember_eq, ho, he, hm, hd, hi, hl]

theorem dataMember_congr {d₁ d₂ : Document} {f₁ f₂ : GoMap (List GoString)} (g : ResView → ResView)
    (hdata : d₂.data = mapRes g d₁.data) (he : d₁.errors = d₂.errors)
    (hres : ∀ r ∈ dataResources d₁.data, specObj d₁ f₁ r = specObj d₂ f₂ (g r)) :
    Spec.dataMember d₁ f₁ = Spec.dataMember d₂ f₂ := by
  rw [dataMember_eq, dataMember_eq]
  unfold dataWith
  rw [hdata, ← he]
  cases hd : d₁.data with
  | res r =>
    simp only [mapRes]
    rw [hres r (by rw [hd]; exact List.mem_singleton.2 rfl)]
  | col tn ms =>
    simp only [mapRes, List.map_map]
    congr 2
    apply List.map_congr_left
    intro r hr
    exact hres r (by rw [hd]; exact hr)
  | _ => rfl

theorem incMembers_congr {d₁ d₂ : Document} {f₁ f₂ : GoMap (List GoString)} (h : ResView → ResView)
    (hinc : sortById d₂.included = (sortById d₁.included).map h)
    (hres : ∀ r ∈ d₁.included, specObj d₁ f₁ r = specObj d₂ f₂ (h r)) :
    (sortById d₁.included).map (specObj d₁ f₁) = (sortById d₂.included).map (specObj d₂ f₂) := by
  rw [hinc, List.map_map]
  apply List.map_congr_left
  intro r hr
  exact hres r ((sortById_perm _).mem_iff.1 hr)

theorem docLinks_perm {d₁ d₂ : Document} (s : GoString) (hp : d₁.links.Perm d₂.links) :
    (docLinks d₁ s).Perm (docLinks d₂ s) := by
  unfold docLinks
  exact (((hp.filter _).map _).append (List.Perm.refl _))

theorem docLinks_keys_nodup (d : Document) (s : GoString)
    (hnd : (d.links.map (·.1)).Nodup) : ((docLinks d s).map (·.1)).Nodup := by
  unfold docLinks
  rw [List.map_append, List.map_map]
  refine List.nodup_append.2 ⟨?_, by simp, ?_⟩
  · exact List.Nodup.sublist ((List.filter_sublist).map _) hnd
  · intro a ha b hb
    rcases List.mem_map.1 ha with ⟨q, hq, rfl⟩
    have hne := (List.mem_filter.1 hq).2
    simp only [List.map_cons, List.map_nil, List.mem_singleton] at hb
    subst hb
    simpa using hne

theorem documentTree_after (g h : ResView → ResView) (d : Document)
    (f : GoMap (List GoString)) (s : GoString)
    (hgt : ∀ r, (g r).typeName = r.typeName)
    (hht : ∀ r, (h r).typeName = r.typeName) (hhi : ∀ r, (h r).id = r.id)
    (hg : ∀ r ∈ dataResources d.data, ∀ p fl rd,
      Spec.resourceObject (g r) p fl rd = Spec.resourceObject r p fl rd)
    (hh : ∀ r ∈ d.included, ∀ p fl rd,
      Spec.resourceObject (h r) p fl rd = Spec.resourceObject r p fl rd) :
    Spec.documentTree { d with data := mapRes g d.data, included := (sortById d.included).map h } f s =
    Spec.documentTree d f s := by
  symm
  refine documentTree_congr s (isOther_mapRes g d.data).symm rfl rfl ?_ ?_ rfl
  · refine dataMember_congr g rfl rfl (fun r hr => ?_)
    show _ = Spec.resourceObject (g r) d.prePath (Spec.selection f (g r).typeName) d.relData
    rw [hgt, hg r hr]
  · refine incMembers_congr h (sortById_map_of_sorted h hhi d.included) (fun r hr => ?_)
    show _ = Spec.resourceObject (h r) d.prePath (Spec.selection f (h r).typeName) d.relData
    rw [hht, hh r hr]

/-! ### why "not an attribute" is needed: an attribute holding a `[]string` -/

/-- A resource of type "t", ID "1", whose only attribute "a" holds the `[]string` `ids`. -/
def cexRes (ids : List GoString) : ResView :=
  { typeName := [116], id := [49],
    attrs := [([97], { name := [97], ty := 1, nullable := false })], rels := [],
    vals := [([97], .strs ids)] }

theorem cex_attrMembers (ids : List GoString) :
    attrMembers (cexRes ids) [[97]] = [([97], Json.arr (ids.map .str))] := by
  simp [attrMembers, cexRes, GoMap.vals, ResView.get, GoMap.get?, encodeAttr, encodeVal]

theorem cex_ne :
    Spec.resourceObject (cexRes [[98], [97]]) [] [[97]] [] ≠
    Spec.resourceObject (cexRes [[97], [98]]) [] [[97]] [] := by
  intro h
  have h1 := resObj_get_attributes (cexRes [[98], [97]]) [] [[97]] [] []
  rw [h, resObj_get_attributes, cex_attrMembers, cex_attrMembers] at h1
  simp [sortMembers] at h1

end Jsonapi.DetL
