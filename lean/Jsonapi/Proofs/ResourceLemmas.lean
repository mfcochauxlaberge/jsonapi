/- For C17: `check` and Get on a well-formed type, and SoftResource Set against the abstract
history specification (`Hist`, `SetHistOk`, `Typ.fieldKeys` are defined here). -/
import Jsonapi.Proofs.SoftLemmas
import Jsonapi.Spec.Resource
import Jsonapi.Model.Unmarshal
namespace Jsonapi
open GoMap

/-! ### `checkData` on a well-formed type -/

def Typ.fieldKeys (t : Typ) : List GoString := t.attrs.keys ++ t.rels.keys

/-- The zero value `check` stores for a field. -/
def rawZero (t : Typ) (f : GoString) : GoVal :=
  match t.attrs.get? f with
  | some a => a.zero
  | none => match t.rels.get? f with
    | some r => r.zero
    | none => .nil

theorem canon_relZero (r : Rel) : Spec.canon r.zero = r.zero := by
  unfold Rel.zero; split <;> rfl

theorem canon_rawZero (t : Typ) (f : GoString) : Spec.canon (rawZero t f) = Spec.zeroOf t f := by
  unfold rawZero Spec.zeroOf
  cases t.attrs.get? f with
  | some a => rfl
  | none =>
    cases t.rels.get? f with
    | some r => exact canon_relZero r
    | none => rfl

theorem canon_idem (v : GoVal) : Spec.canon (Spec.canon v) = Spec.canon v := by
  fun_cases Spec.canon v
  case case4 h1 h2 h3 => exact Spec.canon.eq_4 v h1 h2 h3
  all_goals rfl

theorem checkData_spec {t : Typ} (ht : TypWF t) (d : GoMap GoVal)
    (_hd : ∀ x ∈ keys d, x ∈ t.fieldKeys) :
    (∀ x ∈ keys (Soft.checkData t d), x ∈ t.fieldKeys) ∧
    ∀ f ∈ t.fieldKeys, (Soft.checkData t d).get? f = some ((d.get? f).getD (rawZero t f)) :=
  ⟨fun x hx => (Spec.isField_iff_mem t x).1 ((Soft.has_checkData ht.keyed d x).symm.trans (has_iff_mem_keys.2 hx)),
   fun f hf => Soft.checkData_get?_field ht.keyed d ((Spec.isField_iff_mem t f).2 hf)⟩

/-! ### Histories of Set calls and the abstract resource -/

abbrev Hist := List (GoString × GoVal)

/-- Every call of the history is well-typed for the type. -/
def SetHistOk (t : Typ) (h : Hist) : Prop := ∀ p ∈ h, Spec.setOk t p.1 p.2 = true

theorem specGet_nil (t : Typ) (f : GoString) : Spec.specGet t [] f = Spec.zeroOf t f := rfl

theorem specGet_snoc (t : Typ) (h : Hist) (k : GoString) (v : GoVal) (f : GoString) :
    Spec.specGet t (h ++ [(k, v)]) f = if k = f then Spec.canon v else Spec.specGet t h f := by
  unfold Spec.specGet
  simp only [List.reverse_append, List.reverse_cons, List.reverse_nil, List.nil_append,
    List.cons_append, List.find?_cons]
  by_cases e : k = f <;> simp [e]

theorem specId_nil : Spec.specId [] = [] := rfl

theorem specId_snoc (h : Hist) (k : GoString) (v : GoVal) :
    Spec.specId (h ++ [(k, v)]) = if k = idName then idOf v else Spec.specId h := by
  unfold Spec.specId
  rw [List.reverse_append, List.reverse_singleton, List.singleton_append, List.find?_cons]
  by_cases e : k = idName
  · subst e
    simp only [decide_true, if_true]
    fun_cases idOf v
    · rfl
    · rename_i hne
      split
      · rename_i heq; cases heq; exact (hne _ rfl).elim
      · rfl
  · simp only [e, decide_false, if_false]

theorem namesOk_mem {t : Typ} (hn : Spec.namesOk t = true) {f : GoString} (hf : f ∈ t.fieldKeys) :
    f ≠ idName ∧ f ≠ [] := by
  unfold Spec.namesOk at hn
  rw [List.all_eq_true] at hn
  have := hn f hf
  simpa using this

theorem Kind.code_of_ofCode? {n : Nat} {k : Kind} (h : Kind.ofCode? n = some k) : k.code = n := by
  unfold Kind.ofCode? at h
  have := List.find?_some h
  simpa using this

theorem hasAttrType_cases {v : GoVal} {k : Kind} {n : Bool} (h : v.hasAttrType k n = true) :
    (∃ p, v = mkVal k n p ∧ k.payOk p = true) ∨ (n = true ∧ v = .ptr k none) := by
  cases v with
  | val k' p =>
    simp only [GoVal.hasAttrType, Bool.and_eq_true, Bool.not_eq_true', decide_eq_true_eq] at h
    obtain ⟨⟨rfl, rfl⟩, hp⟩ := h
    exact .inl ⟨p, rfl, hp⟩
  | ptr k' o =>
    cases o <;> simp only [GoVal.hasAttrType, Bool.and_eq_true, decide_eq_true_eq] at h
    · obtain ⟨rfl, rfl⟩ := h; exact .inr ⟨rfl, rfl⟩
    · obtain ⟨⟨rfl, rfl⟩, hp⟩ := h; exact .inl ⟨_, rfl, hp⟩
  | _ => cases h

theorem attrType_of_hasAttrType {v : GoVal} {kind : Kind} {n : Bool} {ty : Nat}
    (hk : Kind.ofCode? ty = some kind) (h : v.hasAttrType kind n = true) : v.attrType = (ty, n) := by
  have hc := Kind.code_of_ofCode? hk
  rcases hasAttrType_cases h with ⟨p, rfl, -⟩ | ⟨rfl, rfl⟩
  · cases n <;> simp [mkVal, GoVal.attrType, hc]
  · simp [GoVal.attrType, hc]

/-! ### SoftResource: Get and Set against the history -/

/-- What holds of a soft resource after the calls of `h`. -/
structure SoftInv (t : Typ) (h : Hist) (s : Soft) : Prop where
  typ : s.typ = t
  id : s.id = Spec.specId h
  keys : ∀ x ∈ keys s.data, x ∈ t.fieldKeys
  vals : ∀ f ∈ t.fieldKeys, Spec.canon ((s.data.get? f).getD (rawZero t f)) = Spec.specGet t h f

theorem Soft.get_field {t : Typ} (ht : TypWF t) (s : Soft) (hs : s.typ = t)
    (hk : ∀ x ∈ keys s.data, x ∈ t.fieldKeys) {f : GoString} (hf : f ∈ t.fieldKeys)
    (hid : f ≠ idName) : s.get f = (s.data.get? f).getD (rawZero t f) := by
  subst hs
  rw [Soft.get_eq ht.keyed, if_neg hid, if_pos ((Spec.isField_iff_mem _ f).2 hf)]
  rfl

theorem Soft.view_get {t : Typ} (ht : TypWF t) (s : Soft) (hs : s.typ = t)
    (hk : ∀ x ∈ keys s.data, x ∈ t.fieldKeys) {f : GoString} (hf : f ∈ t.fieldKeys)
    (hid : f ≠ idName) : s.view.get f = s.get f := by
  rw [Soft.get_field ht s hs hk hf hid]
  subst hs
  exact Soft.view_get_eq ht.keyed s.id s.data ((Spec.isField_iff_mem _ f).2 hf) hid

theorem SoftInv.init (t : Typ) : SoftInv t [] { typ := t, id := [], data := [] } :=
  ⟨rfl, rfl, (by intro x hx; cases hx), (by
    intro f _; simp only [get?, Option.getD_none]; rw [canon_rawZero]; rfl)⟩

theorem Spec.accepts_of_setOk {t : Typ} {k : GoString} {v : GoVal} (hk : k ≠ idName)
    (h : Spec.setOk t k v = true) :
    Spec.accepts t k v = true ∧ Spec.canon (Spec.stored t k v) = Spec.canon v := by
  unfold Spec.setOk at h
  unfold Spec.accepts Spec.stored
  rw [if_neg hk] at h
  cases ha : t.attrs.get? k with
  | none => rw [ha] at h; exact ⟨h, rfl⟩
  | some a =>
    simp only [ha] at h ⊢
    cases hkind : Kind.ofCode? a.ty with
    | none => rw [hkind] at h; cases h
    | some kind =>
      simp only [hkind, Bool.or_eq_true, Bool.and_eq_true, decide_eq_true_eq] at h
      by_cases hty : v.attrType = (a.ty, a.nullable)
      · simp [hty]
      · rcases h with h | ⟨hnul, hnil⟩
        · exact absurd (attrType_of_hasAttrType hkind h) hty
        · subst hnil
          rw [hnul] at hty
          simp [hty, hnul, Attr.zero, hkind, GoVal.zero, Spec.canon]

theorem SoftInv.step {t : Typ} (ht : TypWF t) (hn : Spec.namesOk t = true) {h : Hist} {s : Soft}
    (inv : SoftInv t h s) (k : GoString) (v : GoVal) (hok : Spec.setOk t k v = true) :
    SoftInv t (h ++ [(k, v)]) (s.set k v) := by
  obtain ⟨t', id, d⟩ := s
  obtain ⟨hty, hid, hkeys, hvals⟩ := inv
  subst hty
  simp only [] at hid hkeys hvals
  obtain ⟨hck, hcv⟩ := checkData_spec ht d hkeys
  by_cases hkid : k = idName
  · subst hkid
    rw [Soft.set_id]
    refine ⟨rfl, by rw [specId_snoc, if_pos rfl], hck, fun f hf => ?_⟩
    rw [specGet_snoc, if_neg (fun e => (namesOk_mem hn hf).1 e.symm), hcv f hf]
    exact hvals f hf
  · obtain ⟨hacc, hst⟩ := Spec.accepts_of_setOk hkid hok
    have hkf := (Spec.isField_iff_mem _ k).1 (Spec.accepts_isField hacc)
    rw [Soft.set_eq _ _ _ _ _ hkid, if_pos hacc]
    refine ⟨rfl, by rw [specId_snoc, if_neg hkid]; exact hid, fun x hx => ?_, fun f hf => ?_⟩
    · exact (keys_set_subset _ _ _ x hx).elim (hck x) (· ▸ hkf)
    · rw [specGet_snoc]
      by_cases e : k = f
      · subst e; rw [if_pos rfl, get?_set_self]; exact hst
      · rw [if_neg e, get?_set_ne _ _ _ _ (fun e' => e e'.symm), hcv f hf]; exact hvals f hf

theorem SoftInv.run {t : Typ} (ht : TypWF t) (hn : Spec.namesOk t = true) (h : Hist) (hok : SetHistOk t h) :
    ∀ (pre : Hist) (s : Soft), SoftInv t pre s →
      SoftInv t (pre ++ h) (h.foldl (fun s p => s.set p.1 p.2) s) := by
  induction h with
  | nil => intro pre s inv; simpa using inv
  | cons p h ih =>
    intro pre s inv
    have h1 := SoftInv.step ht hn inv p.1 p.2 (hok p List.mem_cons_self)
    have h2 := ih (fun q hq => hok q (List.mem_cons_of_mem _ hq)) _ _ h1
    simpa [List.append_assoc] using h2

end Jsonapi
