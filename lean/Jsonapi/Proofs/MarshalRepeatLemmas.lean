/-
Lemmas for Props/C11R.lean: marshaling the state `marshalResource` / `marshalDocument` leave
behind (`postRes`, `postDoc`) leaves it unchanged. Nothing here needs a hypothesis on the
resource: the post-state is a fixed point of the in-place sorts whatever the resource looks like
(the TREE of the second marshal is the first one's only on the domain `keyedWf`, see
Props/C11R.lean).
-/
import Jsonapi.Props.C11M
import Jsonapi.Proofs.FilterLemmas
namespace Jsonapi
namespace RepL
open MarshalL DetL

/-! ### a second run of the relationships loop -/

theorem set_of_get? {β : Type} (m : GoMap β) (k : GoString) (v : β) (h : m.get? k = some v) :
    m.set k v = m := by
  induction m with
  | nil => cases h
  | cons p m ih =>
    obtain ⟨k', v'⟩ := p
    unfold GoMap.set
    unfold GoMap.get? at h
    by_cases e : k' = k
    · simp only [e, if_true, Option.some.injEq] at h
      simp only [e, if_true, h]
    · simp only [e, if_false] at h
      simp only [e, if_false]
      rw [ih h]

/-- the ID list under `k`, if there is one, is sorted -/
def Settled (r : ResView) (k : GoString) : Prop :=
  ∀ ids, r.get k = .strs ids → Typ.sortStrings ids = ids

theorem sortAt_of_settled {r : ResView} {k : GoString} (h : Settled r k) : sortAt r k = r := by
  unfold sortAt
  split
  · rename_i ids hg
    rw [h ids hg]
    unfold ResView.get at hg
    cases hv : r.vals.get? k with
    | none => rw [hv] at hg; cases hg
    | some v =>
      rw [hv] at hg
      cases hg
      rw [set_of_get? _ _ _ hv]
  · rfl

theorem settled_sortAt (r : ResView) (k' k : GoString) (h : k = k' ∨ Settled r k) :
    Settled (sortAt r k') k := by
  unfold sortAt
  split
  · rename_i ids hg
    intro ids' hg'
    rw [get_set] at hg'
    split at hg'
    · cases hg'; exact sortStrings_idem ids
    · rename_i hne
      exact (h.resolve_left hne) ids' hg'
  · rcases h with rfl | h
    · intro ids hg
      rename_i hn
      exact absurd hg (hn ids)
    · exact h

/-- the relationships the loop sorts: selected, data wanted, to-many -/
def Sorts (fields want : List GoString) (q : GoString × Rel) : Bool :=
  fields.contains q.2.fromName && (want.contains q.2.fromName && !q.2.toOne)

theorem relStepP_snd (prepath : GoString) (fields want : List GoString)
    (s : List (GoString × Json) × ResView) (q : GoString × Rel) :
    (relStepP prepath fields want s q).2 =
      if Sorts fields want q then sortAt s.2 q.2.fromName else s.2 := by
  unfold relStepP Sorts
  cases fields.contains q.2.fromName <;> cases (want.contains q.2.fromName && !q.2.toOne) <;> rfl

theorem fold_settles (prepath : GoString) (fields want : List GoString)
    (l : List (GoString × Rel)) (s : List (GoString × Json) × ResView) :
    ∀ q ∈ l, Sorts fields want q = true → Settled (l.foldl (relStepP prepath fields want) s).2 q.2.fromName := by
  have := fold_inv' (relStepP prepath fields want)
    (fun s rest => ∀ q ∈ l, q ∈ rest ∨ (Sorts fields want q = true → Settled s.2 q.2.fromName))
    (fun s a rest hs q hq => ?_) l s (fun q hq => Or.inl hq)
  · exact fun q hq => (this q hq).resolve_left (fun h => nomatch h)
  · rw [relStepP_snd]
    rcases hs q hq with hm | hd
    · rcases List.mem_cons.1 hm with rfl | hm
      · refine Or.inr (fun hs => ?_)
        rw [if_pos hs]
        exact settled_sortAt _ _ _ (Or.inl rfl)
      · exact Or.inl hm
    · refine Or.inr (fun hs => ?_)
      split
      · exact settled_sortAt _ _ _ (Or.inr (hd hs))
      · exact hd hs

theorem fold_fixed (prepath : GoString) (fields want : List GoString)
    (l : List (GoString × Rel)) (m : List (GoString × Json)) (r1 : ResView)
    (h : ∀ q ∈ l, Sorts fields want q = true → Settled r1 q.2.fromName) :
    (l.foldl (relStepP prepath fields want) (m, r1)).2 = r1 := by
  refine (fold_inv' (relStepP prepath fields want)
    (fun s rest => s.2 = r1 ∧ ∀ q ∈ rest, Sorts fields want q = true → Settled r1 q.2.fromName)
    (fun s a rest hs => ⟨?_, fun q hq => hs.2 q (List.mem_cons_of_mem _ hq)⟩) l (m, r1) ⟨rfl, h⟩).1
  rw [relStepP_snd, hs.1]
  split
  · rename_i hsa
    exact sortAt_of_settled (hs.2 a List.mem_cons_self hsa)
  · rfl

/-- Marshaling the resource a marshal left behind leaves it exactly as it is: the in-place
sorts have already happened. For EVERY resource. -/
theorem postRes_idem (r : ResView) (prepath : GoString) (fields : List GoString)
    (relData : GoMap (List GoString)) :
    postRes (postRes r prepath fields relData) prepath fields relData =
      postRes r prepath fields relData := by
  cases hf : relsFold r prepath fields relData with
  | ok s =>
    have e1 : postRes r prepath fields relData = s.2 := by unfold postRes; rw [hf]
    have hs := e1 ▸ postRes_sameUpTo r prepath fields relData
    rw [e1]
    unfold postRes
    cases hf2 : relsFold s.2 prepath fields relData with
    | ok s2 =>
      show s2.2 = s.2
      rw [relsFold_ok hf2, hs.2.2.2.1, show wantOf s.2 relData = wantOf r relData by
        unfold wantOf; rw [hs.1]]
      apply fold_fixed
      rw [relsFold_ok hf]
      exact fold_settles _ _ _ _ _
    | err => rfl
    | panic => rfl
  | err =>
    have e1 : postRes r prepath fields relData = r := by unfold postRes; rw [hf]
    rw [e1, e1]
  | panic =>
    have e1 : postRes r prepath fields relData = r := by unfold postRes; rw [hf]
    rw [e1, e1]

/-! ### the post-state of a document is a fixed point -/

theorem postR_struct (d : Document) (f : GoMap (List GoString)) (r : ResView) :
    (postR d f r).typeName = r.typeName ∧ (postR d f r).id = r.id :=
  ⟨(postRes_sameUpTo r _ _ _).1, (postRes_sameUpTo r _ _ _).2.1⟩

theorem postR_idem (d : Document) (f : GoMap (List GoString)) (r : ResView) :
    postR d f (postR d f r) = postR d f r := by
  unfold postR
  rw [(postRes_sameUpTo r _ _ _).1]
  exact postRes_idem r _ _ _

theorem noData_postDoc (d : Document) (f : GoMap (List GoString)) :
    noData (postDoc d f) = noData d := by
  unfold noData postDoc
  cases d.data <;> rfl

theorem postDoc_idem (d : Document) (f : GoMap (List GoString)) :
    postDoc (postDoc d f) f = postDoc d f := by
  have hn := noData_postDoc d f
  unfold postDoc at hn ⊢
  simp only [hn]
  congr 1
  · show mapRes (postR d f) (mapRes (postR d f) d.data) = _
    cases d.data <;> simp [mapRes, postR_idem]
  · cases noData d
    · show (sortById ((sortById d.included).map (postR d f))).map (postR d f) = _
      rw [sortById_map_of_sorted _ (fun r => (postR_struct d f r).2), List.map_map]
      exact List.map_congr_left (fun r _ => postR_idem d f r)
    · exact sortById_idem _

/-! ### on the domain `keyedWf` -/

/-- `wf` does not look inside an ID list -/
theorem wf_congr {r r' : ResView} (ha : r'.attrs = r.attrs) (hr : r'.rels = r.rels)
    (hg : ∀ k, r'.get k = r.get k ∨ ∃ l l', r.get k = .strs l ∧ r'.get k = .strs l') :
    r'.wf = r.wf := by
  unfold ResView.wf
  rw [ha, hr]
  congr 1
  · congr 1
    funext p
    rcases hg p.1 with e | ⟨l, l', e1, e2⟩
    · rw [e]
    · rw [e1, e2]; simp [GoVal.hasAttrType]
  · congr 1
    funext p
    rcases hg p.1 with e | ⟨l, l', e1, e2⟩
    · rw [e]
    · rw [e1, e2]

theorem attrsScalar_of_keyedWf {r : ResView} (hr : r.keyedWf) : attrsScalar r := by
  intro a hmem l hg
  obtain ⟨p, hp, rfl⟩ := List.mem_map.1 hmem
  have hget : r.attrs.get? p.1 = some p.2 :=
    GoMap.get?_of_mem_nodup (List.nodup_append.1 hr.2.2.2).1 (by cases p; exact hp)
  obtain ⟨_, kk, _, hty⟩ := wf_attr hr.1 hget
  rw [hr.2.1 p hp, hg] at hty
  rcases hty with h' | ⟨_, h'⟩
  · simp [GoVal.hasAttrType] at h'
  · cases h'

theorem sameUpToToMany_of_sameUpTo {r r' : ResView} (h : SameUpTo r r') (hs : attrsScalar r) :
    sameUpToToMany r' r := by
  obtain ⟨ht, hi, ha, hrl, hg⟩ := h
  refine ⟨ht, hi, ha, hrl, fun k => ?_⟩
  rcases hg k with e | ⟨l, e1, e2⟩
  · exact .inl e
  · refine .inr ⟨fun a hmem hname => ?_, _, l, e2, e1, DetL.sortStrings_perm l⟩
    rw [ha] at hmem
    exact hs a hmem l (hname ▸ e1)

theorem post_keyedWf {r : ResView} (hr : r.keyedWf) (prepath : GoString) (fields : List GoString)
    (relData : GoMap (List GoString)) : (postRes r prepath fields relData).keyedWf := by
  obtain ⟨_, _, ha, hrl, hg⟩ := postRes_sameUpTo r prepath fields relData
  obtain ⟨hwf, hka, hkr, hnd⟩ := hr
  refine ⟨?_, by rw [ha]; exact hka, by rw [hrl]; exact hkr, by rw [ha, hrl]; exact hnd⟩
  rw [wf_congr ha hrl (fun k => (hg k).imp id (fun ⟨l, e1, e2⟩ => ⟨l, _, e1, e2⟩))]
  exact hwf

theorem post_resourceObject {r : ResView} (hr : r.keyedWf) (prepath : GoString)
    (fields : List GoString) (relData : GoMap (List GoString))
    (p : GoString) (fl : List GoString) (rd : GoMap (List GoString)) :
    Spec.resourceObject (postRes r prepath fields relData) p fl rd = Spec.resourceObject r p fl rd :=
  C11_perm_tomany_general _ _
    (sameUpToToMany_of_sameUpTo (postRes_sameUpTo r prepath fields relData)
      (attrsScalar_of_keyedWf hr)) p fl rd []

theorem dataResources_eq_docPrimary (d : Document) : dataResources d.data = docPrimary d := by
  unfold dataResources docPrimary
  cases d.data <;> rfl

theorem docResources_postDoc {d : Document} {f : GoMap (List GoString)} {r' : ResView}
    (h : r' ∈ docResources (postDoc d f)) :
    ∃ r ∈ docResources d, r' = r ∨ r' = postR d f r := by
  unfold docResources at h ⊢
  rcases List.mem_append.1 h with h1 | h2
  · have : docPrimary (postDoc d f) = (docPrimary d).map (postR d f) := by
      unfold docPrimary postDoc mapRes
      cases d.data <;> simp
    rw [this] at h1
    obtain ⟨r, hr, e⟩ := List.mem_map.1 h1
    exact ⟨r, List.mem_append_left _ hr, .inr e.symm⟩
  · unfold postDoc at h2
    simp only at h2
    split at h2
    · exact ⟨r', List.mem_append_right _ ((DetL.sortById_perm _).mem_iff.1 h2), .inl rfl⟩
    · obtain ⟨r, hr, e⟩ := List.mem_map.1 h2
      exact ⟨r, List.mem_append_right _ ((DetL.sortById_perm _).mem_iff.1 hr), .inr e.symm⟩

theorem postDoc_dom {d : Document} (hdom : ∀ r ∈ docResources d, r.keyedWf)
    (f : GoMap (List GoString)) : ∀ r ∈ docResources (postDoc d f), r.keyedWf := by
  intro r' h
  obtain ⟨r, hr, e | e⟩ := docResources_postDoc h
  · rw [e]; exact hdom r hr
  · rw [e]; exact post_keyedWf (hdom r hr) _ _ _

theorem postDoc_tree {d : Document} (hdom : ∀ r ∈ docResources d, r.keyedWf)
    (f f' : GoMap (List GoString)) (s : GoString) :
    Spec.documentTree (postDoc d f) f' s = Spec.documentTree d f' s := by
  have hg : ∀ r ∈ dataResources d.data, ∀ p fl rd,
      Spec.resourceObject (postR d f r) p fl rd = Spec.resourceObject r p fl rd := by
    intro r hr p fl rd
    rw [dataResources_eq_docPrimary] at hr
    exact post_resourceObject (hdom r (List.mem_append_left _ hr)) _ _ _ p fl rd
  have hh : ∀ r ∈ d.included, ∀ p fl rd,
      Spec.resourceObject (postR d f r) p fl rd = Spec.resourceObject r p fl rd := by
    intro r hr p fl rd
    exact post_resourceObject (hdom r (List.mem_append_right _ hr)) _ _ _ p fl rd
  unfold postDoc
  cases noData d
  · simp only [Bool.false_eq_true, if_false]
    exact documentTree_after (postR d f) (postR d f) d f' s (fun r => (postR_struct d f r).1)
      (fun r => (postR_struct d f r).1) (fun r => (postR_struct d f r).2) hg hh
  · simp only [if_true]
    have := documentTree_after (postR d f) id d f' s (fun r => (postR_struct d f r).1)
      (fun _ => rfl) (fun _ => rfl) hg (fun _ _ _ _ _ => rfl)
    rw [List.map_id] at this
    exact this

end RepL
end Jsonapi
