/- Helper lemmas for C19 (SoftCollection behaves as a plain ordered list). -/
import Jsonapi.Proofs.SoftLemmas
namespace Jsonapi
open GoMap Spec

theorem Spec.Row.get_eq (t : Typ) (row : Spec.Row) (f : GoString) :
    Spec.Row.get t row f =
      if f = idName then .val .string (.s row.id)
      else if isField t f = true then (row.vals.get? f).getD (fieldZero t f) else .nil := by
  unfold Spec.Row.get Spec.isField Spec.fieldZero
  simp only [Bool.or_eq_true]
  cases row.vals.get? f <;> rfl

theorem RowAbs.of_inv {t : Typ} (ht : TypKeyed t) {m : GoString × GoMap GoVal} {row : Spec.Row}
    (hid : m.1 = row.id) (h : RowInv t m.2 row.vals) : RowAbs t m row := by
  refine ⟨hid, fun f => ?_, h⟩
  rw [Soft.get_eq ht, Spec.Row.get_eq, hid]
  cases hv : row.vals.get? f with
  | some v => rw [h.sub f v hv]
  | none =>
    cases hd : m.2.get? f with
    | none => rfl
    | some v => rw [h.zero f v hd hv]; rfl

/-! ### Growing a type -/

/-- `t'` extends `t`: every field of `t` keeps its definition in `t'`. -/
def Ext (t t' : Typ) : Prop := ∀ f, isField t f = true → SameDef t t' f

theorem Ext.refl (t : Typ) : Ext t t := fun _ _ => ⟨rfl, rfl⟩

theorem Ext.field {t t' : Typ} (h : Ext t t') {f : GoString} (hf : isField t f = true) :
    isField t' f = true := (h f hf).isField.trans hf

theorem Ext.trans {t1 t2 t3 : Typ} (h12 : Ext t1 t2) (h23 : Ext t2 t3) : Ext t1 t3 := fun f hf =>
  have h := h23 f (h12.field hf)
  ⟨h.1.trans (h12 f hf).1, h.2.trans (h12 f hf).2⟩

theorem Ext.setAttr {t : Typ} {a : Attr} (hn : isField t a.name = false) :
    Ext t { t with attrs := t.attrs.set a.name a } :=
  fun _ hf => SameDef.setAttr t (ne_of_isField hf hn)

theorem Ext.setRel {t : Typ} {r : Rel} (hn : isField t r.fromName = false) :
    Ext t { t with rels := t.rels.set r.fromName r } :=
  fun _ hf => SameDef.setRel t (ne_of_isField hf hn)

theorem Typ.addAttr_cases {t : Typ} (ht : TypKeyed t) (a : Attr) :
    t.addAttr a = (t, .err) ∨
    (isField t a.name = false ∧ t.addAttr a = ({ t with attrs := t.attrs.set a.name a }, .ok ())) := by
  unfold Typ.addAttr
  by_cases h1 : a.name = []
  · rw [if_pos h1]; exact .inl rfl
  by_cases h2 : (!attrTypeStringNonEmpty a.ty a.nullable) = true
  · rw [if_neg h1, if_pos h2]; exact .inl rfl
  by_cases h3 : t.attrNameUsed a.name = true
  · rw [if_neg h1, if_neg h2, if_pos h3]; exact .inl rfl
  by_cases h4 : t.relNameUsed a.name = true
  · rw [if_neg h1, if_neg h2, if_neg h3, if_pos h4]; exact .inl rfl
  rw [if_neg h1, if_neg h2, if_neg h3, if_neg h4]
  exact .inr ⟨(isField_false_iff t _).2 ⟨mt (any_name_iff _ _ ht.attrs _).2 h3,
    mt (any_name_iff _ _ ht.rels _).2 h4⟩, rfl⟩

theorem Typ.addRel_cases {t : Typ} (ht : TypKeyed t) (r : Rel) :
    t.addRel r = (t, .err) ∨
    (isField t r.fromName = false ∧ t.addRel r = ({ t with rels := t.rels.set r.fromName r }, .ok ())) := by
  unfold Typ.addRel
  by_cases h1 : r.fromName = []
  · rw [if_pos h1]; exact .inl rfl
  by_cases h2 : r.toType = []
  · rw [if_neg h1, if_pos h2]; exact .inl rfl
  by_cases h3 : t.relNameUsed r.fromName = true
  · rw [if_neg h1, if_neg h2, if_pos h3]; exact .inl rfl
  by_cases h4 : t.attrNameUsed r.fromName = true
  · rw [if_neg h1, if_neg h2, if_neg h3, if_pos h4]; exact .inl rfl
  rw [if_neg h1, if_neg h2, if_neg h3, if_neg h4]
  exact .inr ⟨(isField_false_iff t _).2 ⟨mt (any_name_iff _ _ ht.attrs _).2 h4,
    mt (any_name_iff _ _ ht.rels _).2 h3⟩, rfl⟩

/-! ### The data invariant -/

theorem RowInv.nil (t : Typ) : RowInv t [] [] :=
  ⟨fun _ h => (by cases h), fun _ h => (by cases h), fun _ _ h => (by cases h), fun _ _ h => (by cases h)⟩

theorem RowInv.ext {t t' : Typ} {d vals : GoMap GoVal} (h : RowInv t d vals) (he : Ext t t') :
    RowInv t' d vals :=
  ⟨fun f hf => he.field (h.dField f hf), fun f hf => he.field (h.vField f hf), h.sub,
   fun f v hd hv => by
     rw [(he f (h.dField f (has_of_get? hd))).fieldZero]; exact h.zero f v hd hv⟩

theorem RowInv.recheck {t t' : Typ} {d vals vals' : GoMap GoVal} (h : RowInv t d vals)
    (ht' : TypKeyed t')
    (hz : ∀ f, isField t f = true → isField t' f = true → fieldZero t' f = fieldZero t f)
    (hv : ∀ f, vals'.get? f = if isField t' f = true then vals.get? f else none) :
    RowInv t' (Soft.checkData t' d) vals' := by
  have hg := Soft.checkData_get? ht' d
  refine ⟨fun f hf => (Soft.has_checkData ht' d f).symm.trans hf, fun f hf => ?_,
    fun f v hvf => ?_, fun f v hdf hvf => ?_⟩
  · obtain ⟨v, hvf⟩ := Option.isSome_iff_exists.1 hf
    rw [hv f, Option.ite_none_right_eq_some] at hvf
    exact hvf.1
  · rw [hv f, Option.ite_none_right_eq_some] at hvf
    rw [hg f, if_pos hvf.1, h.sub f v hvf.2]; rfl
  · rw [hg f, Option.ite_none_right_eq_some, Option.some.injEq] at hdf
    obtain ⟨hff, rfl⟩ := hdf
    rw [hv f, if_pos hff] at hvf
    cases hd : d.get? f with
    | none => rfl
    | some w => rw [hz f (h.dField f (has_of_get? hd)) hff]; exact h.zero f _ hd hvf

theorem RowInv.check {t : Typ} {d vals : GoMap GoVal} (h : RowInv t d vals) (ht : TypKeyed t) :
    RowInv t (Soft.checkData t d) vals := by
  refine h.recheck ht (fun _ _ _ => rfl) fun f => ?_
  split
  · rfl
  · rename_i hf
    exact (has_false_iff _ _).1 (Bool.eq_false_iff.2 fun hv => hf (h.vField f hv))

theorem RowInv.set {t : Typ} {d vals : GoMap GoVal} (h : RowInv t d vals) {f : GoString}
    (hf : isField t f = true) (v : GoVal) : RowInv t (d.set f v) (vals.set f v) := by
  refine ⟨fun k hk => ?_, fun k hk => ?_, fun k w hk => ?_, fun k w hd hv => ?_⟩
  · exact ((has_set _ _ _ _).1 hk).elim (· ▸ hf) (h.dField k)
  · exact ((has_set _ _ _ _).1 hk).elim (· ▸ hf) (h.vField k)
  · by_cases e : k = f
    · subst e; rwa [get?_set_self] at hk ⊢
    · rw [get?_set_ne _ _ _ _ e] at hk ⊢; exact h.sub k w hk
  · by_cases e : k = f
    · subst e; rw [get?_set_self] at hv; cases hv
    · rw [get?_set_ne _ _ _ _ e] at hd hv; exact h.zero k w hd hv

/-! ### `Add`: the resource under construction against the accumulated row -/

/-- The resource `Add` builds, against the type and values accumulated on the side of the
list; `t0` is the type `Add` started from. -/
structure AddInv (id : GoString) (t0 : Typ) (s : Soft) (acc : Typ × GoMap GoVal) : Prop where
  typ : s.typ = acc.1
  id : s.id = id
  keyed : TypKeyed acc.1
  inv : RowInv acc.1 s.data acc.2
  ext : Ext t0 acc.1

/-- `AddAttr` / `AddRel` left the data checked against `t` under a type `t'` extending `t`;
then `Set`. -/
theorem AddInv.setStep {id : GoString} {t0 t t1 : Typ} {d vals : GoMap GoVal}
    (h : AddInv id t0 { typ := t, id := id, data := d } (t, vals)) (k : GoString) (v : GoVal)
    (hk : k ≠ idName) (h1 : isField t k = false → Ext t t1 ∧ TypKeyed t1) :
    AddInv id t0
      (({ typ := if isField t k = true then t else t1, id := id, data := Soft.checkData t d } : Soft).set k v)
      (let t' := if isField t k = true then t else t1
       (t', if accepts t' k v = true then vals.set k (stored t' k v) else vals)) := by
  generalize ht' : (if isField t k = true then t else t1) = t'
  obtain ⟨he, hk'⟩ : Ext t t' ∧ TypKeyed t' := by
    rw [← ht']
    by_cases hf : isField t k = true
    · rw [if_pos hf]; exact ⟨Ext.refl _, h.keyed⟩
    · rw [if_neg hf]; exact h1 (Bool.not_eq_true _ ▸ hf)
  have hc := ((h.inv.check h.keyed).ext he).check hk'
  rw [Soft.set_eq _ _ _ k v hk]
  refine ⟨rfl, rfl, hk', ?_, h.ext.trans he⟩
  show RowInv t' (if _ then _ else _) (if _ then _ else _)
  by_cases hacc : accepts t' k v = true
  · rw [if_pos hacc, if_pos hacc]; exact hc.set (accepts_isField hacc) _
  · rw [if_neg hacc, if_neg hacc]; exact hc

theorem AddInv.attrStep {id : GoString} {t0 : Typ} {s : Soft} {acc : Typ × GoMap GoVal}
    (h : AddInv id t0 s acc) (a : Attr) (v : GoVal) (hk : a.name ≠ idName) :
    AddInv id t0 ((s.addAttr a).set a.name v) (addAttrField v acc a) := by
  obtain ⟨t, sid, d⟩ := s
  obtain ⟨t', vals⟩ := acc
  obtain ⟨rfl, rfl⟩ : t = t' ∧ sid = id := ⟨h.typ, h.id⟩
  rw [Soft.addAttr_eq h.keyed]
  exact h.setStep a.name v hk fun hf => ⟨Ext.setAttr hf, h.keyed.setAttr hf⟩

theorem AddInv.relStep {id : GoString} {t0 : Typ} {s : Soft} {acc : Typ × GoMap GoVal}
    (h : AddInv id t0 s acc) (r : Rel) (v : GoVal) (hk : r.fromName ≠ idName) :
    AddInv id t0 ((s.addRel r).set r.fromName v) (addRelField v acc r) := by
  obtain ⟨t, sid, d⟩ := s
  obtain ⟨t', vals⟩ := acc
  obtain ⟨rfl, rfl⟩ : t = t' ∧ sid = id := ⟨h.typ, h.id⟩
  rw [Soft.addRel_eq h.keyed]
  exact h.setStep r.fromName v hk fun hf => ⟨Ext.setRel hf, h.keyed.setRel hf⟩

/-- `Add`'s treatment of one relationship in the model (the body of its second loop). -/
def SColl.relStepM (r : ResView) (acc : Res Soft) (p : GoString × Rel) : Res Soft :=
  match acc with
  | .ok s =>
    let s' := s.addRel p.2
    (match r.get p.2.fromName with
      | .val .string (.s id) => if p.2.toOne then .ok (s'.set p.2.fromName (.val .string (.s id))) else .panic
      | .strs l => if p.2.toOne then .panic else .ok (s'.set p.2.fromName (.strs l))
      | _ => .panic)
  | e => e

theorem SColl.add_eq (c : SColl) (r : ResView) :
    c.add r =
      match r.rels.foldl (SColl.relStepM r)
          (.ok (r.attrs.foldl (fun (s : Soft) p => (s.addAttr p.2).set p.2.name (r.get p.2.name))
            { typ := c.typ, id := r.id, data := [] })) with
      | .ok s => .ok { typ := s.typ, col := c.col ++ [(s.id, s.data)] }
      | .err => .err
      | .panic => .panic := rfl

theorem relValOk_iff (r : ResView) (rel : Rel) :
    relValOk r rel = true ↔ RelShape (r.get rel.fromName) rel.toOne := by
  unfold relValOk
  split
  · rename_i e; rw [e, RelShape.val]
  · rename_i e; rw [e, RelShape.strs, Bool.not_eq_true']
  · rename_i h1 h2; exact iff_of_false Bool.false_ne_true (RelShape.other h1 h2)

theorem SColl.relStepM_ok (r : ResView) (s : Soft) (p : GoString × Rel)
    (h : relValOk r p.2 = true) :
    SColl.relStepM r (.ok s) p = .ok ((s.addRel p.2).set p.2.fromName (r.get p.2.fromName)) := by
  have h := (relValOk_iff r p.2).1 h
  unfold SColl.relStepM RelShape at *
  cases ho : p.2.toOne <;> rw [ho] at h
  · obtain ⟨l, e⟩ := h; simp [e]
  · obtain ⟨id, e⟩ := h; simp [e]

/-! ### Pointwise related lists -/

namespace Forall2
variable {α β : Type} {R : α → β → Prop}

theorem eraseFirst {p : α → Bool} {q : β → Bool} (hpq : ∀ a b, R a b → p a = q b)
    {l₁ : List α} {l₂ : List β} (h : Forall2 R l₁ l₂) :
    Forall2 R (Schema.eraseFirst p l₁) (Schema.eraseFirst q l₂) := by
  induction h with
  | nil => exact .nil
  | cons hab hrest ih =>
    unfold Schema.eraseFirst
    rw [hpq _ _ hab]
    split
    · exact hrest
    · exact .cons hab ih

theorem find? {p : α → Bool} {q : β → Bool} (hpq : ∀ a b, R a b → p a = q b)
    {l₁ : List α} {l₂ : List β} (h : Forall2 R l₁ l₂) :
    (l₁.find? p = none ∧ l₂.find? q = none) ∨
      ∃ a b, l₁.find? p = some a ∧ l₂.find? q = some b ∧ R a b := by
  induction h with
  | nil => exact .inl ⟨rfl, rfl⟩
  | @cons a b _ _ hab _ ih =>
    rw [List.find?_cons, List.find?_cons, hpq _ _ hab]
    cases q b with
    | true => exact .inr ⟨a, b, rfl, rfl, hab⟩
    | false => exact ih

end Forall2

/-! ### One step of the simulation -/

theorem RowAbs.ext {t t' : Typ} {m : GoString × GoMap GoVal} {row : Spec.Row}
    (h : RowAbs t m row) (he : Ext t t') (ht' : TypKeyed t') : RowAbs t' m row :=
  RowAbs.of_inv ht' h.id (h.inv.ext he)

theorem Abs.ext {c : SColl} {σ : Spec.Store} (h : Abs c σ) {t' : Typ} (he : Ext c.typ t')
    (ht' : TypKeyed t') : Abs { c with typ := t' } { σ with typ := t' } :=
  ⟨rfl, ht', h.rows.imp (fun _ _ hr => hr.ext he ht')⟩

theorem Abs.add {c : SColl} {σ : Spec.Store} (h : Abs c σ) {r : ResView} (hr : ViewWF r) :
    ∃ c', c.add r = .ok c' ∧ Abs c' (σ.add r) := by
  have h0 : AddInv r.id c.typ { typ := c.typ, id := r.id, data := [] } (σ.typ, []) :=
    ⟨h.typ, rfl, h.typ ▸ h.keyed, RowInv.nil _, h.typ ▸ Ext.refl _⟩
  have h1 := List.foldl_rel (r := AddInv r.id c.typ) (l := r.attrs)
    (g := fun acc p => addAttrField (r.get p.2.name) acc p.2) h0
    (fun p hp s acc hs => hs.attrStep p.2 _ (hr.1 p hp))
  obtain ⟨s', hs', h2⟩ := List.foldl_rel (r := fun x acc => ∃ s, x = .ok s ∧ AddInv r.id c.typ s acc)
    (l := r.rels) (f := SColl.relStepM r) (g := fun acc p => addRelField (r.get p.2.fromName) acc p.2)
    ⟨_, rfl, h1⟩ (fun p hp _ acc ⟨s, e, hs⟩ =>
      ⟨_, e ▸ SColl.relStepM_ok r s p (hr.2 p hp).2, hs.relStep p.2 _ (hr.2 p hp).1⟩)
  have hk : TypKeyed s'.typ := h2.typ ▸ h2.keyed
  have he : Ext c.typ s'.typ := h2.typ ▸ h2.ext
  refine ⟨{ typ := s'.typ, col := c.col ++ [(s'.id, s'.data)] }, by rw [SColl.add_eq, hs'],
    h2.typ, hk, ?_⟩
  exact (h.rows.imp fun _ _ hr => hr.ext he hk).append
    (.cons (RowAbs.of_inv hk h2.id (h2.typ ▸ h2.inv)) .nil)

theorem Abs.remove {c : SColl} {σ : Spec.Store} (h : Abs c σ) (id : GoString) :
    Abs (c.remove id) (σ.remove id) :=
  ⟨h.typ, h.keyed, h.rows.eraseFirst (fun _ _ hr => by simp only [hr.id])⟩

theorem Abs.addAttr {c : SColl} {σ : Spec.Store} (h : Abs c σ) (a : Attr) :
    Abs (c.addAttr a).1 (σ.addAttr a) := by
  show Abs { c with typ := (c.typ.addAttr a).1 } { σ with typ := (σ.typ.addAttr a).1 }
  rw [← h.typ]
  rcases Typ.addAttr_cases h.keyed a with e | ⟨hn, e⟩ <;> rw [e]
  · exact ⟨rfl, h.keyed, h.rows⟩
  · exact h.ext (Ext.setAttr hn) (h.keyed.setAttr hn)

theorem Abs.addRel {c : SColl} {σ : Spec.Store} (h : Abs c σ) (r : Rel) :
    Abs (c.addRel r).1 (σ.addRel r) := by
  show Abs { c with typ := (c.typ.addRel r).1 } { σ with typ := (σ.typ.addRel r).1 }
  rw [← h.typ]
  rcases Typ.addRel_cases h.keyed r with e | ⟨hn, e⟩ <;> rw [e]
  · exact ⟨rfl, h.keyed, h.rows⟩
  · exact h.ext (Ext.setRel hn) (h.keyed.setRel hn)

theorem Abs.setType {c : SColl} {σ : Spec.Store} (h : Abs c σ) {t' : Typ} (ht' : TypKeyed t')
    (hc : Compat c.typ t') : Abs (c.setType t') (σ.setType t') :=
  ⟨rfl, ht', h.rows.map _ _ fun m row hr =>
    RowAbs.of_inv (m := (m.1, Soft.checkData t' m.2))
      (row := { id := row.id, vals := row.vals.filter (fun p => isField t' p.1) }) ht' hr.id
      (hr.inv.recheck ht' (fun _ hf hf' => (hc.sameDef hf hf').fieldZero)
        (GoMap.get?_filter (fun k => isField t' k) row.vals))⟩

theorem Abs.step {c : SColl} {σ : Spec.Store} (h : Abs c σ) {op : ColOp} (hop : op.ok σ.typ) :
    ∃ c', colStep c op = .ok c' ∧ Abs c' (σ.step op) := by
  cases op with
  | add r => exact h.add hop
  | remove id => exact ⟨_, rfl, h.remove id⟩
  | addAttr a => exact ⟨_, rfl, h.addAttr a⟩
  | addRel r => exact ⟨_, rfl, h.addRel r⟩
  | setType t' => exact ⟨_, rfl, h.setType hop.1 (h.typ ▸ hop.2)⟩

theorem Abs.run {ops : List ColOp} : ∀ {c : SColl} {σ : Spec.Store}, Abs c σ → HistOk σ ops →
    ∃ c', colRun c ops = .ok c' ∧ Abs c' (σ.run ops) := by
  induction ops with
  | nil => intro c σ h _; exact ⟨c, rfl, h⟩
  | cons op ops ih =>
    intro c σ h hok
    obtain ⟨c1, hs, h1⟩ := h.step hok.1
    obtain ⟨c2, hr, h2⟩ := ih h1 hok.2
    refine ⟨c2, ?_, h2⟩
    unfold colRun; rw [hs]; exact hr

theorem RowAbs.get_new_field {t t' : Typ} {m : GoString × GoMap GoVal} {row : Spec.Row}
    (h : RowAbs t m row) (ht' : TypKeyed t') {f : GoString} (hf : isField t f = false)
    (hf' : isField t' f = true) (hid : f ≠ idName) :
    ({ typ := t', id := m.1, data := m.2 } : Soft).get f = fieldZero t' f := by
  rw [Soft.get_eq ht', if_neg hid, if_pos hf']
  cases hd : m.2.get? f with
  | none => rfl
  | some v => rw [h.inv.dField f (has_of_get? hd)] at hf; cases hf

end Jsonapi
