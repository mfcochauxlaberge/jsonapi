/- Go maps as association lists, on top of `MapLemmas`: `get?` / `has` against membership of
keys and entries, maps keyed by a name stored in the entry, lookups after `set`, `del`, a filter
on keys, an append, and the loop that gives every missing key a value (`get?_fill`). -/
import Jsonapi.Proofs.MapLemmas
namespace Jsonapi.GoMap
variable {β : Type}

/-! ### Lookup, keys, entries -/

protected theorem get?_eq_none_iff (m : GoMap β) (k : GoString) : get? m k = none ↔ k ∉ keys m := by
  induction m with
  | nil => exact ⟨fun _ => List.not_mem_nil, fun _ => rfl⟩
  | cons p m ih =>
    obtain ⟨k', v⟩ := p
    rw [get?, keys, List.map_cons, List.mem_cons, not_or]
    by_cases h : k' = k
    · rw [if_pos h]; exact ⟨nofun, fun hn => (hn.1 h.symm).elim⟩
    · rw [if_neg h, ih]; exact ⟨fun hn => ⟨fun e => h e.symm, hn⟩, fun hn => hn.2⟩

theorem get?_eq_none_of_not_mem {m : GoMap β} {k : GoString} (h : k ∉ keys m) : get? m k = none :=
  (GoMap.get?_eq_none_iff m k).2 h

theorem mem_of_get? {m : GoMap β} {k : GoString} {v : β} (h : get? m k = some v) : (k, v) ∈ m := by
  induction m with
  | nil => cases h
  | cons p m ih =>
    unfold get? at h
    split at h
    · rename_i e; cases h; subst e; exact List.mem_cons_self
    · exact List.mem_cons_of_mem _ (ih h)

theorem mem_keys_of_mem {m : GoMap β} {x : GoString × β} (h : x ∈ m) : x.1 ∈ keys m :=
  List.mem_map.2 ⟨x, h, rfl⟩

theorem mem_keys_of_get? {m : GoMap β} {k : GoString} {v : β} (h : get? m k = some v) : k ∈ keys m :=
  mem_keys_of_mem (mem_of_get? h)

theorem mem_keys_get? {m : GoMap β} {k : GoString} (h : k ∈ keys m) : ∃ v, get? m k = some v :=
  Option.ne_none_iff_exists'.1 fun hn => (GoMap.get?_eq_none_iff m k).1 hn h

theorem get?_of_mem_nodup {m : GoMap β} (hnd : (keys m).Nodup) {k : GoString} {v : β}
    (h : (k, v) ∈ m) : get? m k = some v := by
  induction m with
  | nil => cases h
  | cons p m ih =>
    obtain ⟨hp, hnd⟩ := List.nodup_cons.1 hnd
    rcases List.mem_cons.1 h with e | h'
    · subst e; simp [get?]
    · have hne : ¬ p.1 = k := fun e => hp (show p.1 ∈ keys m from e ▸ mem_keys_of_mem h')
      simp only [get?, hne, if_false]
      exact ih hnd h'

theorem has_iff_mem_keys {m : GoMap β} {k : GoString} : has m k = true ↔ k ∈ keys m := by
  unfold has
  rw [Option.isSome_iff_ne_none, ne_eq, GoMap.get?_eq_none_iff, Classical.not_not]

theorem has_false_iff (m : GoMap β) (k : GoString) : has m k = false ↔ get? m k = none := by
  unfold has; cases get? m k <;> simp

theorem has_of_get? {m : GoMap β} {k : GoString} {v : β} (h : get? m k = some v) : has m k = true := by
  unfold has; rw [h]; rfl

theorem keys_map_mk (l : List GoString) (G : GoString → β) : keys (l.map (fun n => (n, G n))) = l := by
  unfold keys
  rw [List.map_map]
  exact List.map_id _

theorem get?_map_mk (l : List GoString) (G : GoString → β) (f : GoString) :
    get? (l.map (fun n => (n, G n))) f = if f ∈ l then some (G f) else none := by
  by_cases hm : f ∈ l
  · obtain ⟨v, hv⟩ := mem_keys_get? (m := l.map fun n => (n, G n)) (keys_map_mk l G ▸ hm)
    obtain ⟨n, _, e⟩ := List.mem_map.1 (mem_of_get? hv)
    cases e
    rw [if_pos hm, hv]
  · rw [if_neg hm]
    exact get?_eq_none_of_not_mem fun h => hm (keys_map_mk l G ▸ h)

/-! ### Maps whose keys are the names `nm` stored in their entries -/

theorem vals_map_eq_keys (m : GoMap β) (nm : β → GoString) (hk : ∀ p ∈ m, p.1 = nm p.2) :
    (vals m).map nm = keys m := by
  unfold vals keys
  rw [List.map_map]
  exact List.map_congr_left fun p hp => (hk p hp).symm

theorem any_name_iff (m : GoMap β) (nm : β → GoString) (hk : ∀ p ∈ m, p.1 = nm p.2) (n : GoString) :
    m.any (fun p => nm p.2 = n) = true ↔ n ∈ keys m := by
  rw [List.any_eq_true, keys, List.mem_map]
  exact ⟨fun ⟨p, hp, e⟩ => ⟨p, hp, (hk p hp).trans (of_decide_eq_true e)⟩,
    fun ⟨p, hp, e⟩ => ⟨p, hp, decide_eq_true ((hk p hp).symm.trans e)⟩⟩

theorem mem_vals_iff_get? (m : GoMap β) (nm : β → GoString) (hk : ∀ p ∈ m, p.1 = nm p.2)
    (hnd : (keys m).Nodup) (v : β) : v ∈ vals m ↔ get? m (nm v) = some v := by
  constructor
  · intro h
    obtain ⟨p, hp, rfl⟩ := List.mem_map.1 h
    rw [← hk p hp]; exact get?_of_mem_nodup hnd hp
  · intro h; exact List.mem_map.2 ⟨_, mem_of_get? h, rfl⟩

/-! ### `set` -/

theorem get?_set (m : GoMap β) (k : GoString) (v : β) (f : GoString) :
    get? (set m k v) f = if f = k then some v else get? m f := by
  by_cases e : f = k
  · rw [e, get?_set_self, if_pos rfl]
  · rw [get?_set_ne _ _ _ _ e, if_neg e]

theorem has_set (m : GoMap β) (k k' : GoString) (v : β) :
    has (set m k v) k' = true ↔ (k' = k ∨ has m k' = true) := by
  rw [has_iff_mem_keys, has_iff_mem_keys, mem_keys_set]

theorem mem_set {m : GoMap β} {k : GoString} {v : β} {x : GoString × β} (h : x ∈ set m k v) :
    x ∈ m ∨ x = (k, v) := by
  induction m with
  | nil => exact .inr (List.mem_singleton.1 h)
  | cons p m ih =>
    unfold set at h
    split at h
    · exact (List.mem_cons.1 h).symm.imp_left (List.mem_cons_of_mem _)
    · rcases List.mem_cons.1 h with h | h
      · exact .inl (h ▸ List.mem_cons_self)
      · exact (ih h).imp_left (List.mem_cons_of_mem _)

theorem keys_set_subset (m : GoMap β) (k : GoString) (v : β) :
    ∀ x ∈ keys (set m k v), x ∈ keys m ∨ x = k :=
  fun _ hx => (mem_keys_set.1 hx).symm

theorem length_set_of_mem (m : GoMap β) (k : GoString) (v : β) (h : k ∈ keys m) :
    (set m k v).length = m.length := by
  rcases keys_set m k v with ⟨_, e⟩ | ⟨hk, _⟩
  · simpa [keys] using congrArg List.length e
  · exact absurd h hk

/-! ### Filtering on keys, `del` -/

theorem get?_filter (q : GoString → Bool) (m : GoMap β) (k : GoString) :
    get? (m.filter (fun p => q p.1)) k = if q k = true then get? m k else none := by
  induction m with
  | nil => simp [get?]
  | cons p m ih =>
    by_cases h : p.1 = k
    · subst h
      by_cases hq : q p.1 = true <;> simp [get?, hq, ih]
    · by_cases hq : q p.1 = true <;> simp [get?, hq, ih, h]

theorem get?_del (m : GoMap β) (k f : GoString) :
    get? (del m k) f = if f = k then none else get? m f := by
  refine (get?_filter (fun x => decide (x ≠ k)) m f).trans ?_
  by_cases e : f = k <;> simp [e]

theorem has_del (m : GoMap β) (k f : GoString) :
    has (del m k) f = (decide (f ≠ k) && has m f) := by
  unfold has
  rw [get?_del]
  by_cases e : f = k <;> simp [e]

/-- One of the two loops of `check` (soft_resource.go), over a map `m` whose keys are the names `nm` of its
entries: every entry whose name has no value in `d` gets the value `z`. -/
theorem get?_fill {α : Type} (nm : α → GoString) (z : α → β) (m : GoMap α)
    (hk : ∀ p ∈ m, p.1 = nm p.2) (d : GoMap β) (f : GoString) :
    get? (m.foldl (fun d p => if has d (nm p.2) then d else set d (nm p.2) (z p.2)) d) f =
      (get? d f).or ((get? m f).map z) := by
  induction m generalizing d with
  | nil => simp [get?]
  | cons p m ih =>
    rw [List.foldl_cons, ih (fun q hq => hk q (List.mem_cons_of_mem _ hq)), get?,
      ← hk p List.mem_cons_self]
    by_cases hf : p.1 = f
    · subst hf
      cases hg : get? d p.1 <;> simp [has, hg, get?_set_self]
    · by_cases hh : has d p.1 = true <;> simp [hh, hf, get?_set_ne _ _ _ _ (Ne.symm hf)]

theorem get?_append_of_not_mem (a b : GoMap β) (k : GoString) (h : k ∉ keys a) :
    get? (a ++ b) k = get? b k := by
  induction a with
  | nil => rfl
  | cons p a ih =>
    obtain ⟨k', v⟩ := p
    simp only [GoMap.keys, List.map_cons, List.mem_cons, not_or] at h
    have : ¬ k' = k := fun e => h.1 e.symm
    simp only [List.cons_append, GoMap.get?, this, if_false]
    exact ih h.2

end Jsonapi.GoMap
