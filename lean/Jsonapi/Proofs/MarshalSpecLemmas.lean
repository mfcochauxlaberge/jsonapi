/-
The objects of the specification member by member: lookup in an object whose members were
sorted, the members of `Spec.resourceObject` and `Spec.relObject`, the members of the
top-level object. Also the domain predicate of C04, `ResView.keyedWf`, with its consequences for
lookups. Nothing here looks inside the model's marshaling functions.
-/
import Jsonapi.Spec.Filter
import Jsonapi.Proofs.GoMapLemmas
import Jsonapi.Proofs.DetLemmas
namespace Jsonapi

/-- Domain of C04: a well-typed resource whose attribute / relationship maps are keyed by
the attribute name / relationship name, all names distinct (what `Type.AddAttr` /
`Type.AddRel` guarantee). -/
def ResView.keyedWf (r : ResView) : Prop :=
  r.wf = true ∧ (∀ p ∈ r.attrs, p.1 = p.2.name) ∧ (∀ p ∈ r.rels, p.1 = p.2.fromName) ∧
  (r.attrs.keys ++ r.rels.keys).Nodup

instance c04_decKeyedWf (r : ResView) : Decidable r.keyedWf := by
  unfold ResView.keyedWf; exact inferInstance

namespace MarshalL
export DetL (sortMembers_perm sortStrings_perm sortById_perm sortById_isEmpty)

theorem keys_append {β} (a b : GoMap β) : GoMap.keys (a ++ b) = GoMap.keys a ++ GoMap.keys b := by
  simp [GoMap.keys]

theorem nodup_mid {α} {a b : List α} {x : α} :
    (a ++ x :: b).Nodup ↔ x ∉ a ∧ x ∉ b ∧ (a ++ b).Nodup := by
  rw [List.perm_middle.nodup_iff, List.nodup_cons, List.mem_append, not_or, and_assoc]

/-! ### lookup in objects whose members were sorted -/

theorem find?_key_none {l : List (GoString × Json)} {k : GoString} (h : k ∉ l.map (·.1)) :
    l.find? (fun p => p.1 = k) = none := by
  rw [List.find?_eq_none]
  intro p hp
  simp only [decide_eq_true_eq]
  intro e
  exact h (List.mem_map.2 ⟨p, hp, e⟩)

theorem mem_of_find?_key {l : List (GoString × Json)} {k : GoString} {p : GoString × Json}
    (h : l.find? (fun p => p.1 = k) = some p) : p ∈ l ∧ p.1 = k :=
  ⟨List.mem_of_find?_eq_some h, by simpa using List.find?_some h⟩

theorem mem_of_get?_sortMembers {l : List (GoString × Json)} {k : GoString} {v : Json}
    (h : (Json.obj (sortMembers l)).get? k = some v) : (k, v) ∈ l := by
  simp only [Json.get?, Option.map_eq_some_iff] at h
  obtain ⟨p, hp, rfl⟩ := h
  obtain ⟨h1, rfl⟩ := mem_of_find?_key hp
  exact (sortMembers_perm l).mem_iff.1 h1

theorem has_sortMembers {l : List (GoString × Json)} {k : GoString} :
    (Json.obj (sortMembers l)).has k = true ↔ k ∈ l.map (·.1) := by
  simp only [Json.has, Json.get?, Option.isSome_map, List.find?_isSome, decide_eq_true_eq,
    (sortMembers_perm l).mem_iff, List.mem_map]

theorem get?_sortMembers_none {l : List (GoString × Json)} {k : GoString}
    (h : k ∉ l.map (·.1)) : (Json.obj (sortMembers l)).get? k = none := by
  have := mt has_sortMembers.1 h
  simpa [Json.has] using this

theorem get?_sortMembers_unique {l : List (GoString × Json)} {k : GoString} {v : Json}
    (hmem : (k, v) ∈ l) (huniq : ∀ p ∈ l, p.1 = k → p.2 = v) :
    (Json.obj (sortMembers l)).get? k = some v := by
  have hh : (Json.obj (sortMembers l)).has k = true :=
    has_sortMembers.2 (List.mem_map.2 ⟨(k, v), hmem, rfl⟩)
  obtain ⟨w, hw⟩ := Option.isSome_iff_exists.1 hh
  rw [hw, ← huniq _ (mem_of_get?_sortMembers hw) rfl]

theorem get?_sortMembers_of_mem {l : List (GoString × Json)} (hnd : (l.map (·.1)).Nodup)
    {k : GoString} {v : Json} (h : (k, v) ∈ l) :
    (Json.obj (sortMembers l)).get? k = some v :=
  get?_sortMembers_unique h (fun _ hp hk =>
    congrArg Prod.snd (DetL.eq_of_key_eq (·.1) hnd hp h hk))

/-! ### the members of a resource object -/

def attrMembers (r : ResView) (fields : List GoString) : List (GoString × Json) :=
  ((GoMap.vals r.attrs).filter (fun a => fields.contains a.name)).map
    (fun a => (a.name, encodeAttr (r.get a.name)))

/-- the relationship members the specification lists for the relationships `l` -/
def relMembers (r : ResView) (prepath : GoString) (fields want : List GoString)
    (l : GoMap Rel) : List (GoString × Json) :=
  ((GoMap.vals l).filter (fun rel => fields.contains rel.fromName)).map
    (fun rel => (rel.fromName, Spec.relObject r prepath rel (want.contains rel.fromName)))

/-- the document's list of relationships whose data is wanted, for the resource's type -/
def wantOf (r : ResView) (relData : GoMap (List GoString)) : List GoString :=
  (relData.get? r.typeName).getD []

/-- the members of a resource object, given its attribute and relationship members -/
def resTop (r : ResView) (prepath : GoString) (attrs rels : List (GoString × Json))
    (rmeta : Meta) : List (GoString × Json) :=
  [(K.id, Json.str r.id), (K.type, Json.str r.typeName),
   (K.links, Json.obj [(K.self, .str (buildSelfLink r prepath))])] ++
  (if attrs.isEmpty then [] else [(K.attributes, Json.obj (sortMembers attrs))]) ++
  (if rels.isEmpty then [] else [(K.relationships, Json.obj (sortMembers rels))]) ++
  (if rmeta.isEmpty then [] else [(K.kmeta, Json.obj rmeta)])

def topMembers (r : ResView) (prepath : GoString) (fields : List GoString)
    (relData : GoMap (List GoString)) (rmeta : Meta) : List (GoString × Json) :=
  [(K.id, Json.str r.id), (K.type, Json.str r.typeName),
   (K.links, Json.obj [(K.self, .str (buildSelfLink r prepath))])] ++
  (if (attrMembers r fields).isEmpty then []
   else [(K.attributes, Json.obj (sortMembers (attrMembers r fields)))]) ++
  (if (relMembers r prepath fields (wantOf r relData) r.rels).isEmpty then []
   else [(K.relationships,
      Json.obj (sortMembers (relMembers r prepath fields (wantOf r relData) r.rels)))]) ++
  (if rmeta.isEmpty then [] else [(K.kmeta, Json.obj rmeta)])

theorem resourceObject_eq (r : ResView) (prepath : GoString) (fields : List GoString)
    (relData : GoMap (List GoString)) (rmeta : Meta) :
    Spec.resourceObject r prepath fields relData rmeta =
      .obj (sortMembers (topMembers r prepath fields relData rmeta)) := rfl

theorem resTop_keys (r : ResView) (prepath : GoString) (attrs rels : List (GoString × Json))
    (rmeta : Meta) :
    (resTop r prepath attrs rels rmeta).map (·.1) =
      [K.id, K.type, K.links] ++ (if attrs.isEmpty then [] else [K.attributes]) ++
        (if rels.isEmpty then [] else [K.relationships]) ++
        (if rmeta.isEmpty then [] else [K.kmeta]) := by
  unfold resTop
  simp only [List.map_append, List.map_cons, List.map_nil, apply_ite (List.map Prod.fst)]

theorem ite_sublist {α : Type} (c : Prop) [Decidable c] (l : List α) :
    (if c then [] else l).Sublist l := by
  split
  · exact List.nil_sublist _
  · exact List.Sublist.refl _

theorem resTop_keys_sublist (r : ResView) (prepath : GoString)
    (attrs rels : List (GoString × Json)) (rmeta : Meta) :
    ((resTop r prepath attrs rels rmeta).map (·.1)).Sublist
      ([K.id, K.type, K.links] ++ (if attrs.isEmpty then [] else [K.attributes]) ++
        [K.relationships] ++ [K.kmeta]) ∧
    ((resTop r prepath attrs rels rmeta).map (·.1)).Sublist
      ([K.id, K.type, K.links] ++ [K.attributes] ++
        (if rels.isEmpty then [] else [K.relationships]) ++ [K.kmeta]) := by
  rw [resTop_keys]
  exact ⟨((List.Sublist.refl _).append (ite_sublist _ _)).append (ite_sublist _ _),
    (((List.Sublist.refl _).append (ite_sublist _ _)).append (List.Sublist.refl _)).append
      (ite_sublist _ _)⟩

theorem resTop_nodup (r : ResView) (prepath : GoString) (attrs rels : List (GoString × Json))
    (rmeta : Meta) : ((resTop r prepath attrs rels rmeta).map (·.1)).Nodup :=
  ((resTop_keys_sublist r prepath attrs rels rmeta).2.trans
    (((List.Sublist.refl _).append (ite_sublist _ _)).append (List.Sublist.refl _))).nodup
    (by decide : [K.id, K.type, K.links, K.attributes, K.relationships, K.kmeta].Nodup)

theorem topMembers_nodup (r : ResView) (prepath : GoString) (fields : List GoString)
    (relData : GoMap (List GoString)) (rmeta : Meta) :
    ((topMembers r prepath fields relData rmeta).map (·.1)).Nodup :=
  resTop_nodup r prepath _ _ rmeta

section
variable (r : ResView) (prepath : GoString) (attrs rels : List (GoString × Json)) (rmeta : Meta)

theorem mem_resTop_head {p : GoString × Json}
    (h : p ∈ [(K.id, Json.str r.id), (K.type, Json.str r.typeName),
      (K.links, Json.obj [(K.self, .str (buildSelfLink r prepath))])]) :
    p ∈ resTop r prepath attrs rels rmeta :=
  List.mem_append_left _ (List.mem_append_left _ (List.mem_append_left _ h))

theorem resTop_get_id :
    (Json.obj (sortMembers (resTop r prepath attrs rels rmeta))).get? K.id = some (.str r.id) :=
  get?_sortMembers_of_mem (resTop_nodup ..) (mem_resTop_head _ _ _ _ _ List.mem_cons_self)

theorem resTop_get_type :
    (Json.obj (sortMembers (resTop r prepath attrs rels rmeta))).get? K.type =
      some (.str r.typeName) :=
  get?_sortMembers_of_mem (resTop_nodup ..)
    (mem_resTop_head _ _ _ _ _ (List.mem_cons_of_mem _ List.mem_cons_self))

theorem resTop_get_links :
    (Json.obj (sortMembers (resTop r prepath attrs rels rmeta))).get? K.links =
      some (.obj [(K.self, .str (buildSelfLink r prepath))]) :=
  get?_sortMembers_of_mem (resTop_nodup ..)
    (mem_resTop_head _ _ _ _ _ (List.mem_cons_of_mem _ (List.mem_cons_of_mem _ List.mem_cons_self)))

theorem resTop_get_attributes :
    (Json.obj (sortMembers (resTop r prepath attrs rels rmeta))).get? K.attributes =
      if attrs.isEmpty then none else some (.obj (sortMembers attrs)) := by
  split
  · rename_i h
    have hs := (resTop_keys_sublist r prepath attrs rels rmeta).1
    rw [if_pos h] at hs
    exact get?_sortMembers_none (fun hm =>
      (by decide : K.attributes ∉ [K.id, K.type, K.links, K.relationships, K.kmeta]) (hs.subset hm))
  · rename_i h
    refine get?_sortMembers_of_mem (resTop_nodup ..)
      (List.mem_append_left _ (List.mem_append_left _ (List.mem_append_right _ ?_)))
    rw [if_neg h]
    exact List.mem_singleton_self _

theorem resTop_get_relationships :
    (Json.obj (sortMembers (resTop r prepath attrs rels rmeta))).get? K.relationships =
      if rels.isEmpty then none else some (.obj (sortMembers rels)) := by
  split
  · rename_i h
    have hs := (resTop_keys_sublist r prepath attrs rels rmeta).2
    rw [if_pos h] at hs
    exact get?_sortMembers_none (fun hm =>
      (by decide : K.relationships ∉ [K.id, K.type, K.links, K.attributes, K.kmeta]) (hs.subset hm))
  · rename_i h
    refine get?_sortMembers_of_mem (resTop_nodup ..)
      (List.mem_append_left _ (List.mem_append_right _ ?_))
    rw [if_neg h]
    exact List.mem_singleton_self _

end

section
variable (r : ResView) (prepath : GoString) (fields : List GoString)
  (relData : GoMap (List GoString)) (rmeta : Meta)

theorem resObj_get_id :
    (Spec.resourceObject r prepath fields relData rmeta).get? K.id = some (.str r.id) :=
  resTop_get_id ..

theorem resObj_get_type :
    (Spec.resourceObject r prepath fields relData rmeta).get? K.type = some (.str r.typeName) :=
  resTop_get_type ..

theorem resObj_get_attributes :
    (Spec.resourceObject r prepath fields relData rmeta).get? K.attributes =
      if (attrMembers r fields).isEmpty then none
      else some (.obj (sortMembers (attrMembers r fields))) :=
  resTop_get_attributes ..

theorem resObj_get_relationships :
    (Spec.resourceObject r prepath fields relData rmeta).get? K.relationships =
      if (relMembers r prepath fields (wantOf r relData) r.rels).isEmpty then none
      else some (.obj (sortMembers (relMembers r prepath fields (wantOf r relData) r.rels))) :=
  resTop_get_relationships ..

end

theorem mem_keys_selected {α : Type} (key : α → GoString) (val : α → Json) (fields : List GoString)
    (l : List α) {n : GoString} :
    n ∈ ((l.filter (fun a => fields.contains (key a))).map (fun a => (key a, val a))).map (·.1) ↔
      (∃ a ∈ l, key a = n) ∧ n ∈ fields := by
  simp only [List.map_map, List.mem_map, List.mem_filter, Function.comp, List.contains_iff_mem]
  constructor
  · rintro ⟨a, ⟨ha, hf⟩, rfl⟩; exact ⟨⟨a, ha, rfl⟩, hf⟩
  · rintro ⟨⟨a, ha, rfl⟩, hf⟩; exact ⟨a, ⟨ha, hf⟩, rfl⟩

theorem keys_selected_nodup {α : Type} (key : α → GoString) (val : α → Json) (q : α → Bool)
    {l : List α} (h : (l.map key).Nodup) :
    (((l.filter q).map (fun a => (key a, val a))).map (·.1)).Nodup := by
  rw [List.map_map]
  exact (List.Sublist.map _ List.filter_sublist).nodup h

theorem mem_keys_attrMembers {r : ResView} {fields : List GoString} {n : GoString} :
    n ∈ (attrMembers r fields).map (·.1) ↔ (∃ a ∈ GoMap.vals r.attrs, a.name = n) ∧ n ∈ fields :=
  mem_keys_selected Attr.name _ fields _

theorem mem_keys_relMembers {r : ResView} {prepath : GoString} {fields want : List GoString}
    {n : GoString} :
    n ∈ (relMembers r prepath fields want r.rels).map (·.1) ↔
      (∃ rel ∈ GoMap.vals r.rels, rel.fromName = n) ∧ n ∈ fields :=
  mem_keys_selected Rel.fromName _ fields _

theorem has_member_iff {o : Option Json} {ms : List (GoString × Json)} {n : GoString}
    (ho : o = if ms.isEmpty then none else some (.obj (sortMembers ms))) :
    (∃ a, o = some a ∧ a.has n = true) ↔ n ∈ ms.map (·.1) := by
  subst ho
  cases ms with
  | nil => simp
  | cons _ _ => simp [has_sortMembers]

theorem rel_names_nodup {r : ResView} (hr : r.keyedWf) :
    ((GoMap.vals r.rels).map (·.fromName)).Nodup := by
  rw [GoMap.vals_map_eq_keys _ _ hr.2.2.1]
  exact (List.nodup_append.1 hr.2.2.2).2.1

theorem attr_names_nodup {r : ResView} (hr : r.keyedWf) :
    ((GoMap.vals r.attrs).map (·.name)).Nodup := by
  rw [GoMap.vals_map_eq_keys _ _ hr.2.1]
  exact (List.nodup_append.1 hr.2.2.2).1

theorem relMembers_keys_nodup {r : ResView} (hr : r.keyedWf) (prepath : GoString)
    (fields want : List GoString) :
    ((relMembers r prepath fields want r.rels).map (·.1)).Nodup :=
  keys_selected_nodup _ _ _ (rel_names_nodup hr)

theorem attrMembers_keys_nodup {r : ResView} (hr : r.keyedWf) (fields : List GoString) :
    ((attrMembers r fields).map (·.1)).Nodup :=
  keys_selected_nodup _ _ _ (attr_names_nodup hr)

theorem get_member {o : Option Json} {ms : List (GoString × Json)} {n : GoString} {v : Json}
    (ho : o = if ms.isEmpty then none else some (.obj (sortMembers ms)))
    (hnd : (ms.map (·.1)).Nodup) (hmem : (n, v) ∈ ms) :
    ∃ a, o = some a ∧ a.get? n = some v := by
  subst ho
  cases ms with
  | nil => cases hmem
  | cons p ms => exact ⟨_, rfl, get?_sortMembers_of_mem hnd hmem⟩

theorem resObj_rel_value {r : ResView} (hr : r.keyedWf) (prepath : GoString)
    (fields : List GoString) (relData : GoMap (List GoString)) (rmeta : Meta)
    {rel : Rel} (ha : rel ∈ GoMap.vals r.rels) (hf : rel.fromName ∈ fields) :
    ∃ o, (Spec.resourceObject r prepath fields relData rmeta).get? K.relationships = some o ∧
      o.get? rel.fromName =
        some (Spec.relObject r prepath rel ((wantOf r relData).contains rel.fromName)) :=
  get_member (resObj_get_relationships ..) (relMembers_keys_nodup hr _ _ _)
    (List.mem_map.2 ⟨rel, List.mem_filter.2 ⟨ha, List.contains_iff_mem.2 hf⟩, rfl⟩)

theorem rel_member {o : Option Json} {ms : List (GoString × Json)} {rs ro : Json}
    {n : GoString} (ho : o = if ms.isEmpty then none else some (.obj (sortMembers ms)))
    (h1 : o = some rs) (h2 : rs.get? n = some ro) : (n, ro) ∈ ms := by
  subst ho
  split at h1
  · cases h1
  · cases h1; exact mem_of_get?_sortMembers h2

/-! ### one relationship object -/

theorem relObject_has_data (r : ResView) (prepath : GoString) (rel : Rel) (w : Bool) :
    (Spec.relObject r prepath rel w).has K.data = true ↔ w = true := by
  cases w <;> simp [Spec.relObject, Json.has, Json.get?] <;> decide

theorem relObject_get_data (r : ResView) (prepath : GoString) (rel : Rel) :
    (Spec.relObject r prepath rel true).get? K.data = some (Spec.relDataJson r rel) := by
  simp [Spec.relObject, Json.get?]

theorem relObject_get_data_some {r : ResView} {prepath : GoString} {rel : Rel} {w : Bool}
    {d : Json} (h : (Spec.relObject r prepath rel w).get? K.data = some d) :
    w = true ∧ d = Spec.relDataJson r rel := by
  have hw := (relObject_has_data r prepath rel w).1 (by rw [Json.has, h]; rfl)
  subst hw
  rw [relObject_get_data] at h
  cases h; exact ⟨rfl, rfl⟩

theorem relObject_isObj (r : ResView) (prepath : GoString) (rel : Rel) (w : Bool) :
    (Spec.relObject r prepath rel w).isObj = true := rfl

theorem relObject_get_links (r : ResView) (prepath : GoString) (rel : Rel) (w : Bool) :
    (Spec.relObject r prepath rel w).get? K.links =
      some (buildRelationshipLinks r prepath rel.fromName) := by
  cases w
  · simp [Spec.relObject, Json.get?]
  · have : ¬ K.data = K.links := by decide
    simp [Spec.relObject, Json.get?, this]

theorem relLinks_get_self (r : ResView) (prepath n : GoString) :
    (buildRelationshipLinks r prepath n).get? K.self =
      some (.str (buildSelfLink r prepath ++ K.slashRelationships ++ n)) := by
  have : ¬ K.related = K.self := by decide
  simp [buildRelationshipLinks, Json.get?, this]

theorem relLinks_get_related (r : ResView) (prepath n : GoString) :
    (buildRelationshipLinks r prepath n).get? K.related =
      some (.str (buildSelfLink r prepath ++ K.slash ++ n)) := by
  simp [buildRelationshipLinks, Json.get?]

/-- shape of resource linkage: null, one identifier, or an array of identifiers -/
def IsLinkage (d : Json) : Prop :=
  d = .null ∨ (∃ id t, d = identifierJson id t) ∨
  (∃ (ids : List GoString) (t : GoString), d = .arr (ids.map (fun id => identifierJson id t)))

theorem relDataJson_isLinkage (r : ResView) (rel : Rel) : IsLinkage (Spec.relDataJson r rel) := by
  unfold Spec.relDataJson
  split
  · split
    · split
      · exact Or.inl rfl
      · exact Or.inr (Or.inl ⟨_, _, rfl⟩)
    · exact Or.inl rfl
  · split
    · exact Or.inr (Or.inr ⟨_, _, rfl⟩)
    · exact Or.inr (Or.inr ⟨[], [], rfl⟩)

theorem wf_rel_val {r : ResView} (hr : r.keyedWf) {rel : Rel} (h : rel ∈ GoMap.vals r.rels) :
    (rel.toOne = true ∧ ∃ id, r.get rel.fromName = .val .string (.s id)) ∨
    (rel.toOne = false ∧ ∃ ids, r.get rel.fromName = .strs ids) := by
  obtain ⟨p, hp, rfl⟩ := List.mem_map.1 h
  have hwf := hr.1
  unfold ResView.wf at hwf
  rw [Bool.and_eq_true] at hwf
  have h := (List.all_eq_true.1 hwf.2) p hp
  have hget : GoMap.get? r.rels p.1 = some p.2 :=
    GoMap.get?_of_mem_nodup (List.nodup_append.1 hr.2.2.2).2.1 (by cases p; exact hp)
  rw [hget, hr.2.2.1 p hp] at h
  simp only at h
  split at h
  · exact Or.inl ⟨h, _, by assumption⟩
  · exact Or.inr ⟨by simpa using h, _, by assumption⟩
  · cases h

theorem relDataJson_toOne {r : ResView} (hr : r.keyedWf) {rel : Rel}
    (h : rel ∈ GoMap.vals r.rels) (hone : rel.toOne = true) :
    ∃ id, r.get rel.fromName = .val .string (.s id) ∧
      Spec.relDataJson r rel = if id = [] then .null else identifierJson id rel.toType := by
  rcases wf_rel_val hr h with ⟨_, id, hv⟩ | ⟨hm, _⟩
  · exact ⟨id, hv, by simp [Spec.relDataJson, hone, hv]⟩
  · rw [hone] at hm; cases hm

theorem relDataJson_toMany {r : ResView} (hr : r.keyedWf) {rel : Rel}
    (h : rel ∈ GoMap.vals r.rels) (hmany : rel.toOne = false) :
    ∃ ids, r.get rel.fromName = .strs ids ∧ (Typ.sortStrings ids).Perm ids ∧
      Spec.relDataJson r rel =
        .arr ((Typ.sortStrings ids).map (fun id => identifierJson id rel.toType)) := by
  rcases wf_rel_val hr h with ⟨ho, _⟩ | ⟨_, ids, hv⟩
  · rw [hmany] at ho; cases ho
  · exact ⟨ids, hv, sortStrings_perm ids, by simp [Spec.relDataJson, hmany, hv]⟩

/-! ### the top-level object -/

/-- resources of the primary data -/
def docPrimary (d : Document) : List ResView :=
  match d.data with
  | .res r => [r]
  | .col _ ms => ms
  | _ => []

/-- every resource a document marshals -/
def docResources (d : Document) : List ResView := docPrimary d ++ d.included

theorem map_sortById_isEmpty {β} (g : ResView → β) (l : List ResView) :
    ((sortById l).map g).isEmpty = l.isEmpty := by
  rw [List.isEmpty_map, sortById_isEmpty]

theorem sortById_eq_nil (l : List ResView) : sortById l = [] ↔ l = [] := by
  rw [← List.isEmpty_iff, ← List.isEmpty_iff, sortById_isEmpty]

/-- `Spec.dataMember` with `g r` for the resource object of `r` -/
def dataWith (g : ResView → Json) (doc : Document) : Option Json :=
  match doc.data with
  | .none => if doc.errors.isEmpty then some .null else none
  | .res r => some (g r)
  | .col _ ms => some (.arr (ms.map g))
  | .ident id typ => some (identifierJson id typ)
  | .idents _ l => some (.arr (l.map (fun p => identifierJson p.1 p.2)))
  | .other => none

/-- the body of the top-level object, by errors and data -/
def bodyOf (errors data : Option Json) (incs : List Json) : List (GoString × Json) :=
  match errors, data with
  | some e, _ => [(K.errors, e)]
  | none, some dj => [(K.data, dj)] ++ (if incs.isEmpty then [] else [(K.included, .arr incs)])
  | none, none => []

/-- the body of the top-level object with `g r` for the resource object of `r`: errors, or
data and, alongside it, the included resources sorted by ID -/
def bodyWith (g : ResView → Json) (doc : Document) : List (GoString × Json) :=
  bodyOf (if doc.errors.isEmpty then none else some (.arr (doc.errors.map ErrorObj.toJson)))
    (dataWith g doc) ((sortById doc.included).map g)

theorem dataWith_congr {g g' : ResView → Json} {doc : Document}
    (h : ∀ r ∈ docPrimary doc, g r = g' r) : dataWith g doc = dataWith g' doc := by
  unfold dataWith
  unfold docPrimary at h
  cases hd : doc.data <;> simp only [hd] at h ⊢
  · rw [h _ (List.mem_singleton.2 rfl)]
  · rw [List.map_congr_left h]

theorem bodyWith_congr {g g' : ResView → Json} {doc : Document}
    (h : ∀ r ∈ docResources doc, g r = g' r) : bodyWith g doc = bodyWith g' doc := by
  unfold bodyWith
  rw [dataWith_congr (fun r hr => h r (List.mem_append_left _ hr)),
    List.map_congr_left (fun r hr =>
      h r (List.mem_append_right _ ((sortById_perm _).mem_iff.1 hr)))]

def docBody (doc : Document) (fields : GoMap (List GoString)) : List (GoString × Json) :=
  if !doc.errors.isEmpty then [(K.errors, .arr (doc.errors.map ErrorObj.toJson))]
  else match Spec.dataMember doc fields with
    | some dj =>
      [(K.data, dj)] ++
      (if doc.included.isEmpty then []
       else [(K.included, .arr ((sortById doc.included).map (fun r =>
          Spec.resourceObject r doc.prePath (Spec.selection fields r.typeName) doc.relData)))])
    | none => []

def docLinks (doc : Document) (selfHref : GoString) : List (GoString × Json) :=
  (doc.links.filter (fun p => p.1 ≠ K.self)).map (fun p => (p.1, p.2.toJson)) ++
    [(K.self, Json.str selfHref)]

/-- the members of a top-level object, for some body -/
def shapeMembers (doc : Document) (selfHref : GoString) (body : List (GoString × Json)) :
    List (GoString × Json) :=
  body ++ (if doc.dmeta.isEmpty then [] else [(K.kmeta, Json.obj doc.dmeta)]) ++
    [(K.links, Json.obj (sortMembers (docLinks doc selfHref))),
     (K.jsonapi, Json.obj [(K.version, .str K.v10)])]

def docMembers (doc : Document) (fields : GoMap (List GoString)) (selfHref : GoString) :
    List (GoString × Json) :=
  docBody doc fields ++
    (if doc.dmeta.isEmpty then [] else [(K.kmeta, Json.obj doc.dmeta)]) ++
    [(K.links, Json.obj (sortMembers (docLinks doc selfHref))),
     (K.jsonapi, Json.obj [(K.version, .str K.v10)])]

/-- the object the specification writes for a resource of the document -/
abbrev specObj (doc : Document) (fields : GoMap (List GoString)) (r : ResView) : Json :=
  Spec.resourceObject r doc.prePath (Spec.selection fields r.typeName) doc.relData

theorem dataMember_eq (doc : Document) (fields : GoMap (List GoString)) :
    Spec.dataMember doc fields = dataWith (specObj doc fields) doc := by
  unfold Spec.dataMember dataWith
  cases doc.data <;> rfl

theorem docBody_eq (doc : Document) (fields : GoMap (List GoString)) :
    docBody doc fields = bodyWith (specObj doc fields) doc := by
  unfold docBody bodyWith bodyOf
  rw [dataMember_eq]
  cases doc.errors.isEmpty <;> cases dataWith (specObj doc fields) doc <;>
    simp [sortById_eq_nil]

theorem documentTree_eq (doc : Document) (fields : GoMap (List GoString)) (s : GoString) :
    Spec.documentTree doc fields s =
      if DetL.isOther doc.data && doc.errors.isEmpty then none
      else some (.obj (sortMembers (shapeMembers doc s (docBody doc fields)))) := rfl

theorem documentTree_some {doc : Document} {fields : GoMap (List GoString)} {selfHref : GoString}
    {t : Json} (h : Spec.documentTree doc fields selfHref = some t) :
    t = .obj (sortMembers (docMembers doc fields selfHref)) := by
  rw [documentTree_eq] at h
  split at h
  · cases h
  · cases h; rfl

/-- the keys of a body: errors, or data, or data and included, or nothing -/
def BodyKeys (body : List (GoString × Json)) : Prop :=
  body.map (·.1) = [K.errors] ∨ body.map (·.1) = [K.data] ∨
  body.map (·.1) = [K.data, K.included] ∨ body.map (·.1) = []

theorem bodyOf_keys (errors data : Option Json) (incs : List Json) :
    BodyKeys (bodyOf errors data incs) := by
  unfold bodyOf BodyKeys
  split
  · exact Or.inl rfl
  · cases incs.isEmpty
    · exact Or.inr (Or.inr (Or.inl rfl))
    · exact Or.inr (Or.inl rfl)
  · exact Or.inr (Or.inr (Or.inr rfl))

theorem docBody_keys (doc : Document) (fields : GoMap (List GoString)) :
    (docBody doc fields).map (·.1) = [K.errors] ∨ (docBody doc fields).map (·.1) = [K.data] ∨
    (docBody doc fields).map (·.1) = [K.data, K.included] ∨ (docBody doc fields).map (·.1) = [] := by
  rw [docBody_eq]
  exact bodyOf_keys ..

theorem shapeMembers_keys (doc : Document) (selfHref : GoString) (body : List (GoString × Json)) :
    (shapeMembers doc selfHref body).map (·.1) =
      body.map (·.1) ++ (if doc.dmeta.isEmpty then [] else [K.kmeta]) ++ [K.links, K.jsonapi] := by
  unfold shapeMembers
  cases doc.dmeta.isEmpty <;> simp

theorem docMembers_keys (doc : Document) (fields : GoMap (List GoString)) (selfHref : GoString) :
    (docMembers doc fields selfHref).map (·.1) =
      (docBody doc fields).map (·.1) ++ (if doc.dmeta.isEmpty then [] else [K.kmeta]) ++
        [K.links, K.jsonapi] :=
  shapeMembers_keys doc selfHref _

theorem shapeMembers_nodup (doc : Document) (selfHref : GoString) {body : List (GoString × Json)}
    (hb : BodyKeys body) : ((shapeMembers doc selfHref body).map (·.1)).Nodup := by
  rw [shapeMembers_keys]
  rcases hb with h | h | h | h <;> rw [h] <;> cases doc.dmeta.isEmpty <;> decide

theorem docMembers_nodup (doc : Document) (fields : GoMap (List GoString)) (selfHref : GoString) :
    ((docMembers doc fields selfHref).map (·.1)).Nodup :=
  shapeMembers_nodup doc selfHref (docBody_keys doc fields)

theorem docLinks_self (doc : Document) (selfHref : GoString) :
    (Json.obj (sortMembers (docLinks doc selfHref))).get? K.self = some (.str selfHref) := by
  apply get?_sortMembers_unique
  · simp [docLinks]
  · intro p hp hk
    simp only [docLinks, List.mem_append, List.mem_map, List.mem_filter, List.mem_singleton] at hp
    rcases hp with ⟨q, ⟨-, hq⟩, rfl⟩ | rfl
    · simp at hq; exact absurd hk hq
    · rfl

theorem mem_shapeMembers_keys (doc : Document) (selfHref : GoString)
    (body : List (GoString × Json)) {k : GoString}
    (hk : k ≠ K.kmeta ∧ k ≠ K.links ∧ k ≠ K.jsonapi) :
    k ∈ (shapeMembers doc selfHref body).map (·.1) ↔ k ∈ body.map (·.1) := by
  rw [shapeMembers_keys]
  simp only [List.mem_append, List.mem_cons, List.not_mem_nil, or_false, hk.2.1, hk.2.2]
  refine or_iff_left ?_
  split
  · exact List.not_mem_nil
  · simpa using hk.1

/-- the top-level clauses of C03 hold of any object with these members -/
theorem toplevel_of_shape (doc : Document) (selfHref : GoString) (body : List (GoString × Json))
    (hb : BodyKeys body) (t : Json)
    (ht : t = .obj (sortMembers (shapeMembers doc selfHref body))) :
    t.isObj = true ∧ t.has K.jsonapi = true ∧
    (∃ l, t.get? K.links = some l ∧ l.get? K.self = some (.str selfHref)) ∧
    ¬ (t.has K.data = true ∧ t.has K.errors = true) ∧
    (t.has K.included = true → t.has K.data = true) := by
  subst ht
  have h1 : K.data ≠ K.errors := by decide
  have h2 : K.errors ≠ K.included := by decide
  refine ⟨rfl, ?_, ?_, ?_, ?_⟩
  · rw [has_sortMembers, shapeMembers_keys]
    exact List.mem_append_right _ (List.mem_cons_of_mem _ List.mem_cons_self)
  · exact ⟨_, get?_sortMembers_of_mem (shapeMembers_nodup doc selfHref hb)
      (List.mem_append_right _ List.mem_cons_self), docLinks_self doc selfHref⟩
  · rw [has_sortMembers, has_sortMembers, mem_shapeMembers_keys _ _ _ (by decide),
      mem_shapeMembers_keys _ _ _ (by decide)]
    rcases hb with h | h | h | h <;> rw [h] <;> simp [h1, h1.symm, h2]
  · rw [has_sortMembers, has_sortMembers, mem_shapeMembers_keys _ _ _ (by decide),
      mem_shapeMembers_keys _ _ _ (by decide)]
    rcases hb with h | h | h | h <;> rw [h] <;> simp [h2.symm]

theorem tree_get_data (g : ResView → Json) (doc : Document) (selfHref : GoString) :
    (Json.obj (sortMembers (shapeMembers doc selfHref (bodyWith g doc)))).get? K.data =
      if doc.errors.isEmpty then dataWith g doc else none := by
  have hne : K.data ≠ K.errors := by decide
  unfold bodyWith
  cases doc.errors.isEmpty <;> cases dataWith g doc
  · exact get?_sortMembers_none (by
      rw [mem_shapeMembers_keys _ _ _ (by decide)]; simpa [bodyOf] using hne)
  · exact get?_sortMembers_none (by
      rw [mem_shapeMembers_keys _ _ _ (by decide)]; simpa [bodyOf] using hne)
  · exact get?_sortMembers_none (by
      rw [mem_shapeMembers_keys _ _ _ (by decide)]; simp [bodyOf])
  · exact get?_sortMembers_of_mem (shapeMembers_nodup doc selfHref (bodyOf_keys ..))
      (List.mem_append_left _ (List.mem_append_left _ List.mem_cons_self))

theorem tree_get_included (g : ResView → Json) (doc : Document) (selfHref : GoString) :
    (Json.obj (sortMembers (shapeMembers doc selfHref (bodyWith g doc)))).get? K.included =
      if doc.errors.isEmpty ∧ (dataWith g doc).isSome ∧ doc.included ≠ [] then
        some (.arr ((sortById doc.included).map g))
      else none := by
  have h1 : K.included ≠ K.errors := by decide
  have h2 : K.included ≠ K.data := by decide
  unfold bodyWith
  cases doc.errors.isEmpty <;> cases dataWith g doc
  · exact get?_sortMembers_none (by
      rw [mem_shapeMembers_keys _ _ _ (by decide)]; simpa [bodyOf] using h1)
  · exact get?_sortMembers_none (by
      rw [mem_shapeMembers_keys _ _ _ (by decide)]; simpa [bodyOf] using h1)
  · exact get?_sortMembers_none (by
      rw [mem_shapeMembers_keys _ _ _ (by decide)]; simp [bodyOf])
  · rename_i dj
    cases hi : doc.included with
    | nil =>
      exact get?_sortMembers_none (by
        rw [mem_shapeMembers_keys _ _ _ (by decide)]; simpa [bodyOf, sortById] using h2)
    | cons a l =>
      have hm : (K.included, Json.arr ((sortById (a :: l)).map g)) ∈
          bodyOf none (some dj) ((sortById (a :: l)).map g) := by
        unfold bodyOf
        rw [show ((sortById (a :: l)).map g).isEmpty = false by rw [map_sortById_isEmpty]; rfl]
        exact List.mem_cons_of_mem _ List.mem_cons_self
      simpa using get?_sortMembers_of_mem (shapeMembers_nodup doc selfHref (bodyOf_keys ..))
        (List.mem_append_left _ (List.mem_append_left _ hm))

end MarshalL
end Jsonapi
