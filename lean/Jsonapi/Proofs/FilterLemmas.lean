/- Helper lemmas for C10 (filter evaluation agrees with its logical reading); the facts about
attribute values, payload classes and Go type names that C09 needs as well. -/
import Jsonapi.Spec.Filter
import Jsonapi.Proofs.GoMapLemmas
namespace Jsonapi
open Spec

theorem hasAttrType_iff {v : GoVal} {k : Kind} {n : Bool} :
    v.hasAttrType k n = true ↔
      (n = false ∧ ∃ p, v = .val k p ∧ k.payOk p = true) ∨
      (n = true ∧ ∃ op, v = .ptr k op ∧ ∀ x, op = some x → k.payOk x = true) := by
  cases v with
  | val k' p =>
    simp only [GoVal.hasAttrType, Bool.and_eq_true, Bool.not_eq_true', decide_eq_true_eq,
      GoVal.val.injEq, reduceCtorEq, false_and, exists_false, and_false, or_false]
    exact ⟨fun ⟨⟨a, b⟩, c⟩ => ⟨a, p, ⟨b, rfl⟩, c⟩, fun ⟨a, _, ⟨b, e⟩, c⟩ => ⟨⟨a, b⟩, e ▸ c⟩⟩
  | ptr k' op =>
    cases op <;>
      simp only [GoVal.hasAttrType, Bool.and_eq_true, decide_eq_true_eq, GoVal.ptr.injEq,
        reduceCtorEq, false_and, exists_false, and_false, false_or]
    · exact ⟨fun ⟨a, b⟩ => ⟨a, none, ⟨b, rfl⟩, nofun⟩, fun ⟨a, _, ⟨b, _⟩, _⟩ => ⟨a, b⟩⟩
    · exact ⟨fun ⟨⟨a, b⟩, c⟩ => ⟨a, _, ⟨b, rfl⟩, fun _ e => Option.some.inj e ▸ c⟩,
        fun ⟨a, _, ⟨b, e⟩, c⟩ => ⟨⟨a, b⟩, c _ e.symm⟩⟩
  | _ => simp [GoVal.hasAttrType]

def Pay.cls : Pay → Nat
  | .s _ => 0 | .i _ => 1 | .b _ => 2 | .t _ => 3 | .bs _ => 4

def Kind.cls : Kind → Nat
  | .string => 0 | .bool => 2 | .time => 3 | .bytes => 4 | _ => 1

theorem Kind.cls_of_payOk {k : Kind} {p : Pay} (h : k.payOk p = true) : p.cls = k.cls := by
  cases p <;> simp only [Kind.payOk, decide_eq_true_eq] at h
  case i v => cases k <;> first | rfl | cases h
  all_goals subst h; rfl

theorem cls_eq_of_payOk {k : Kind} {p p' : Pay} (h : k.payOk p = true) (h' : k.payOk p' = true) :
    p.cls = p'.cls :=
  (Kind.cls_of_payOk h).trans (Kind.cls_of_payOk h').symm

/-! ### `evalCmp` on each of the six operators -/

theorem evalCmp_eq (v c : SVal) : evalCmp Op.eq v c = valEq v c := rfl
theorem evalCmp_ne (v c : SVal) : evalCmp Op.ne v c = !valEq v c := rfl
theorem evalCmp_lt (v c : SVal) : evalCmp Op.lt v c = valLt v c := rfl
theorem evalCmp_le (v c : SVal) :
    evalCmp Op.le v c = (valLt v c || (valOrdered v c && valEq v c)) := rfl
theorem evalCmp_gt (v c : SVal) : evalCmp Op.gt v c = valLt c v := rfl
theorem evalCmp_ge (v c : SVal) :
    evalCmp Op.ge v c = (valLt c v || (valOrdered v c && valEq v c)) := rfl

/-- With an order between the two values, `evalCmp` is the six-way switch of the Go helpers. -/
theorem evalCmp_cmpOps (op : GoString) (v c : SVal) (e l g : Bool)
    (he : valEq v c = e) (hl : valLt v c = l) (hg : valLt c v = g)
    (ho : valOrdered v c = true) : evalCmp op v c = cmpOps op e l g := by
  subst he hl hg
  unfold evalCmp cmpOps
  rw [ho]
  simp only [Bool.true_and]

theorem valLt_ordered {v c : SVal} (h : valLt v c = true) :
    valOrdered v c = true ∧ valOrdered c v = true := by
  cases v <;> cases c <;> simp only [valLt, Bool.false_eq_true, decide_eq_true_eq] at h
  rename_i a b
  have hs : (ord b a).isSome = (ord a b).isSome := by cases a <;> cases b <;> rfl
  simp only [valOrdered, hs, h, Option.isSome_some, and_self]

theorem evalCmp_unordered (op : GoString) {v c : SVal} (ho : valOrdered v c = false) :
    evalCmp op v c = (if op = Op.eq then valEq v c else if op = Op.ne then !valEq v c else false) := by
  have hl : valLt v c = false :=
    Bool.eq_false_iff.2 fun h => Bool.false_ne_true (ho.symm.trans (valLt_ordered h).1)
  have hg : valLt c v = false :=
    Bool.eq_false_iff.2 fun h => Bool.false_ne_true (ho.symm.trans (valLt_ordered h).2)
  unfold evalCmp
  rw [hl, hg, ho]
  simp only [Bool.false_and, Bool.or_false, ite_self]

theorem ite3_lt (p q : Prop) [Decidable p] [Decidable q] :
    ((if p then Ordering.lt else if q then Ordering.eq else Ordering.gt) = Ordering.lt) ↔ p := by
  by_cases hp : p
  · simp only [hp, if_true]
  · by_cases hq : q
    · simp only [hp, hq, if_false, if_true, reduceCtorEq]
    · simp only [hp, hq, if_false, reduceCtorEq]

theorem valLt_s (a b : GoString) : valLt (.pay (.s a)) (.pay (.s b)) = decide (a < b) := by
  simp only [valLt, ord, Option.some.injEq, ite3_lt]
theorem valLt_i (a b : Int) : valLt (.pay (.i a)) (.pay (.i b)) = decide (a < b) := by
  simp only [valLt, ord, Option.some.injEq, ite3_lt]
theorem valLt_t (a b : Time) : valLt (.pay (.t a)) (.pay (.t b)) = a.before b := by
  simp only [valLt, ord, Option.some.injEq, ite3_lt, Bool.decide_eq_true]
theorem valLt_bs (a b : Option (List UInt8)) :
    valLt (.pay (.bs a)) (.pay (.bs b)) = decide (Pay.bytesOf a < Pay.bytesOf b) := by
  simp only [valLt, ord, Option.some.injEq, ite3_lt]

/-- `cmpPay` (the Go comparison helpers) computes `evalCmp` on two payloads of one class. -/
theorem cmpPay_spec (op : GoString) {a b : Pay} (h : a.cls = b.cls) :
    cmpPay op a b = some (evalCmp op (.pay a) (.pay b)) := by
  cases a <;> cases b <;> first | refine congrArg some ?_ | cases h
  · exact (evalCmp_cmpOps op _ _ _ _ _ rfl (valLt_s _ _) (valLt_s _ _) rfl).symm
  · exact (evalCmp_cmpOps op _ _ _ _ _ rfl (valLt_i _ _) (valLt_i _ _) rfl).symm
  · rw [evalCmp_unordered op rfl]
    simp only [valEq, payEq, ne_eq, decide_not]
  · exact (evalCmp_cmpOps op _ _ _ _ _ rfl (valLt_t _ _) (valLt_t _ _) rfl).symm
  · exact (evalCmp_cmpOps op _ _ _ _ _ rfl (valLt_bs _ _) (valLt_bs _ _) rfl).symm

theorem checkSlice_spec (op : GoString) (a b : List GoString) :
    checkSlice op a b = evalCmp op (.ids a) (.ids b) := by
  rw [evalCmp_unordered op rfl]
  rfl

/-! ### `checkVal`: every Go type of a well-typed value has a case -/

/-- The name under which the Go type of an attribute (kind, nullable) appears as a case
of the type switches in `checkVal` and `Less` (`[]uint8` is spelled `[]byte` there). -/
def caseName (k : Kind) (nullable : Bool) : String :=
  if nullable then (if k = .bytes then "*[]byte" else "*" ++ k.goName)
  else (if k = .bytes then "[]byte" else k.goName)

theorem tn_val (k : Kind) :
    (if k.goName = "[]uint8" then "[]byte"
     else if k.goName = "*[]uint8" then "*[]byte" else k.goName) = caseName k false := by
  cases k <;> simp [caseName, Kind.goName]

theorem tn_ptr (k : Kind) :
    (if "*" ++ k.goName = "[]uint8" then "[]byte"
     else if "*" ++ k.goName = "*[]uint8" then "*[]byte" else "*" ++ k.goName)
    = caseName k true := by
  cases k <;> simp [caseName, Kind.goName]

/- `Facts.checkValCases` lists the kinds in the order of their codes, then the pointers in
the same order, then `[]string`: giving the position spares the search, which compares
strings and is dear. -/

theorem kind_val_case (k : Kind) :
    (if k.goName = "[]uint8" then "[]byte"
      else if k.goName = "*[]uint8" then "*[]byte" else k.goName) ∈ Facts.checkValCases := by
  refine List.mem_of_getElem? (i := k.code - 1) ?_
  cases k <;> simp only [Kind.goName, String.reduceEq, ite_false, ite_true] <;> rfl

theorem kind_ptr_case (k : Kind) :
    (if "*" ++ k.goName = "[]uint8" then "[]byte"
      else if "*" ++ k.goName = "*[]uint8" then "*[]byte" else "*" ++ k.goName)
      ∈ Facts.checkValCases := by
  refine List.mem_of_getElem? (i := k.code + 13) ?_
  cases k <;> decide +kernel

theorem strs_case :
    (if "[]string" = "[]uint8" then "[]byte"
      else if "[]string" = "*[]uint8" then "*[]byte" else "[]string")
      ∈ Facts.checkValCases :=
  List.mem_of_getElem? (i := 28) (by simp only [String.reduceEq, ite_false]; rfl)

theorem checkVal_val_gen (op : GoString) (k : Kind) (p : Pay) (c : GoVal) :
    checkVal op (.val k p) c =
      (match c with
        | .val k' p' => if k = k' then (match cmpPay op p p' with | some b => .ok b | none => .panic) else .panic
        | _ => .panic) := by
  unfold checkVal
  dsimp only
  rw [if_neg (fun h => h (kind_val_case k))]
  cases c <;> rfl

theorem checkVal_ptr_gen (op : GoString) (k : Kind) (p : Option Pay) (c : GoVal) :
    checkVal op (.ptr k p) c =
      (match c with
        | .ptr k' p' => if k ≠ k' then .panic else
          (match p, p' with
          | none, none => .ok (if op = Op.eq then true else false)
          | none, some _ => .ok (if op = Op.ne then true else false)
          | some _, none => .ok (if op = Op.ne then true else false)
          | some a, some b => (match cmpPay op a b with | some r => .ok r | none => .panic))
        | _ => .panic) := by
  unfold checkVal
  dsimp only
  rw [if_neg (fun h => h (kind_ptr_case k))]
  cases c <;> rfl

theorem checkVal_strs_gen (op : GoString) (a : List GoString) (c : GoVal) :
    checkVal op (.strs a) c = (match c with | .strs b => .ok (checkSlice op a b) | _ => .panic) := by
  unfold checkVal
  dsimp only
  rw [if_neg (fun h => h strs_case)]
  cases c <;> rfl

theorem checkVal_nil (op : GoString) (c : GoVal) : checkVal op .nil c = .ok false := by
  unfold checkVal
  dsimp only [GoVal.goType]
  simp only [ite_self]

theorem checkVal_other (op : GoString) (t : Nat) (c : GoVal) : checkVal op (.other t) c = .ok false := by
  unfold checkVal
  dsimp only [GoVal.goType]
  simp only [ite_self]

theorem checkVal_strs (op : GoString) (a b : List GoString) :
    checkVal op (.strs a) (.strs b) = .ok (checkSlice op a b) :=
  checkVal_strs_gen op a (.strs b)

theorem evalCmp_nil (op : GoString) {v c : SVal} (h : v = .nil ∨ c = .nil) :
    evalCmp op v c = (if op = (if valEq v c then Op.eq else Op.ne) then true else false) := by
  have hu : valOrdered v c = false := by
    rcases h with rfl | rfl
    · rfl
    · cases v <;> rfl
  rw [evalCmp_unordered op hu]
  cases valEq v c
  · by_cases h : op = Op.eq
    · subst h; decide
    · simp [h]
  · simp

/-- On two values of one declared attribute type, `checkVal` returns the comparison's
logical value (and neither panics nor falls to `default`). -/
theorem checkVal_spec (op : GoString) (k : Kind) (n : Bool) (v c : GoVal)
    (hv : v.hasAttrType k n = true) (hc : c.hasAttrType k n = true) :
    checkVal op v c = .ok (evalCmp op (sval v) (sval c)) := by
  rcases hasAttrType_iff.1 hv with ⟨hn, p, rfl, hp⟩ | ⟨hn, p, rfl, hp⟩ <;>
    rcases hasAttrType_iff.1 hc with ⟨hn', q, rfl, hq⟩ | ⟨hn', q, rfl, hq⟩ <;>
    try (rw [hn] at hn'; cases hn')
  · rw [checkVal_val_gen]
    simp only [if_true, cmpPay_spec op (cls_eq_of_payOk hp hq), sval]
  · rw [checkVal_ptr_gen]
    dsimp only
    rw [if_neg (fun h => h rfl)]
    cases p with
    | none => cases q <;> simp only [sval, evalCmp_nil op (.inl rfl)] <;> rfl
    | some a =>
      cases q with
      | none => simp only [sval, evalCmp_nil op (.inr rfl)]; rfl
      | some b => simp only [cmpPay_spec op (cls_eq_of_payOk (hp a rfl) (hq b rfl))]; rfl

theorem checkVal_comparable (op : GoString) {v c : GoVal}
    (h : (∃ a b, v = .strs a ∧ c = .strs b) ∨
      ∃ k n, v.hasAttrType k n = true ∧ c.hasAttrType k n = true) :
    checkVal op v c = .ok (evalCmp op (sval v) (sval c)) := by
  rcases h with ⟨a, b, rfl, rfl⟩ | ⟨k, n, hv, hc⟩
  · rw [checkVal_strs, checkSlice_spec]; rfl
  · exact checkVal_spec op k n v c hv hc

/-! ### What `ResView.wf` says about one field -/

theorem wf_rel {r : ResView} (hr : r.wf = true) {f : GoString} {rel : Rel}
    (h : r.rels.get? f = some rel) :
    (∃ id, r.get f = .val .string (.s id) ∧ rel.toOne = true) ∨
    (∃ l, r.get f = .strs l ∧ rel.toOne = false) := by
  unfold ResView.wf at hr
  rw [Bool.and_eq_true] at hr
  have := List.all_eq_true.1 hr.2 (f, rel) (GoMap.mem_of_get? h)
  simp only [h] at this
  split at this
  · rename_i id e; exact .inl ⟨id, e, this⟩
  · rename_i l e; exact .inr ⟨l, e, by simpa using this⟩
  · exact absurd this (by simp)

theorem getAttrVal_cases (r : ResView) (f : GoString) :
    getAttrVal r f = r.get f ∨ (r.get f = .nil ∧ ∃ k, getAttrVal r f = .ptr k none) := by
  unfold getAttrVal
  split
  · rename_i e
    rw [e]
    repeat' split
    all_goals first | exact .inl rfl | exact .inr ⟨rfl, _, rfl⟩
  · exact .inl rfl

theorem wf_attr {r : ResView} (hr : r.wf = true) {f : GoString} {a : Attr}
    (h : r.attrs.get? f = some a) :
    r.rels.get? f = none ∧ ∃ k, Kind.ofCode? a.ty = some k ∧
      ((r.get f).hasAttrType k a.nullable = true ∨ (a.nullable = true ∧ r.get f = .nil)) := by
  unfold ResView.wf at hr
  rw [Bool.and_eq_true] at hr
  have := List.all_eq_true.1 hr.1 (f, a) (GoMap.mem_of_get? h)
  simp only [h, Bool.and_eq_true, Bool.not_eq_true', GoMap.has] at this
  obtain ⟨h1, h2⟩ := this
  refine ⟨by simpa using h1, ?_⟩
  cases hk : Kind.ofCode? a.ty with
  | none => rw [hk] at h2; exact absurd h2 (by simp)
  | some k =>
    rw [hk] at h2
    refine ⟨k, rfl, ?_⟩
    simpa using h2

theorem wf_getAttrVal {r : ResView} (hr : r.wf = true) {f : GoString} {a : Attr}
    (h : r.attrs.get? f = some a) :
    ∃ k, Kind.ofCode? a.ty = some k ∧ (getAttrVal r f).hasAttrType k a.nullable = true ∧
      sval (getAttrVal r f) = sval (r.get f) := by
  obtain ⟨_, k, hk, hv⟩ := wf_attr hr h
  refine ⟨k, hk, ?_⟩
  unfold getAttrVal
  split
  · rename_i e
    rw [e] at hv
    rcases hv with hv | ⟨hn, _⟩
    · simp [GoVal.hasAttrType] at hv
    · simp only [h, hn, hk, e, if_true, GoVal.hasAttrType, sval, Bool.true_and, decide_true, and_self]
  · rename_i hne
    rcases hv with hv | ⟨_, e⟩
    · exact ⟨hv, rfl⟩
    · exact absurd e hne

/-- A field of a well-formed resource as `IsAllowed` and the specification read it: nothing,
or a value `v` (for an attribute, the untyped nil of a nullable one made a typed nil pointer)
that is one ID or a list of IDs for a relationship, of the declared type for an attribute. -/
theorem field_view {r : ResView} (hr : r.wf = true) (f : GoString) :
    (r.rels.get? f = none ∧ r.attrs.get? f = none) ∨
    ∃ v, fieldVal r f = .ok v ∧ fieldSVal r f = sval v ∧
      (v = r.get f ∨ (r.get f = .nil ∧ ∃ k, v = .ptr k none)) ∧
      ((∃ rel, r.rels.get? f = some rel ∧ ((rel.toOne = true ∧ ∃ id, v = .val .string (.s id)) ∨
          (rel.toOne = false ∧ ∃ l, v = .strs l))) ∨
        (r.rels.get? f = none ∧ ∃ a k, r.attrs.get? f = some a ∧ Kind.ofCode? a.ty = some k ∧
          v.hasAttrType k a.nullable = true)) := by
  cases hrel : r.rels.get? f with
  | some rel =>
    have hs : fieldSVal r f = sval (r.get f) := by
      unfold fieldSVal; rw [if_pos (.inl (by simp [GoMap.has, hrel]))]
    refine .inr ⟨r.get f, ?_, hs, .inl rfl, .inl ⟨rel, rfl, ?_⟩⟩
    all_goals rcases wf_rel hr hrel with ⟨id, hg, hone⟩ | ⟨l, hg, hone⟩
    · unfold fieldVal; simp only [hrel, hone, if_true, hg]
    · unfold fieldVal; simp only [hrel, hone, hg]; rfl
    · exact .inl ⟨hone, id, hg⟩
    · exact .inr ⟨hone, l, hg⟩
  | none =>
    cases hat : r.attrs.get? f with
    | none => exact .inl ⟨rfl, rfl⟩
    | some a =>
      obtain ⟨k, hk, hty, hsv⟩ := wf_getAttrVal hr hat
      refine .inr ⟨_, ?_, ?_, getAttrVal_cases r f, .inr ⟨rfl, a, k, rfl, hk, hty⟩⟩
      · unfold fieldVal
        simp only [hrel, GoMap.has, hat, Option.isSome_some, if_true]
      · unfold fieldSVal
        rw [if_pos (.inr (by simp [GoMap.has, hat])), hsv]

theorem Op.has_ne_in : Op.has ≠ Op.in_ := by decide

theorem leaf_view {r : ResView} (hr : r.wf = true) {f op : GoString} {val : GoVal}
    (hf : leafWellTyped r f op val = true) :
    ∃ v, fieldVal r f = .ok v ∧ fieldSVal r f = sval v ∧
      (v = r.get f ∨ (r.get f = .nil ∧ ∃ k, v = .ptr k none)) ∧
      if op = Op.in_ then ∃ id ids, v = .val .string (.s id) ∧ val = .strs ids
      else if op = Op.has then ∃ id ids, v = .strs ids ∧ val = .val .string (.s id)
      else (∃ a b, v = .strs a ∧ val = .strs b) ∨
        ∃ k n, v.hasAttrType k n = true ∧ val.hasAttrType k n = true := by
  unfold leafWellTyped at hf
  rw [Bool.and_eq_true] at hf
  obtain ⟨_, hf⟩ := hf
  rcases field_view hr f with ⟨hrel, hat⟩ | ⟨v, hfv, hfs, hd, hv⟩
  · rw [hrel, hat] at hf; cases hf
  refine ⟨v, hfv, hfs, hd, ?_⟩
  rcases hv with ⟨rel, hrel, ⟨hone, id, rfl⟩ | ⟨hone, l, rfl⟩⟩ | ⟨hrel, a, k, hat, hk, hty⟩
  · rw [hrel] at hf
    dsimp only at hf
    rw [hone] at hf
    by_cases hin : op = Op.in_
    · rw [if_pos hin] at hf ⊢
      split at hf
      · exact ⟨_, _, rfl, rfl⟩
      · cases hf
    · rw [if_neg hin] at hf ⊢
      by_cases hhas : op = Op.has
      · rw [if_pos hhas] at hf; cases hf
      · rw [if_neg hhas, if_pos rfl] at hf
        rw [if_neg hhas]
        split at hf
        · exact .inr ⟨.string, false, rfl, rfl⟩
        · cases hf
  · rw [hrel] at hf
    dsimp only at hf
    rw [hone] at hf
    by_cases hin : op = Op.in_
    · rw [if_pos hin] at hf; cases hf
    · rw [if_neg hin] at hf ⊢
      by_cases hhas : op = Op.has
      · rw [if_pos hhas] at hf ⊢
        split at hf
        · exact ⟨_, _, rfl, rfl⟩
        · cases hf
      · rw [if_neg hhas, if_neg (by decide)] at hf
        rw [if_neg hhas]
        split at hf
        · exact .inl ⟨_, _, rfl, rfl⟩
        · cases hf
  · rw [hrel] at hf
    dsimp only at hf
    rw [hat] at hf
    dsimp only at hf
    rw [hk] at hf
    dsimp only at hf
    by_cases hin : op = Op.in_
    · rw [if_pos hin] at hf ⊢
      simp only [Bool.and_eq_true, decide_eq_true_eq, Bool.not_eq_true'] at hf
      obtain ⟨⟨rfl, hn⟩, hval⟩ := hf
      rw [hn] at hty
      obtain ⟨_, p, rfl, hok⟩ | ⟨h, _⟩ := hasAttrType_iff.1 hty
      · cases p <;> simp only [Kind.payOk, decide_eq_true_eq, reduceCtorEq, Kind.range?] at hok
        split at hval
        · exact ⟨_, _, rfl, rfl⟩
        · cases hval
      · cases h
    · rw [if_neg hin] at hf ⊢
      by_cases hhas : op = Op.has
      · rw [if_pos hhas] at hf; cases hf
      · rw [if_neg hhas] at hf ⊢
        exact .inr ⟨k, _, hty, hf⟩

theorem leaf_spec (r : ResView) (hr : r.wf = true) (field op : GoString) (val : GoVal)
    (hf : leafWellTyped r field op val = true) :
    isAllowed r (.leaf field op val) = .ok (Spec.eval r (.leaf field op val)) := by
  have hao : ¬ (op = Op.and_ ∨ op = Op.or_) := by
    unfold leafWellTyped at hf
    simp only [Bool.and_eq_true, decide_eq_true_eq, ne_eq] at hf
    exact fun h => h.elim hf.1.1 hf.1.2
  obtain ⟨v, hfv, hfs, _, hc⟩ := leaf_view hr hf
  rw [isAllowed, hfv]
  unfold Spec.eval
  rw [hfs]
  dsimp only
  rw [if_neg hao]
  by_cases hin : op = Op.in_
  · rw [if_pos hin] at hc ⊢
    obtain ⟨id, ids, rfl, rfl⟩ := hc
    rw [if_pos hin]
    rfl
  · rw [if_neg hin] at hc ⊢
    rw [if_neg hin]
    by_cases hhas : op = Op.has
    · rw [if_pos hhas] at hc ⊢
      obtain ⟨id, ids, rfl, rfl⟩ := hc
      rw [if_pos hhas]
      rfl
    · rw [if_neg hhas] at hc ⊢
      rw [if_neg hhas]
      exact checkVal_comparable op hc

theorem evalAll_nil (r : ResView) : evalAll r [] = true := rfl
theorem evalAny_nil (r : ResView) : evalAny r [] = false := rfl
theorem allAllowed_nil (r : ResView) : allAllowed r [] = .ok true := rfl
theorem anyAllowed_nil (r : ResView) : anyAllowed r [] = .ok false := rfl
theorem wellTypedAll_nil (r : ResView) : wellTypedAll r [] = true := rfl

theorem one_of_three (p q s : Prop) [Decidable p] [Decidable q] [Decidable s]
    (h : p ∨ q ∨ s) (hpq : p → ¬ q) (hps : p → ¬ s) (hqs : q → ¬ s) :
    (decide p = true ∧ decide q = false ∧ decide s = false) ∨
    (decide p = false ∧ decide q = true ∧ decide s = false) ∨
    (decide p = false ∧ decide q = false ∧ decide s = true) := by
  rcases h with h | h | h
  · exact .inl ⟨decide_eq_true h, decide_eq_false (hpq h), decide_eq_false (hps h)⟩
  · exact .inr (.inl ⟨decide_eq_false (fun hp => hpq hp h), decide_eq_true h,
      decide_eq_false (hqs h)⟩)
  · exact .inr (.inr ⟨decide_eq_false (fun hp => hps hp h),
      decide_eq_false (fun hq => hqs hq h), decide_eq_true h⟩)

theorem lt_tri {α : Type} [LT α] [DecidableEq α] [DecidableLT α]
    [Std.Trichotomous (α := α) (· < ·)] [Std.Asymm (α := α) (· < ·)] (a b : α) :
    (decide (a < b) = true ∧ decide (a = b) = false ∧ decide (b < a) = false) ∨
    (decide (a < b) = false ∧ decide (a = b) = true ∧ decide (b < a) = false) ∨
    (decide (a < b) = false ∧ decide (a = b) = false ∧ decide (b < a) = true) :=
  one_of_three _ _ _ (Std.lt_trichotomy a b) (fun h e => Std.Asymm.asymm _ _ h (e ▸ h))
    (Std.Asymm.asymm a b) (fun e h => Std.Asymm.asymm _ _ h (e ▸ h))

/-! ### Independence of the resource implementation -/

mutual
theorem eval_congr (r₁ r₂ : ResView) (ha : r₁.attrs = r₂.attrs) (hrel : r₁.rels = r₂.rels)
    (hv : ∀ k, sval (r₁.get k) = sval (r₂.get k)) :
    (f : Filter) → Spec.eval r₁ f = Spec.eval r₂ f
  | .node true fs => by
    rw [Spec.eval, Spec.eval]; exact evalAll_congr r₁ r₂ ha hrel hv fs
  | .node false fs => by
    rw [Spec.eval, Spec.eval]; exact evalAny_congr r₁ r₂ ha hrel hv fs
  | .leaf field op val => by
    unfold Spec.eval fieldSVal
    rw [ha, hrel, hv]
theorem evalAll_congr (r₁ r₂ : ResView) (ha : r₁.attrs = r₂.attrs) (hrel : r₁.rels = r₂.rels)
    (hv : ∀ k, sval (r₁.get k) = sval (r₂.get k)) :
    (fs : List Filter) → evalAll r₁ fs = evalAll r₂ fs
  | [] => rfl
  | f :: fs => by
    rw [evalAll, evalAll, eval_congr r₁ r₂ ha hrel hv f,
      evalAll_congr r₁ r₂ ha hrel hv fs]
theorem evalAny_congr (r₁ r₂ : ResView) (ha : r₁.attrs = r₂.attrs) (hrel : r₁.rels = r₂.rels)
    (hv : ∀ k, sval (r₁.get k) = sval (r₂.get k)) :
    (fs : List Filter) → evalAny r₁ fs = evalAny r₂ fs
  | [] => rfl
  | f :: fs => by
    rw [evalAny, evalAny, eval_congr r₁ r₂ ha hrel hv f,
      evalAny_congr r₁ r₂ ha hrel hv fs]
end

mutual
theorem wellTyped_congr (r₁ r₂ : ResView) (ha : r₁.attrs = r₂.attrs) (hrel : r₁.rels = r₂.rels) :
    (f : Filter) → wellTyped r₁ f = wellTyped r₂ f
  | .node b fs => by
    rw [wellTyped, wellTyped]; exact wellTypedAll_congr r₁ r₂ ha hrel fs
  | .leaf field op val => by
    rw [wellTyped, wellTyped]
    unfold leafWellTyped
    rw [ha, hrel]
theorem wellTypedAll_congr (r₁ r₂ : ResView) (ha : r₁.attrs = r₂.attrs)
    (hrel : r₁.rels = r₂.rels) :
    (fs : List Filter) → wellTypedAll r₁ fs = wellTypedAll r₂ fs
  | [] => rfl
  | f :: fs => by
    rw [wellTypedAll, wellTypedAll, wellTyped_congr r₁ r₂ ha hrel f,
      wellTypedAll_congr r₁ r₂ ha hrel fs]
end

end Jsonapi
