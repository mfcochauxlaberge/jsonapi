/-
The codec laws of `Spec.Codecs` are satisfiable, with real decoders (`Spec/Codec.lean`):
`Spec.b64decode` inverts the model's base64 encoder (proved here) and `Spec.parseRFC3339`
inverts `formatTime` on `Spec.TimeDom` (`Proofs/TimeCodecLemmas.lean`); `realCodecs` is
`Spec.Codecs` instantiated with them; `codecsFor` is the smallest inhabitant (a time decoder
that knows one instant).
-/
import Jsonapi.Spec.RoundTrip
import Jsonapi.Spec.Codec
import Jsonapi.Proofs.TimeCodecLemmas
namespace Jsonapi
namespace RtL
open Spec

theorem b64Val_b64Char : ∀ n, n < 64 → b64Val (b64Char n) = n ∧ b64Char n ≠ 61 := by decide

theorem ofNat_of_eq (a : UInt8) (n : Nat) (h : n = a.toNat) : UInt8.ofNat n = a := by
  subst h; simp

/-- the sextets written for one, two and three bytes put the bytes back together -/
theorem b64_sextets (n : Nat) :
    n / 4 * 64 + n % 4 * 16 = n * 16 ∧
    n / 1024 * 4096 + n / 16 % 64 * 64 + n % 16 * 4 = n * 4 ∧
    n / 262144 * 262144 + n / 4096 % 64 * 4096 + n / 64 % 64 * 64 + n % 64 = n :=
  ⟨by lia, by lia, by lia⟩

/-- the bytes of a 24-bit group -/
theorem b64_bytes (a b c : UInt8) :
    UInt8.ofNat ((a.toNat * 65536 + b.toNat * 256 + c.toNat) / 65536) = a ∧
    UInt8.ofNat ((a.toNat * 65536 + b.toNat * 256 + c.toNat) / 256 % 256) = b ∧
    UInt8.ofNat ((a.toNat * 65536 + b.toNat * 256 + c.toNat) % 256) = c := by
  have hb := b.toNat_lt
  have hc := c.toNat_lt
  exact ⟨ofNat_of_eq _ _ (by lia), ofNat_of_eq _ _ (by omega), ofNat_of_eq _ _ (by lia)⟩

theorem b64decode_b64enc (l : List UInt8) : b64decode (b64enc l) = some l := by
  fun_induction b64enc l with
  | case1 => rfl
  | case2 a n =>
    have hn : n < 4 * 64 := a.toNat_lt
    simp only [b64decode, b64Val_b64Char _ (Nat.div_lt_of_lt_mul hn),
      b64Val_b64Char (n % 4 * 16) (by omega), and_self, if_true, (b64_sextets n).1,
      Nat.mul_div_cancel _ (show 0 < 16 by decide), n, UInt8.ofNat_toNat]
  | case3 a b n =>
    have hb := b.toNat_lt
    have hn : n < 1024 * 64 := by have := a.toNat_lt; omega
    have ea : n / 256 = a.toNat := by lia
    have eb : n % 256 = b.toNat := by lia
    simp only [b64decode, b64Val_b64Char _ (Nat.div_lt_of_lt_mul hn),
      b64Val_b64Char _ (Nat.mod_lt (n / 16) (by decide)), b64Val_b64Char (n % 16 * 4) (by lia),
      false_and, if_false, and_self, if_true, (b64_sextets n).2.1,
      Nat.mul_div_mul_right n 256 (show 0 < 4 by decide), Nat.mul_div_cancel _ (show 0 < 4 by decide), ea, eb,
      UInt8.ofNat_toNat]
  | case4 a b c rest n ih =>
    have hn : n < 262144 * 64 := by
      have := a.toNat_lt; have := b.toNat_lt; have := c.toNat_lt; lia
    obtain ⟨ea, eb, ec⟩ := b64_bytes a b c
    simp only [b64decode, b64Val_b64Char _ (Nat.div_lt_of_lt_mul hn),
      b64Val_b64Char _ (Nat.mod_lt (n / 4096) (by decide)), b64Val_b64Char _ (Nat.mod_lt (n / 64) (by decide)),
      b64Val_b64Char _ (Nat.mod_lt n (by decide)), false_and, if_false, ih, (b64_sextets n).2.2, n, ea, eb, ec]

/-- An inhabitant of `Spec.Codecs`: base64 decoding as above; the time decoder recognises
the text of the one instant `t0` (so `TimeOk` is not empty). -/
def codecsFor (t0 : Time) : Spec.Codecs :=
  { parseTime := fun s => if s = formatTime t0 then some t0 else none
    b64dec := b64decode
    TimeOk := fun t => t = t0
    time_law := by intro t h; subst h; simp
    b64_law := b64decode_b64enc }

/-- `Spec.Codecs` with the real decoders: RFC 3339 on `Spec.TimeDom` (local civil year
0..9999, nanoseconds below a second, whole-minute zone strictly within a day) and padded
StdEncoding base64. -/
def realCodecs : Spec.Codecs :=
  { parseTime := Spec.parseRFC3339
    b64dec := Spec.b64decode
    TimeOk := Spec.TimeDom
    time_law := parseRFC3339_formatTime
    b64_law := b64decode_b64enc }

end RtL
end Jsonapi
