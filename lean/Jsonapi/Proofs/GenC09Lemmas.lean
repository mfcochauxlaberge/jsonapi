/-
Lemmas for Props/GenC09.lean: the rule loop of `sortedResources.Less` as the translator prints it
(a fold with an early result, stated for any step function with the printed behaviour), the byte
loop of its `[]byte` case, the model's `lessVal` on a first value of each form, and what each arm of
the type switch computes from two values of its kind (`lessR`) against the model's `lessPay`.
Two tactic abbreviations, `less_other_type K` and `less_ptr K`, run the comparison of one arm (second
value of another type; pointer case of kind `K`) by case analysis on the second value; they refer
to the hypotheses `v2`, `wv2` of the goal by name (`hygiene false`).
-/
import Jsonapi.Proofs.GenC10bLemmas
import Jsonapi.Proofs.RangeLemmas
namespace Jsonapi
set_option linter.unusedSimpArgs false
set_option linter.unusedVariables false

/-- what the loop of `Less` does with the outcome of one rule: return it, go on (`continue`), or panic -/
def RuleRes.outcome : RuleRes → Option (Res Bool)
  | .decided x => some (.ok x)
  | .tie => none
  | .panic => some .panic

def ruleOutcome (a b : ResView) (r : GoString) : Option (Res Bool) :=
  let (inverse, name) := splitRule r
  if name = idName then some (.ok (xorInv (decide (a.id < b.id)) inverse))
  else (lessVal inverse (getAttrVal a name) (getAttrVal b name)).outcome

def lessOpt (a b : ResView) : List GoString → Option (Res Bool)
  | [] => none
  | r :: rest => match ruleOutcome a b r with
    | some v => some v
    | none => lessOpt a b rest

theorem less_eq_lessOpt (a b : ResView) (rules : List GoString) :
    less rules a b = (lessOpt a b rules).getD (.ok false) := by
  induction rules with
  | nil => rfl
  | cons r rest ih =>
    simp only [less, lessOpt, ruleOutcome]
    rcases hs : splitRule r with ⟨inverse, name⟩
    simp only []
    by_cases hid : name = idName
    · simp [hid]
    · simp only [hid, if_false]
      cases hl : lessVal inverse (getAttrVal a name) (getAttrVal b name) <;> simp [ih, RuleRes.outcome]

theorem less_fold (a b : ResView) (f : Option (Res Bool) → GoString × Nat → Option (Res Bool))
    (h1 : ∀ v p, f (some v) p = some v)
    (h0 : ∀ r n, f none (r, n) = ruleOutcome a b r)
    (rules : List GoString) (n : Nat) :
    (rules.zipIdx n).foldl f none = lessOpt a b rules := by
  induction rules generalizing n with
  | nil => rfl
  | cons r rest ih =>
    simp only [List.zipIdx_cons, List.foldl_cons, h0, lessOpt]
    cases ho : ruleOutcome a b r with
    | none => exact ih (n + 1)
    | some v => exact foldl_fix f (some v) (fun p => h1 v p) _



/-- the Go type of the kind (nullable or not) has a case in the type switch of `Less` on this tree -/
def hasCase : Kind → Bool → Bool
  | .uint64, _ => false
  | .bytes, true => false
  | _, _ => true

theorem hasCase_spec (k : Kind) (n : Bool) : (caseName k n ∈ Facts.lessCases) ↔ hasCase k n = true := by
  cases k <;> cases n <;> decide

theorem lessVal_val_gen (inv : Bool) (k : Kind) (p : Pay) (c : GoVal) :
    lessVal inv (.val k p) c =
      if hasCase k false = true then
        (match c with
          | .val k' p' => if k = k' then lessPay inv p p' else .panic
          | _ => .panic)
      else .tie := by
  unfold lessVal
  have htn : (if (GoVal.val k p).goType = "[]uint8" then "[]byte"
     else if (GoVal.val k p).goType = "*[]uint8" then "*[]byte" else (GoVal.val k p).goType)
     = caseName k false := tn_val k
  simp only [htn, hasCase_spec]
  by_cases hc : hasCase k false = true
  · simp only [hc, not_true_eq_false, if_false, if_true]
    cases c <;> rfl
  · simp [hc]

theorem lessVal_ptr_gen (inv : Bool) (k : Kind) (p : Option Pay) (c : GoVal) :
    lessVal inv (.ptr k p) c =
      if hasCase k true = true then
        (match c with
          | .ptr k' p' => if k ≠ k' then .panic else
            (match p, p' with
              | none, none => .tie
              | none, some _ => .decided (!inv)
              | some _, none => .decided inv
              | some a, some b => lessPay inv a b)
          | _ => .panic)
      else .tie := by
  unfold lessVal
  have htn : (if (GoVal.ptr k p).goType = "[]uint8" then "[]byte"
     else if (GoVal.ptr k p).goType = "*[]uint8" then "*[]byte" else (GoVal.ptr k p).goType)
     = caseName k true := tn_ptr k
  simp only [htn, hasCase_spec]
  by_cases hc : hasCase k true = true
  · simp only [hc, not_true_eq_false, if_false, if_true]
    cases c <;> rfl
  · simp [hc]

theorem noCase_other : ¬ (if "other" = "[]uint8" then "[]byte" else if "other" = "*[]uint8" then "*[]byte" else "other") ∈ Facts.lessCases := by decide
theorem noCase_nil : ¬ (if "<nil>" = "[]uint8" then "[]byte" else if "<nil>" = "*[]uint8" then "*[]byte" else "<nil>") ∈ Facts.lessCases := by decide
theorem noCase_strs : ¬ (if "[]string" = "[]uint8" then "[]byte" else if "[]string" = "*[]uint8" then "*[]byte" else "[]string") ∈ Facts.lessCases := by decide

theorem lessVal_nil (inv : Bool) (c : GoVal) : lessVal inv .nil c = .tie := by
  simp [lessVal, GoVal.goType, Facts.lessCases]
theorem lessVal_other (inv : Bool) (t : Nat) (c : GoVal) : lessVal inv (.other t) c = .tie := by
  simp [lessVal, GoVal.goType, Facts.lessCases]
theorem lessVal_strs (inv : Bool) (l : List GoString) (c : GoVal) : lessVal inv (.strs l) c = .tie := by
  simp [lessVal, GoVal.goType, Facts.lessCases]

/-- the byte loop of `Less`: decided at the first position where the two slices differ -/
def lexFirst (inv : Bool) : List UInt8 → List UInt8 → Option (Res Bool)
  | x :: xs, y :: ys => if x = y then lexFirst inv xs ys else some (.ok (xorInv (decide (x < y)) inv))
  | _, _ => none

theorem lexFirst_fold (inv : Bool) (x y : List UInt8) (f : Option (Res Bool) → Nat → Option (Res Bool))
    (h0 : ∀ i, f none i = if decide (x.getD i 0 = y.getD i 0) = true then none
      else some (Res.ok (xorInv (decide (x.getD i 0 < y.getD i 0)) inv)))
    (h1 : ∀ v i, f (some v) i = some v) :
    (List.range (min x.length y.length)).foldl f none = lexFirst inv x y := by
  induction x generalizing y f with
  | nil => simp [lexFirst]
  | cons a x ih =>
    cases y with
    | nil => simp [lexFirst]
    | cons b y =>
      simp only [List.length_cons, Nat.succ_min_succ, List.range_succ_eq_map, List.foldl_cons, List.foldl_map, lexFirst]
      rw [h0 0]
      simp only [List.getD_cons_zero]
      by_cases hab : a = b
      · subst hab
        simp only [decide_true, if_true]
        exact ih y (fun r i => f r (i + 1)) (fun i => by rw [h0 (i + 1)]; simp only [List.getD_cons_succ]) (fun v i => h1 v (i + 1))
      · simp only [hab, decide_false, Bool.false_eq_true, if_false]
        exact foldl_fix (fun r i => f r (i + 1)) _ (fun i => h1 _ _) _

theorem lexFirst_some (inv : Bool) (x y : List UInt8) (r : Res Bool) (h : lexFirst inv x y = some r) :
    x ≠ y ∧ r = .ok (xorInv (decide (x < y)) inv) := by
  induction x generalizing y with
  | nil => simp [lexFirst] at h
  | cons a x ih =>
    cases y with
    | nil => simp [lexFirst] at h
    | cons b y =>
      simp only [lexFirst] at h
      by_cases hab : a = b
      · subst hab
        simp only [if_true] at h
        obtain ⟨h1, h2⟩ := ih y h
        refine ⟨fun e => h1 (List.cons.inj e).2, ?_⟩
        rw [h2]
        have : (a :: x < a :: y) ↔ x < y := by
          rw [List.cons_lt_cons_iff]; simp [UInt8.lt_irrefl]
        simp only [this]
      · simp only [hab, if_false, Option.some.injEq] at h
        refine ⟨fun e => hab (List.cons.inj e).1, ?_⟩
        rw [← h]
        have : (a :: x < b :: y) ↔ a < b := by
          rw [List.cons_lt_cons_iff]; simp [hab]
        simp only [this]

theorem lexFirst_none (inv : Bool) (x y : List UInt8) (h : lexFirst inv x y = none) :
    (x = y ↔ x.length = y.length) ∧ (x < y ↔ x.length < y.length) := by
  induction x generalizing y with
  | nil =>
    cases y with
    | nil => simp
    | cons b y => simp
  | cons a x ih =>
    cases y with
    | nil => simp
    | cons b y =>
      simp only [lexFirst] at h
      by_cases hab : a = b
      · subst hab
        simp only [if_true] at h
        obtain ⟨h1, h2⟩ := ih y h
        constructor
        · simp [h1]
        · rw [List.cons_lt_cons_iff]; simp [UInt8.lt_irrefl, h2]
      · simp [hab] at h


theorem bytesOf_getD (a : Option (List UInt8)) : Pay.bytesOf a = a.getD [] := by cases a <;> rfl

theorem splitRule_eq (r : GoString) :
    (if hasPrefix r [45] = true then (true, List.drop 1 r) else (false, r)) = splitRule r := by
  cases r with
  | nil => rfl
  | cons c t =>
    by_cases hc : c = 45
    · subst hc; rfl
    · have : hasPrefix (c :: t) [45] = false := by
        simp only [hasPrefix, List.isPrefixOf, Bool.and_eq_false_imp, beq_iff_eq]
        intro h; exact absurd h.symm hc
      simp only [this, Bool.false_eq_true, if_false]
      unfold splitRule
      split
      · rename_i h; injection h with h1 h2; exact absurd h1 hc
      · rfl

theorem xorInv_not (v i : Bool) : xorInv (!v) i = !xorInv v i := by
  cases v <;> cases i <;> rfl

theorem Time.equal_self (a : Time) : a.equal a = true := by simp [Time.equal]

theorem decide_eq_bool (x y : Bool) : decide (x = y) = !xorInv x y := by
  cases x <;> cases y <;> rfl

theorem decide_ne_bool (x y : Bool) : decide (x ≠ y) = xorInv x y := by
  cases x <;> cases y <;> rfl

theorem lessVal_val_outcome (inv : Bool) (k : Kind) (p : Pay) (c : GoVal) (h : hasCase k false = true) :
    (lessVal inv (.val k p) c).outcome =
      match (generalizing := false) c with
      | .val k' p' => if k = k' then (lessPay inv p p').outcome else some .panic
      | _ => some .panic := by
  rw [lessVal_val_gen, if_pos h]
  cases c with
  | val k' p' => by_cases hk : k = k' <;> simp only [hk, if_true, if_false] <;> rfl
  | _ => rfl

theorem lessVal_ptr_outcome (inv : Bool) (k : Kind) (p : Option Pay) (c : GoVal) (h : hasCase k true = true) :
    (lessVal inv (.ptr k p) c).outcome =
      match (generalizing := false) c with
      | .ptr k' q => if k ≠ k' then some .panic else
        (match (generalizing := false) p, q with
        | none, none => none
        | none, some _ => some (.ok (!inv))
        | some _, none => some (.ok inv)
        | some a, some b => (lessPay inv a b).outcome)
      | _ => some .panic := by
  rw [lessVal_ptr_gen, if_pos h]
  cases c with
  | ptr k' q =>
    by_cases hk : k = k'
    · subst hk; cases p <;> cases q <;> simp only [ne_eq, not_true_eq_false, if_false] <;> rfl
    · simp only [ne_eq, hk, not_false_eq_true, if_true]; rfl
  | _ => rfl

/-- the comparison `Less` makes inline on two values of an ordered Go type -/
def ordLess {α : Type} [DecidableEq α] [LT α] [DecidableLT α] (inv : Bool) (a b : α) : Option (Res Bool) :=
  if (decide (a = b)) then none else some (.ok (decide ((decide (a < b)) ≠ inv)))

/-- the `[]byte` case of `Less`: the first differing position, then the lengths -/
def bytesLess (inv : Bool) (x y : List UInt8) : Option (Res Bool) :=
  match lexFirst inv x y with
  | some r => some r
  | none => ordLess inv (x.length : Int) (y.length : Int)

/-- range.go `Less`: what the arm of a kind computes from two non-nil values -/
def lessR : (K : Kind) → Bool → (kindCmp K).α → (kindCmp K).α → Option (Res Bool)
  | .string => ordLess (α := GoString)
  | .int | .int8 | .int16 | .int32 | .int64 => ordLess (α := Int)
  | .uint | .uint8 | .uint16 | .uint32 | .uint64 => ordLess (α := Nat)
  | .bool => fun inv (a b : Bool) => if (decide (a = b)) then none else some (.ok (decide ((!a) ≠ inv)))
  | .time => fun inv (a b : Time) => if (Time.equal a b) then none else some (.ok (decide ((Time.before a b) ≠ inv)))
  | .bytes => fun inv (a b : Option (List UInt8)) => bytesLess inv (a.getD []) (b.getD [])


theorem ordLess_eq {α : Type} [DecidableEq α] [LT α] [DecidableLT α] (inv : Bool) (a b : α) :
    ordLess inv a b = (if a = b then RuleRes.tie else .decided (xorInv (decide (a < b)) inv)).outcome := by
  unfold ordLess
  by_cases h : a = b <;> simp [h, RuleRes.outcome, decide_eq_bool]

theorem bytesLess_eq (inv : Bool) (x y : List UInt8) :
    bytesLess inv x y = (if x = y then RuleRes.tie else .decided (xorInv (decide (x < y)) inv)).outcome := by
  unfold bytesLess
  cases hl : lexFirst inv x y with
  | some r =>
    obtain ⟨h1, h2⟩ := lexFirst_some inv x y r hl
    simp [h1, h2, RuleRes.outcome]
  | none =>
    obtain ⟨h1, h2⟩ := lexFirst_none inv x y hl
    rw [ordLess_eq]
    simp only [Int.natCast_inj, Int.ofNat_lt, ← h1, ← h2]

theorem lessPay_u (inv : Bool) (a b : Nat) :
    (lessPay inv (.i (Int.ofNat a)) (.i (Int.ofNat b))).outcome = ordLess inv a b := by
  rw [ordLess_eq]; simp only [lessPay, Int.ofNat_eq_natCast, Int.natCast_inj, Int.ofNat_lt]

theorem lessPay_b (inv : Bool) (a b : Bool) :
    (lessPay inv (.b a) (.b b)).outcome = if (decide (a = b)) then none else some (.ok (decide ((!a) ≠ inv))) := by
  by_cases h : a = b <;> simp [lessPay, RuleRes.outcome, h, decide_eq_bool, xorInv_not]

theorem lessPay_t (inv : Bool) (a b : Time) :
    (lessPay inv (.t a) (.t b)).outcome =
      if (Time.equal a b) then none else some (.ok (decide ((Time.before a b) ≠ inv))) := by
  cases h : Time.equal a b <;> simp [lessPay, RuleRes.outcome, h, decide_eq_bool]

theorem lessPay_bs (inv : Bool) (a b : Option (List UInt8)) :
    (lessPay inv (.bs a) (.bs b)).outcome = bytesLess inv (a.getD []) (b.getD []) := by
  simp only [lessPay, bytesOf_getD, bytesLess_eq]

theorem lessR_eq : (K : Kind) → (inv : Bool) → (a b : (kindCmp K).α) →
    (lessPay inv ((kindCmp K).c a) ((kindCmp K).c b)).outcome = lessR K inv a b
  | .string, inv, a, b => (ordLess_eq (α := GoString) inv a b).symm
  | .int, inv, a, b | .int8, inv, a, b | .int16, inv, a, b | .int32, inv, a, b | .int64, inv, a, b =>
    (ordLess_eq (α := Int) inv a b).symm
  | .uint, inv, a, b | .uint8, inv, a, b | .uint16, inv, a, b | .uint32, inv, a, b | .uint64, inv, a, b =>
    lessPay_u inv a b
  | .bool, inv, a, b => lessPay_b inv a b
  | .time, inv, a, b => lessPay_t inv a b
  | .bytes, inv, a, b => lessPay_bs inv a b

theorem lessPay_self (inv : Bool) (p : Pay) : lessPay inv p p = .tie := by
  cases p <;> simp [lessPay, Time.equal_self]

theorem lessR_self (K : Kind) (inv : Bool) (a : (kindCmp K).α) : lessR K inv a a = none :=
  (lessR_eq K inv a a).symm.trans (congrArg RuleRes.outcome (lessPay_self inv _))

instance (K : Kind) : DecidableEq (kindCmp K).α := (kindCmp K).deq

theorem lessR_eq_ptr (K : Kind) (inv s : Bool) (a b : (kindCmp K).α) :
    (lessPay inv ((kindCmp K).c a) ((kindCmp K).c b)).outcome =
      if (s && decide (a = b)) then none else lessR K inv a b := by
  rw [lessR_eq]
  by_cases h : a = b
  · subst h; simp [lessR_self]
  · simp [h]

-- closes the second goal of `split` on the assertion of v2's type: v2 is not of the Go type of kind K
set_option hygiene false in
macro "less_other_type" K:term : tactic => `(tactic| (
  rename_i h
  cases v2 with
  | val k' p' =>
    by_cases hk : $K = k'
    · subst hk
      cases p' <;> simp [GoVal.WF, Kind.payOk, Kind.range?] at wv2
      first
      | exact absurd rfl (h _)
      | (rename_i w; obtain ⟨m, rfl⟩ := Int.eq_ofNat_of_zero_le wv2.1; exact absurd rfl (h m))
    · simp [hk]
  | _ => rfl))

set_option hygiene false in
macro "less_ptr" K:term : tactic => `(tactic| (
  rw [lessVal_ptr_gen]; simp only [hasCase, if_true, Option.isNone_none, Option.isNone_some]
  cases v2 with
  | ptr k' p' =>
    by_cases hk : $K = k'
    · subst hk
      cases p' with
      | none => simp
      | some q' =>
        cases q' <;> simp [GoVal.WF, Kind.payOk, Kind.range?] at wv2 <;>
        (try (rename_i w'; obtain ⟨m', rfl⟩ := Int.eq_ofNat_of_zero_le wv2.1)) <;>
        simp [lessPay, decide_ne_bool, Int.natCast_inj, Int.ofNat_lt] <;>
        (repeat' split) <;> simp_all [decide_eq_bool, Int.natCast_inj, Int.ofNat_lt, xorInv_not, Time.equal_self]
    · have hk' : ¬ k' = $K := fun e => hk e.symm
      simp [hk, hk']
  | _ => simp))


end Jsonapi
