/-
`splitComma` (through `splitOn` of UrlNumLemmas), the facts `Check` establishes, the maps built
by Wrap/BuildType as folds of `GoMap.set`, and what they contain. For C20 (WrapperLemmas builds
on this file) and, through DeclLemmas, for C17 and the struct-backed resources of C05.
-/
import Jsonapi.Model.Struct
import Jsonapi.Proofs.GoMapLemmas
import Jsonapi.Proofs.UrlNumLemmas
namespace Jsonapi

/-! ### strings.Split(s, ",") -/

theorem splitComma_go_eq (cur s : GoString) : splitComma.go cur s = splitOn.go comma cur s := by
  induction s generalizing cur with
  | nil => rfl
  | cons c r ih => simp only [splitComma.go, splitOn.go, ih]

theorem splitComma_eq_splitOn (s : GoString) : splitComma s = splitOn comma s :=
  splitComma_go_eq [] s

theorem splitComma_length_pos (s : GoString) : 1 ≤ (splitComma s).length := by
  rw [splitComma_eq_splitOn]
  exact List.length_pos_iff.2 (UrlL.Num.splitOn_ne_nil comma s)

theorem splitComma_head (s : GoString) :
    (splitComma s).head? = some (s.takeWhile (fun c => c ≠ comma)) := by
  rw [splitComma_eq_splitOn]
  exact UrlL.Num.go_head comma [] s

theorem splitComma_nocomma (a : GoString) (h : comma ∉ a) : splitComma a = [a] := by
  rw [splitComma_eq_splitOn]
  exact UrlL.Num.splitOn_of_not_mem comma a h

theorem splitComma_comma (a b : GoString) (h : comma ∉ a) :
    splitComma (a ++ comma :: b) = a :: splitComma b := by
  rw [splitComma_eq_splitOn, splitComma_eq_splitOn, UrlL.Num.splitOn_append,
    UrlL.Num.splitOn_of_not_mem comma a h]
  rfl

theorem takeWhile_eq_sRel_iff (s : GoString) :
    s.takeWhile (fun c => c ≠ comma) = sRel ↔ (s = sRel ∨ hasPrefix s sRelComma = true) := by
  constructor
  · intro h
    have hs := List.takeWhile_append_dropWhile (p := fun c => decide (c ≠ comma)) (l := s)
    have hd := List.head?_dropWhile_not (fun c => decide (c ≠ comma)) s
    rw [h] at hs
    cases hdw : s.dropWhile (fun c => decide (c ≠ comma)) with
    | nil => left; rw [hdw] at hs; simpa using hs.symm
    | cons c r =>
      right
      rw [hdw] at hs hd
      have hd : c = comma := by simpa using hd
      subst hd
      rw [← hs]
      simp [hasPrefix, sRelComma, sRel, comma]
  · rintro (h | h)
    · subst h; decide
    · unfold hasPrefix at h
      rw [List.isPrefixOf_iff_prefix] at h
      obtain ⟨t, ht⟩ := h
      subst ht
      simp [sRelComma, sRel, comma, List.takeWhile]

theorem splitComma_head_rel_iff (s : GoString) :
    (splitComma s).head? = some sRel ↔ (s = sRel ∨ hasPrefix s sRelComma = true) := by
  rw [splitComma_head, Option.some.injEq, takeWhile_eq_sRel_iff]

theorem SField.head_rel_iff (f : SField) :
    (splitComma f.api).head? = some sRel ↔ f.isRelTagged = true := by
  rw [splitComma_head_rel_iff]
  simp [SField.isRelTagged]

theorem SField.isAttr_api_ne {f : SField} (h : f.isAttr = true) : f.api ≠ [] := by
  simp only [SField.isAttr, decide_eq_true_eq] at h
  rw [h]; decide

theorem SField.isRelTagged_api_ne {f : SField} (h : f.isRelTagged = true) : f.api ≠ [] := by
  intro e
  simp [SField.isRelTagged, e, sRel, sRelComma, hasPrefix] at h

theorem SField.not_attr_and_rel {f : SField} (h : f.isAttr = true) : f.isRelTagged = false := by
  simp only [SField.isAttr, decide_eq_true_eq] at h
  rw [SField.isRelTagged, h]; decide

/-- `Check`'s table is the names of the 28 attribute types: the kinds, then their pointers. -/
theorem checkAttrTypes_eq : Facts.checkAttrTypes =
    [false, true].flatMap fun n => Kind.all.map fun k => (GoTy.attr k n).name := by decide +kernel

theorem checkAttrTypes_iff (t : GoTy) :
    t.name ∈ Facts.checkAttrTypes ↔ ∃ k n, t = .attr k n := by
  constructor
  · intro h
    cases t with
    | attr k n => exact ⟨k, n, rfl⟩
    | strs => exact absurd h (by decide +kernel)
    | other n sk =>
      have h1 : ∀ x ∈ Facts.checkAttrTypes, x.startsWith "o" = false := by decide +kernel
      have h2 : (GoTy.other n sk).name.startsWith "o" = true := by simp [GoTy.name]
      rw [h1 _ h] at h2
      cases h2
  · rintro ⟨k, n, rfl⟩
    rw [checkAttrTypes_eq, List.mem_flatMap]
    exact ⟨n, by cases n <;> simp, List.mem_map.2 ⟨k, by cases k <;> decide, rfl⟩⟩

/-! ### What Check establishes -/

/-- json names of api-tagged fields are pairwise distinct when non-empty (the `names`
map of Check). -/
def Uniq (d : StructDecl) : Prop :=
  d.Pairwise (fun f g => f.api ≠ [] → g.api ≠ [] → f.json ≠ [] → f.json ≠ g.json)

theorem namesOk_spec (seen : List GoString) (d : StructDecl)
    (h : checkStruct.namesOk seen d = true) :
    (∀ f ∈ d, f.api ≠ [] → f.json ≠ [] → f.json ∉ seen) ∧
    (∀ f ∈ d, f.name ≠ sID → (f.isAttr = true ∨ f.isRelTagged = true) →
        f.json ≠ [] ∧ f.json ≠ idName) ∧
    Uniq d := by
  induction d generalizing seen with
  | nil => exact ⟨fun _ h => absurd h List.not_mem_nil, fun _ h => absurd h List.not_mem_nil, List.Pairwise.nil⟩
  | cons f rest ih =>
    unfold checkStruct.namesOk at h
    by_cases hapi : f.api = []
    · rw [if_pos hapi] at h
      obtain ⟨h1, h2, h3⟩ := ih seen h
      exact ⟨List.forall_mem_cons.2 ⟨fun ha => absurd hapi ha, h1⟩,
        List.forall_mem_cons.2 ⟨fun _ hfld => absurd hapi
          (hfld.elim SField.isAttr_api_ne SField.isRelTagged_api_ne), h2⟩,
        List.pairwise_cons.2 ⟨fun g _ ha => absurd hapi ha, h3⟩⟩
    · simp only [hapi, if_false] at h
      split at h
      · cases h
      · rename_i hc
        obtain ⟨h1, h2, h3⟩ := ih _ h
        simp only [Bool.or_eq_true, Bool.and_eq_true, decide_eq_true_eq, not_or, not_and,
          List.contains_eq_mem, ne_eq] at hc
        refine ⟨List.forall_mem_cons.2 ⟨fun _ => hc.2, fun g hg ha hj hm =>
            h1 g hg ha hj (List.mem_cons_of_mem _ hm)⟩,
          List.forall_mem_cons.2 ⟨fun hne hfld => hc.1 ⟨hne, hfld⟩, h2⟩,
          List.pairwise_cons.2 ⟨fun g hg _ hga hfj e => ?_, h3⟩⟩
        exact h1 g hg hga (e ▸ hfj) (e ▸ List.mem_cons_self)

/-- Everything `Check` verified, as propositions. -/
structure CheckFacts (d : StructDecl) : Prop where
  idf : ∃ idf, d.find? (fun f => f.name = sID) = some idf ∧ idf.ty.isStringKind = true ∧
    idf.api ≠ [] ∧ idf.isAttr = false ∧ idf.isRelTagged = false
  names : checkStruct.namesOk [] d = true
  attrs : ∀ f ∈ d, f.isAttr = true → ∃ k n, f.ty = .attr k n
  rels : ∀ f ∈ d, f.isRelTagged = true →
    2 ≤ (splitComma f.api).length ∧ (splitComma f.api).length ≤ 3 ∧
    (f.ty = .attr .string false ∨ f.ty = .strs)

theorem checkFacts {d : StructDecl} (h : checkStruct d = true) : CheckFacts d := by
  unfold checkStruct at h
  split at h
  · exact absurd h (by simp)
  · rename_i idf hf
    simp only [Bool.and_eq_true, List.all_eq_true, Bool.or_eq_true,
      decide_eq_true_eq, ne_eq, Bool.or_eq_false_iff, Bool.not_eq_eq_eq_not,
      Bool.not_true, decide_eq_false_iff_not] at h
    obtain ⟨⟨⟨⟨⟨h1, h2⟩, h3⟩, h4⟩, h5⟩, h6⟩ := h
    refine ⟨⟨idf, hf, h1, h2, ?_, ?_⟩, h4, ?_, ?_⟩
    · simp [SField.isAttr, h3.1.1]
    · simp [SField.isRelTagged, h3.1.2, h3.2]
    · intro f hf ha
      rcases h5 f hf with hh | hh
      · rw [ha] at hh; exact absurd hh (by simp)
      · exact (checkAttrTypes_iff _).1 hh
    · intro f hf hr
      rcases h6 f hf with hh | hh
      · rw [hr] at hh; exact absurd hh (by simp)
      · exact ⟨hh.1.1, hh.1.2, hh.2⟩

theorem CheckFacts.uniq {d : StructDecl} (c : CheckFacts d) : Uniq d :=
  (namesOk_spec [] d c.names).2.2

theorem CheckFacts.json_ok {d : StructDecl} (c : CheckFacts d) {f : SField} (hf : f ∈ d)
    (hne : f.name ≠ sID) (hfld : f.isAttr = true ∨ f.isRelTagged = true) :
    f.json ≠ [] ∧ f.json ≠ idName :=
  (namesOk_spec [] d c.names).2.1 f hf hne hfld

/-! ### Maps built by a loop of `m[key f] = val f` -/

/-- The loop `for f in l { if p f { m[key f] = val f } }`. -/
def foldSet {α β : Type} (p : α → Bool) (key : α → GoString) (val : α → β)
    (l : List α) (m : GoMap β) : GoMap β :=
  l.foldl (fun m f => if p f then m.set (key f) (val f) else m) m

section foldSet
variable {α β : Type} (p : α → Bool) (key : α → GoString) (val : α → β)

theorem foldSet_nil (m : GoMap β) : foldSet p key val [] m = m := rfl

theorem foldSet_cons (a : α) (l : List α) (m : GoMap β) :
    foldSet p key val (a :: l) m =
      foldSet p key val l (if p a then m.set (key a) (val a) else m) := rfl

theorem foldSet_append (l₁ l₂ : List α) (m : GoMap β) :
    foldSet p key val (l₁ ++ l₂) m = foldSet p key val l₂ (foldSet p key val l₁ m) := by
  simp [foldSet, List.foldl_append]

theorem foldSet_mem {l : List α} {m : GoMap β} {x : GoString × β}
    (h : x ∈ foldSet p key val l m) :
    x ∈ m ∨ ∃ f ∈ l, p f = true ∧ x = (key f, val f) := by
  induction l generalizing m with
  | nil => exact Or.inl h
  | cons a l ih =>
    rw [foldSet_cons] at h
    rcases ih h with h | ⟨f, hf, hp, hx⟩
    · split at h
      · rename_i hpa
        rcases GoMap.mem_set h with h | h
        · exact Or.inl h
        · exact Or.inr ⟨a, List.mem_cons_self, hpa, h⟩
      · exact Or.inl h
    · exact Or.inr ⟨f, List.mem_cons_of_mem _ hf, hp, hx⟩

theorem foldSet_get?_of_not {l : List α} {m : GoMap β} {k : GoString}
    (h : ∀ g ∈ l, p g = true → key g ≠ k) :
    (foldSet p key val l m).get? k = m.get? k := by
  induction l generalizing m with
  | nil => rfl
  | cons a l ih =>
    rw [foldSet_cons, ih (fun g hg => h g (List.mem_cons_of_mem _ hg))]
    split
    · rename_i hpa
      exact GoMap.get?_set_ne _ _ _ _ (fun e => h a List.mem_cons_self hpa e.symm)
    · rfl

theorem foldSet_get?_at {l₁ l₂ : List α} {f : α} {m : GoMap β} (hp : p f = true)
    (h : ∀ g ∈ l₂, p g = true → key g ≠ key f) :
    (foldSet p key val (l₁ ++ f :: l₂) m).get? (key f) = some (val f) := by
  rw [foldSet_append, foldSet_cons, foldSet_get?_of_not p key val h]
  simp only [hp, if_true]
  exact GoMap.get?_set_self _ _ _

end foldSet

/-- The Attr that Wrap/BuildType record for an attribute field. -/
def attrOf (f : SField) : Attr :=
  match f.ty with
  | .attr k n => { name := f.json, ty := k.code, nullable := n }
  | _ => { name := f.json, ty := 0, nullable := false }

/-- The Rel that Wrap/BuildType record for a relationship field. -/
def relOf (typeName : GoString) (f : SField) : Rel :=
  { fromType := typeName, fromName := f.json, toOne := decide (f.ty ≠ .strs),
    toType := ((splitComma f.api)[1]?).getD [],
    toName := if (splitComma f.api).length = 3 then ((splitComma f.api)[2]?).getD [] else [],
    fromOne := false }

theorem structAttrs_eq (d : StructDecl) :
    structAttrs d = foldSet SField.isAttr SField.json attrOf d [] := by
  unfold structAttrs foldSet
  congr 1
  funext m f
  unfold attrOf
  split
  · split <;> simp_all
  · rfl

theorem structRels_eq (tn : GoString) (d : StructDecl)
    (h : ∀ f ∈ d, f.isRelTagged = true → 2 ≤ (splitComma f.api).length) :
    structRels tn d = .ok (foldSet SField.isRelTagged SField.json (relOf tn) d []) := by
  unfold structRels
  generalize ([] : GoMap Rel) = m
  induction d generalizing m with
  | nil => rfl
  | cons f rest ih =>
    rw [List.foldl_cons, foldSet_cons]
    have ih := ih fun g hg => h g (List.mem_cons_of_mem _ hg)
    by_cases hr : f.isRelTagged = true
    · have hlen := h f List.mem_cons_self hr
      have ht : (splitComma f.api)[1]? = some (splitComma f.api)[1] := List.getElem?_eq_getElem (by omega)
      simp only [(SField.head_rel_iff f).2 hr, if_true, ht, hr]
      rw [ih]
      simp [relOf, ht]
    · simp only [mt (SField.head_rel_iff f).1 hr, if_false, hr]
      exact ih m

/-! ### Wrap and BuildType once Check accepted -/

/-- The relationship map of an accepted struct. -/
def relsOf (d : StructDecl) : GoMap Rel :=
  foldSet SField.isRelTagged SField.json (relOf (structTypeName d)) d []

theorem foldSet_nodup {α β : Type} (p : α → Bool) (key : α → GoString) (val : α → β)
    (l : List α) (m : GoMap β) (h : (GoMap.keys m).Nodup) :
    (GoMap.keys (foldSet p key val l m)).Nodup := by
  induction l generalizing m with
  | nil => exact h
  | cons a l ih =>
    rw [foldSet_cons]
    apply ih
    split
    · exact GoMap.nodup_keys_set _ _ h
    · exact h

theorem structAttrs_nodup (d : StructDecl) : (structAttrs d).keys.Nodup := by
  rw [structAttrs_eq]; exact foldSet_nodup _ _ _ _ _ List.nodup_nil

theorem relsOf_nodup (d : StructDecl) : (relsOf d).keys.Nodup :=
  foldSet_nodup _ _ _ _ _ List.nodup_nil

theorem CheckFacts.structRels_ok {d : StructDecl} (c : CheckFacts d) :
    structRels (structTypeName d) d = .ok (relsOf d) :=
  structRels_eq _ d (fun f hf hr => (c.rels f hf hr).1)

theorem buildType_ok {d : StructDecl} (h : checkStruct d = true) :
    buildType d = .ok { name := structTypeName d, attrs := structAttrs d, rels := relsOf d } := by
  unfold buildType
  rw [(checkFacts h).structRels_ok]
  simp [h]

theorem wrap_ok {d : StructDecl} (h : checkStruct d = true) (vals : List GoVal) :
    wrap d vals = .ok { decl := d, vals := vals, typ := structTypeName d,
                        attrs := structAttrs d, rels := relsOf d } := by
  unfold wrap
  rw [(checkFacts h).structRels_ok]
  simp [h]

theorem CheckFacts.typeName {d : StructDecl} (c : CheckFacts d) :
    ∃ idf ∈ d, idf.name = sID ∧ structTypeName d = idf.api := by
  obtain ⟨idf, hf, hk, _⟩ := c.idf
  refine ⟨idf, List.mem_of_find?_eq_some hf, ?_, ?_⟩
  · simpa using List.find?_some hf
  · simp [structTypeName, hf, hk]

theorem Uniq.later {d l₁ l₂ : StructDecl} {f : SField} (hu : Uniq d) (hd : d = l₁ ++ f :: l₂)
    (ha : f.api ≠ []) (hj : f.json ≠ []) : ∀ g ∈ l₂, g.api ≠ [] → g.json ≠ f.json := by
  subst hd
  have h1 := (List.pairwise_append.1 hu).2.1
  have h2 := (List.pairwise_cons.1 h1).1
  intro g hg hga e
  exact h2 g hg ha hga hj e.symm

theorem CheckFacts.attrs_get? {d : StructDecl} (c : CheckFacts d) {f : SField} (hf : f ∈ d)
    (hne : f.name ≠ sID) (ha : f.isAttr = true) :
    (structAttrs d).get? f.json = some (attrOf f) := by
  obtain ⟨l₁, l₂, hd⟩ := List.append_of_mem hf
  have hl := c.uniq.later hd (SField.isAttr_api_ne ha) (c.json_ok hf hne (Or.inl ha)).1
  rw [structAttrs_eq, hd]
  exact foldSet_get?_at SField.isAttr SField.json attrOf ha
    (fun g hg hga => hl g hg (SField.isAttr_api_ne hga))

theorem CheckFacts.rels_get? {d : StructDecl} (c : CheckFacts d) {f : SField} (hf : f ∈ d)
    (hne : f.name ≠ sID) (hr : f.isRelTagged = true) :
    (relsOf d).get? f.json = some (relOf (structTypeName d) f) := by
  obtain ⟨l₁, l₂, hd⟩ := List.append_of_mem hf
  have hl := c.uniq.later hd (SField.isRelTagged_api_ne hr) (c.json_ok hf hne (Or.inr hr)).1
  unfold relsOf
  generalize structTypeName d = tn
  rw [hd]
  exact foldSet_get?_at SField.isRelTagged SField.json (relOf tn) hr
    (fun g hg hga => hl g hg (SField.isRelTagged_api_ne hga))

theorem structAttrs_mem {d : StructDecl} {x : GoString × Attr} (h : x ∈ structAttrs d) :
    ∃ f ∈ d, f.isAttr = true ∧ x = (f.json, attrOf f) := by
  rw [structAttrs_eq] at h
  rcases foldSet_mem _ _ _ h with h | h
  · simp at h
  · exact h

theorem relsOf_mem {d : StructDecl} {x : GoString × Rel} (h : x ∈ relsOf d) :
    ∃ f ∈ d, f.isRelTagged = true ∧ x = (f.json, relOf (structTypeName d) f) := by
  rcases foldSet_mem _ _ _ h with h | h
  · simp at h
  · exact h

end Jsonapi
