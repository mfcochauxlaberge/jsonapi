/-
Facts about lists that do not mention the model: left folds (a state no step changes, an
invariant, folds that only append); `getD` / `set` at the position after a given prefix and
`isSuffixOf` of a one-byte suffix (`strings.HasSuffix`); pointwise-related lists (`Forall2`).
-/
import Jsonapi.Basic.Core
namespace Jsonapi

/-! ### Left folds -/

/-- A state that every step leaves alone is left alone by the loop (a sticky error, a set
`brk'` or `ret'` of a translated loop). -/
theorem foldl_fix {σ β : Type} (f : σ → β → σ) (s : σ) (h : ∀ b, f s b = s) (l : List β) :
    l.foldl f s = s := by
  induction l with
  | nil => rfl
  | cons b t ih => rw [List.foldl_cons, h, ih]

theorem foldl_invariant {α β : Type} (f : β → α → β) (I : β → Prop) (h : ∀ b x, I b → I (f b x)) :
    ∀ (l : List α) (b : β), I b → I (l.foldl f b)
  | [], _, hb => hb
  | x :: l, b, hb => foldl_invariant f I h l _ (h b x hb)

theorem foldl_keep {σ α τ : Type} (f : σ → α → σ) (view : σ → τ) (h : ∀ s a, view (f s a) = view s)
    (l : List α) (init : σ) : view (l.foldl f init) = view init :=
  foldl_invariant f (fun s => view s = view init) (fun s a hs => (h s a).trans hs) l init rfl

theorem foldl_append_eq_flatMap {α β : Type} (l : List α) (g : α → List β) (f : List β → α → List β)
    (h : ∀ acc x, x ∈ l → f acc x = acc ++ g x) (init : List β) :
    l.foldl f init = init ++ l.flatMap g := by
  induction l generalizing init with
  | nil => simp
  | cons a l ih =>
    rw [List.foldl_cons, h init a (List.mem_cons_self ..),
      ih (fun acc x hx => h acc x (List.mem_cons_of_mem _ hx)), List.flatMap_cons, List.append_assoc]

theorem foldl_append_map {α β : Type} (f : α → β) (l : List α) (acc : List β) :
    l.foldl (fun acc x => acc ++ [f x]) acc = acc ++ l.map f :=
  List.map_eq_flatMap ▸ foldl_append_eq_flatMap l (fun x => [f x]) _ (fun _ _ _ => rfl) acc

theorem getD_append_at {α : Type} (pre : List α) (a : α) (suf : List α) (d : α) :
    (pre ++ a :: suf).getD pre.length d = a := by
  rw [List.getD_eq_getElem?_getD, List.getElem?_append_right (Nat.le_refl _)]; simp

theorem set_append_at {α : Type} (pre : List α) (a b : α) (suf : List α) :
    (pre ++ a :: suf).set pre.length b = pre ++ b :: suf := by
  rw [List.set_append_right _ _ (Nat.le_refl _), Nat.sub_self, List.set_cons_zero]

/-- Go's `strings.HasSuffix(s, "c")` for a one-byte suffix. -/
theorem isSuffixOf_singleton (c : UInt8) (l : GoString) :
    List.isSuffixOf [c] l = decide (l.getLast? = some c) := by
  rw [Bool.eq_iff_iff, List.isSuffixOf_iff_suffix, decide_eq_true_iff, List.getLast?_eq_some_iff]
  constructor
  · rintro ⟨t, h⟩; exact ⟨t, h.symm⟩
  · rintro ⟨t, h⟩; exact ⟨t, h.symm⟩

/-! ### Pointwise related lists -/

namespace Forall2
variable {α β : Type} {R : α → β → Prop}

theorem imp {R' : α → β → Prop} (himp : ∀ a b, R a b → R' a b) {l₁ : List α} {l₂ : List β}
    (h : Forall2 R l₁ l₂) : Forall2 R' l₁ l₂ := by
  induction h with
  | nil => exact .nil
  | cons hab _ ih => exact .cons (himp _ _ hab) ih

theorem append {l₁ l₁' : List α} {l₂ l₂' : List β} (h : Forall2 R l₁ l₂) (h' : Forall2 R l₁' l₂') :
    Forall2 R (l₁ ++ l₁') (l₂ ++ l₂') := by
  induction h with
  | nil => exact h'
  | cons hab _ ih => exact .cons hab ih

theorem length_eq {l₁ : List α} {l₂ : List β} (h : Forall2 R l₁ l₂) : l₁.length = l₂.length := by
  induction h with
  | nil => rfl
  | cons _ _ ih => simp [ih]

theorem map {γ δ : Type} {R' : γ → δ → Prop} (f : α → γ) (g : β → δ)
    (hfg : ∀ a b, R a b → R' (f a) (g b)) {l₁ : List α} {l₂ : List β} (h : Forall2 R l₁ l₂) :
    Forall2 R' (l₁.map f) (l₂.map g) := by
  induction h with
  | nil => exact .nil
  | cons hab _ ih => exact .cons (hfg _ _ hab) ih

theorem of_map {γ : Type} (f : γ → α) (g : γ → β) :
    ∀ (l : List γ), (∀ x ∈ l, R (f x) (g x)) → Forall2 R (l.map f) (l.map g)
  | [], _ => .nil
  | x :: l, h =>
    .cons (h x List.mem_cons_self) (of_map f g l (fun y hy => h y (List.mem_cons_of_mem _ hy)))

theorem map_right (g : α → β) (l : List α) (h : ∀ a ∈ l, R a (g a)) : Forall2 R l (l.map g) := by
  simpa only [List.map_id] using of_map id g l h

theorem map_eq {γ : Type} {g : α → γ} {g' : β → γ} {l₁ : List α} {l₂ : List β}
    (h : Forall2 R l₁ l₂) (hg : ∀ a b, R a b → g a = g' b) : l₁.map g = l₂.map g' := by
  induction h with
  | nil => rfl
  | cons hab _ ih => simp only [List.map_cons, hg _ _ hab, ih]

theorem getElem {l₁ : List α} {l₂ : List β} (h : Forall2 R l₁ l₂) {i : Nat} {a : α} {b : β}
    (ha : l₁[i]? = some a) (hb : l₂[i]? = some b) : R a b := by
  induction h generalizing i with
  | nil => cases ha
  | cons hab _ ih =>
    cases i with
    | zero => cases ha; cases hb; exact hab
    | succ i => exact ih ha hb

theorem of_mem_left {l₁ : List α} {l₂ : List β} (h : Forall2 R l₁ l₂) {a : α} (ha : a ∈ l₁) :
    ∃ b ∈ l₂, R a b := by
  induction h with
  | nil => cases ha
  | cons hab _ ih =>
    rcases List.mem_cons.1 ha with e | ha
    · exact ⟨_, List.mem_cons_self, e ▸ hab⟩
    · obtain ⟨b, hb, hr⟩ := ih ha; exact ⟨b, List.mem_cons_of_mem _ hb, hr⟩

theorem of_mem_right {l₁ : List α} {l₂ : List β} (h : Forall2 R l₁ l₂) {b : β} (hb : b ∈ l₂) :
    ∃ a ∈ l₁, R a b := by
  induction h with
  | nil => cases hb
  | cons hab _ ih =>
    rcases List.mem_cons.1 hb with e | hb
    · exact ⟨_, List.mem_cons_self, e ▸ hab⟩
    · obtain ⟨a, ha, hr⟩ := ih hb; exact ⟨a, List.mem_cons_of_mem _ ha, hr⟩

end Forall2
end Jsonapi
