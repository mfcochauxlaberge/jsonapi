/- Helper lemmas for C05 / C06 / C13, part 6: acceptance of integer literals per kind, and what
the fields of an accepted resource read. -/
import Jsonapi.Proofs.UnmarshalLemmas5
namespace Jsonapi
open GoMap
namespace UnmL

theorem signed_accept (k : Kind) (hs : k.isSigned = true) (s : GoString) (hplus : s.head? ≠ some 43)
    (n : Int) :
    parseInt k.bits s = some n ↔
      Spec.intLit s = some n ∧ ∃ lo hi, k.range? = some (lo, hi) ∧ lo ≤ n ∧ n ≤ hi := by
  rw [parseInt_spec k.bits s n hplus, Kind.signed_range k hs]
  generalize ((2 ^ (k.bits - 1) : Nat) : Int) = B
  refine and_congr_right fun _ => ⟨fun h => ⟨_, _, rfl, h.1, Int.le_sub_one_of_lt h.2⟩, ?_⟩
  rintro ⟨lo, hi, e, h2, h3⟩
  cases e
  exact ⟨h2, Int.lt_of_le_sub_one h3⟩

theorem unsigned_accept (k : Kind) (hu : k.isUnsigned = true) (s : GoString) (n : Int) :
    (∃ m : Nat, parseUint k.bits s = some m ∧ (m : Int) = n) ↔
      Spec.intLit s = some n ∧ (∃ lo hi, k.range? = some (lo, hi) ∧ lo ≤ n ∧ n ≤ hi) ∧
        s.head? ≠ some 45 := by
  rw [Kind.unsigned_range k hu]
  constructor
  · rintro ⟨m, h, rfl⟩
    obtain ⟨h1, h2, h3⟩ := (parseUint_intLit k.bits s m).1 h
    exact ⟨h1, ⟨_, _, rfl, Int.natCast_nonneg m, Int.le_sub_one_of_lt (Int.ofNat_lt.2 h2)⟩, h3⟩
  · rintro ⟨h1, ⟨lo, hi, e, h2, h3⟩, h4⟩
    cases e
    obtain ⟨m, rfl⟩ := Int.eq_ofNat_of_zero_le h2
    exact ⟨m, (parseUint_intLit k.bits s m).2 ⟨h1, Int.ofNat_lt.1 (Int.lt_of_le_sub_one h3), h4⟩, rfl⟩

theorem attrsOk_iff (t : Typ) (l : GoMap RawVal) :
    attrsOk t l = true ↔
      ∀ p ∈ l, ∃ a v, t.attrs.get? p.1 = some a ∧ unmarshalToType a p.2 = .ok v :=
  List.all_eq_true.trans (forall_congr' fun _ => forall_congr' fun _ => attrEntry_isSome)

theorem relsOk_iff (t : Typ) (l : GoMap RelRaw) :
    relsOk t l = true ↔
      ∀ p ∈ l, ∃ rel, t.rels.get? p.1 = some rel ∧ (relValue rel p.2).2 = false :=
  List.all_eq_true.trans (forall_congr' fun _ => forall_congr' fun _ => relOk_iff)

theorem relValue_canon {rel : Rel} {rv : RelRaw} {x : GoVal} (hx : (relValue rel rv).1 = some x) :
    Spec.canon x = x ∧ ∀ y, Spec.canon y = x → y = x := by
  have := relValue_typed rel rv x hx
  split at this <;> obtain ⟨_, rfl⟩ := this
  · exact ⟨rfl, fun _ => canon_eq_string⟩
  · exact ⟨rfl, fun _ => canon_eq_strs⟩

theorem fullHist_reads {t : Typ} (ht : TypWF t) (hn : Spec.namesOk t = true) (sk : ResSke)
    (hA : sk.attrs.keys.Nodup) (hR : sk.rels.keys.Nodup)
    (okA : attrsOk t sk.attrs = true) (okR : relsOk t sk.rels = true) :
    (∀ key raw, sk.attrs.get? key = some raw → ∃ a x, t.attrs.get? key = some a ∧
      unmarshalToType a raw = .ok x ∧ Spec.specGet t (fullHist t sk) key = Spec.canon x) ∧
    (∀ key rv, sk.rels.get? key = some rv → ∃ rel, t.rels.get? key = some rel ∧
      (relValue rel rv).2 = false ∧
      (rv.present = true → ∃ x, (relValue rel rv).1 = some x ∧
        Spec.specGet t (fullHist t sk) key = x)) ∧
    (∀ f, sk.attrs.has f = false → (∀ rv, sk.rels.get? f = some rv → rv.present = false) →
      f ≠ idName → Spec.specGet t (fullHist t sk) f = Spec.zeroOf t f) := by
  have hnd := fullHist_nodup ht hn sk hA hR
  refine ⟨fun key raw hg => ?_, fun key rv hg => ?_, fun f hf hrel hid => ?_⟩
  · have hm := mem_of_get? hg
    obtain ⟨e, he⟩ := all_attrEntry okA hm
    obtain ⟨a, ha, hv, e1, _⟩ := attrEntry_some ht he
    have hmem : (e.1, e.2) ∈ fullHist t sk := mem_fullHist_attr sk hm he
    rw [e1] at hmem
    exact ⟨a, e.2, ha, hv, specGet_of_mem t _ key e.2 hnd hmem⟩
  · have hm := mem_of_get? hg
    obtain ⟨rel, hr, hbad⟩ := all_relOk okR hm
    refine ⟨rel, hr, hbad, fun hp => ?_⟩
    obtain ⟨x, hx, he⟩ := relEntry_of_present (p := (key, rv)) hr hp
    have hmem := mem_fullHist_rel sk hm he
    rw [← (rel_of_get? ht hr).1] at hmem
    exact ⟨x, hx, (specGet_of_mem t _ key x hnd hmem).trans (relValue_canon hx).1⟩
  · refine specGet_of_not_mem _ _ _ fun h => ?_
    rcases mem_fullHist_keys ht sk f h with h | h | ⟨⟨p, hp, e, hpres⟩, _⟩
    · exact hid h
    · exact Bool.false_ne_true (hf.symm.trans (has_iff_mem_keys.2 h.1))
    · rw [hrel p.2 (e ▸ get?_of_mem_nodup hR hp)] at hpres
      cases hpres

end UnmL
end Jsonapi
