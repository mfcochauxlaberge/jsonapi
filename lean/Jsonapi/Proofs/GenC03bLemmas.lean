/-
Helper lemmas for Props/GenC03b.lean: the early-exit folds the translator prints for the loops of
`Document.Include` (a `List.range` fold that reads the members of a collection view by index, the
`ret'` state of a loop with `return`) against the model's `List.any`; the fold of `Identifiers.IDs`
that stores into the elements of a slice made by `make` against `List.map`.
-/
import Jsonapi.Generated.Funcs
import Jsonapi.Proofs.ListLemmas
namespace Jsonapi.GenC03bL
open Jsonapi

theorem map_range_getD {α : Type} (l : List α) (dflt : α) :
    (List.range l.length).map (fun i => l.getD i dflt) = l := by
  apply List.ext_getElem
  · simp
  · intro i h1 h2
    simp only [List.getElem_map, List.getElem_range, List.getD_eq_getElem?_getD]
    rw [List.getElem?_eq_getElem h2]
    rfl

/-- the loop `for … { if p x { return v } }` -/
theorem foldl_ret_any {α β : Type} (step : Option β → α → Option β) (p : α → Bool) (v : β)
    (hs : ∀ w x, step (some w) x = some w)
    (hn : ∀ x, step none x = if p x then some v else none) (l : List α) :
    l.foldl step none = if l.any p then some v else none := by
  induction l with
  | nil => rfl
  | cons a l ih =>
    simp only [List.foldl_cons, List.any_cons, hn]
    by_cases h : p a = true
    · simp only [h, if_true, Bool.true_or]
      exact foldl_fix step (some v) (hs v) l
    · have h' : p a = false := by simpa using h
      simp only [h', Bool.false_or]
      simpa using ih

theorem foldl_range_ret_any {α β : Type} (step : Option β → Nat → Option β) (p : α → Bool) (v : β)
    (l : List α) (dflt : α)
    (hs : ∀ w i, step (some w) i = some w)
    (hn : ∀ i, step none i = if p (l.getD i dflt) then some v else none) :
    (List.range l.length).foldl step none = if l.any p then some v else none := by
  have h := foldl_ret_any (fun acc x => match acc with | some w => some w | none => if p x then some v else none)
    p v (fun _ _ => rfl) (fun _ => rfl) ((List.range l.length).map (fun i => l.getD i dflt))
  rw [List.foldl_map, map_range_getD] at h
  rw [← h]
  congr 1
  funext acc i
  cases acc with
  | some w => exact hs w i
  | none => exact hn i

theorem foldl_set_range_aux {β : Type} (g : Nat → β) (acc : List β) :
    ∀ k, k ≤ acc.length →
      (List.range k).foldl (fun acc n => acc.set n (g n)) acc = (List.range k).map g ++ acc.drop k := by
  intro k
  induction k with
  | zero => intro _; simp
  | succ k ih =>
    intro hk
    have hk' : k ≤ acc.length := by omega
    rw [List.range_succ, List.foldl_append, ih hk']
    simp only [List.foldl_cons, List.foldl_nil, List.map_append, List.map_cons, List.map_nil]
    rw [List.set_append]
    simp only [List.length_map, List.length_range, Nat.lt_irrefl, if_false, Nat.sub_self]
    have hlt : k < acc.length := by omega
    simp only [List.append_assoc, List.cons_append, List.nil_append]
    rw [List.drop_eq_getElem_cons hlt, List.set_cons_zero]

/-- `for n := range l { out[n] = f(l[n]) }` on `out := make([]T, len(l))` -/
theorem foldl_set_range {α β : Type} (f : α → β) (l : List α) (z : β) (d : α) :
    (List.range l.length).foldl (fun acc n => acc.set n (f (l.getD n d))) (List.replicate l.length z) =
      l.map f := by
  rw [foldl_set_range_aux (fun n => f (l.getD n d)) _ l.length (by simp)]
  have h : (List.range l.length).map (fun n => f (l.getD n d)) =
      ((List.range l.length).map (fun n => l.getD n d)).map f := by simp
  rw [h, map_range_getD]
  simp
end Jsonapi.GenC03bL
