/- For C17: the helpers of Equal / EqualStrict (`sortOn` is a permutation, comparison of the
sorted attribute and relationship lists) and the domain `ResView.keyed` / `ResView.ok` of the
Equal theorems. Builds on ResourceLemmas; `ResView.wf` comes from Spec/Filter. -/
import Jsonapi.Proofs.ResourceLemmas
import Jsonapi.Spec.Filter
namespace Jsonapi
open GoMap

/-! ### `sortOn` is a permutation -/

theorem sortOn_ins_perm {β} (key : β → GoString) (x : β) (l : List β) :
    (sortOn.ins key x l).Perm (x :: l) := by
  induction l with
  | nil => simp [sortOn.ins]
  | cons y ys ih =>
    unfold sortOn.ins
    split
    · exact List.Perm.refl _
    · exact ((List.Perm.cons y ih).trans (List.Perm.swap x y ys))

theorem sortOn_perm {β} (key : β → GoString) (l : List β) : (sortOn key l).Perm l := by
  induction l with
  | nil => exact List.Perm.refl _
  | cons x xs ih => exact (sortOn_ins_perm key x _).trans (List.Perm.cons x ih)

theorem sortOn_length {β} (key : β → GoString) (l : List β) : (sortOn key l).length = l.length :=
  (sortOn_perm key l).length_eq

theorem mem_sortOn {β} (key : β → GoString) (l : List β) (x : β) : x ∈ sortOn key l ↔ x ∈ l :=
  (sortOn_perm key l).mem_iff

theorem mem_zip_iff {α β} {l1 : List α} {l2 : List β} {p : α × β} :
    p ∈ l1.zip l2 ↔ ∃ i : Nat, l1[i]? = some p.1 ∧ l2[i]? = some p.2 := by
  simp only [List.mem_iff_getElem?, List.getElem?_zip_eq_some]

theorem zip_any_swap {α β} (f : α × β → Bool) (g : β × α → Bool) (h : ∀ a b, f (a, b) = g (b, a)) :
    ∀ (l1 : List α) (l2 : List β), (l1.zip l2).any f = (l2.zip l1).any g := by
  intro l1
  induction l1 with
  | nil => intro l2; cases l2 <;> rfl
  | cons a l1 ih =>
    intro l2
    cases l2 with
    | nil => rfl
    | cons b l2 => simp only [List.zip_cons_cons, List.any_cons, h, ih]

theorem exists_zip_of_mem {α β} {l1 : List α} {l2 : List β} (hl : l1.length = l2.length) {x : α}
    (hx : x ∈ l1) : ∃ y, (x, y) ∈ l1.zip l2 := by
  obtain ⟨i, hi⟩ := List.getElem?_of_mem hx
  have : i < l2.length := hl ▸ (List.getElem?_eq_some_iff.1 hi).1
  exact ⟨l2[i], mem_zip_iff.2 ⟨i, hi, List.getElem?_eq_getElem this⟩⟩

theorem map_eq_iff_zip {α β γ} (f : α → γ) (g : β → γ) {l1 : List α} {l2 : List β} :
    l1.map f = l2.map g ↔ l1.length = l2.length ∧ ∀ p ∈ l1.zip l2, f p.1 = g p.2 := by
  induction l1 generalizing l2 with
  | nil => cases l2 <;> simp
  | cons a l1 ih =>
    cases l2 with
    | nil => simp
    | cons b l2 =>
      simp only [List.map_cons, List.cons.injEq, ih, List.length_cons, Nat.add_right_cancel_iff,
        List.zip_cons_cons, List.forall_mem_cons]
      exact ⟨fun h => ⟨h.2.1, h.1, h.2.2⟩, fun h => ⟨h.2.1, h.1, h.2.2⟩⟩

/-! ### The loops of `Equal` -/

/-- The comparison of the two values of a relationship, by cardinality. -/
def relVals (one : Bool) (x y : GoVal) : Res Bool :=
  if one then
    (match x, y with
      | .val .string (.s x), .val .string (.s y) => .ok (x = y)
      | _, _ => .panic)
  else
    (match x, y with
      | .strs x, .strs y => .ok (if x.length ≠ 0 ∨ y.length ≠ 0 then x = y else true)
      | _, _ => .panic)

/-- One iteration of the relationship loop. -/
def relStep (r1 r2 : ResView) (p : Rel × Rel) : Res Bool :=
  if p.1.fromName ≠ p.2.fromName ∨ p.1.toOne ≠ p.2.toOne then .ok false
  else relVals p.1.toOne (r1.get p.1.fromName) (r2.get p.2.fromName)

def relAcc (r1 r2 : ResView) (acc : Res Bool) (p : Rel × Rel) : Res Bool :=
  match acc with
  | .ok true => relStep r1 r2 p
  | e => e

def relFold (r1 r2 : ResView) (l : List (Rel × Rel)) (acc : Res Bool) : Res Bool :=
  l.foldl (relAcc r1 r2) acc

/-- The test of the attribute loop: true when the pair makes `Equal` answer false. -/
def attrTest (r1 r2 : ResView) (p : Attr × Attr) : Bool :=
  !deepEqual (r1.get p.1.name) (r2.get p.2.name) &&
  !((r1.get p.1.name).isNilValue && (r2.get p.2.name).isNilValue) &&
  !((r1.get p.1.name).isEmptyBytes && (r2.get p.2.name).isEmptyBytes)

theorem attrTest_false_iff (r1 r2 : ResView) (p : Attr × Attr) :
    attrTest r1 r2 p = false ↔
      deepEqual (r1.get p.1.name) (r2.get p.2.name) = true ∨
      ((r1.get p.1.name).isNilValue = true ∧ (r2.get p.2.name).isNilValue = true) ∨
      ((r1.get p.1.name).isEmptyBytes = true ∧ (r2.get p.2.name).isEmptyBytes = true) := by
  unfold attrTest
  rw [Bool.and_eq_false_iff, Bool.and_eq_false_iff, Bool.not_eq_false', Bool.not_eq_false',
    Bool.not_eq_false', Bool.and_eq_true, Bool.and_eq_true, or_assoc]

theorem equal_unfold (r1 r2 : ResView) :
    equal r1 r2 =
      if r1.typeName ≠ r2.typeName then .ok false
      else if (sortOn (fun a : Attr => a.name) r1.attrs.vals).length ≠
          (sortOn (fun a : Attr => a.name) r2.attrs.vals).length then .ok false
      else if ((sortOn (fun a : Attr => a.name) r1.attrs.vals).zip
          (sortOn (fun a : Attr => a.name) r2.attrs.vals)).any (attrTest r1 r2) then .ok false
      else if (sortOn (fun r : Rel => r.fromName) r1.rels.vals).length ≠
          (sortOn (fun r : Rel => r.fromName) r2.rels.vals).length then .ok false
      else relFold r1 r2 ((sortOn (fun r : Rel => r.fromName) r1.rels.vals).zip
          (sortOn (fun r : Rel => r.fromName) r2.rels.vals)) (.ok true) := rfl

theorem relVals_ok_iff (one : Bool) (x y : GoVal) :
    relVals one x y = .ok true ↔ x = y ∧ RelShape x one := by
  unfold relVals RelShape
  cases one with
  | true =>
    simp only [if_true]
    split
    · simp
    · rename_i hne
      exact ⟨nofun, fun ⟨e, id, hx⟩ => (hne _ _ hx (e ▸ hx)).elim⟩
  | false =>
    simp only [Bool.false_eq_true, if_false]
    split
    · rename_i a b
      have key : (if a.length ≠ 0 ∨ b.length ≠ 0 then decide (a = b) else true) = true ↔ a = b := by
        by_cases h : a.length ≠ 0 ∨ b.length ≠ 0
        · rw [if_pos h, decide_eq_true_iff]
        · rw [if_neg h]
          simp only [ne_eq, not_or, Decidable.not_not] at h
          rw [List.eq_nil_of_length_eq_zero h.1, List.eq_nil_of_length_eq_zero h.2]
          exact iff_of_true rfl rfl
      rw [Res.ok.injEq, key, GoVal.strs.injEq]
      exact ⟨fun e => ⟨e, a, rfl⟩, fun h => h.1⟩
    · rename_i hne
      exact ⟨nofun, fun ⟨e, l, hx⟩ => (hne _ _ hx (e ▸ hx)).elim⟩

theorem relVals_symm (one : Bool) (x y : GoVal) : relVals one x y = relVals one y x := by
  unfold relVals
  cases one with
  | true =>
    simp only [if_true]
    split
    · simp only [eq_comm]
    · rename_i hne
      split
      · exact (hne _ _ rfl rfl).elim
      · rfl
  | false =>
    simp only [Bool.false_eq_true, if_false]
    split
    · simp only [eq_comm, or_comm]
    · rename_i hne
      split
      · exact (hne _ _ rfl rfl).elim
      · rfl

theorem relStep_ok_iff {r1 r2 : ResView} {p : Rel × Rel} :
    relStep r1 r2 p = .ok true ↔
      p.1.fromName = p.2.fromName ∧ p.1.toOne = p.2.toOne ∧
      r1.get p.1.fromName = r2.get p.2.fromName ∧ RelShape (r1.get p.1.fromName) p.1.toOne := by
  unfold relStep
  by_cases hc : p.1.fromName ≠ p.2.fromName ∨ p.1.toOne ≠ p.2.toOne
  · rw [if_pos hc]
    exact ⟨nofun, fun h => (hc.elim (· h.1) (· h.2.1)).elim⟩
  · rw [if_neg hc, relVals_ok_iff]
    simp only [ne_eq, not_or, Decidable.not_not] at hc
    exact ⟨fun h => ⟨hc.1, hc.2, h⟩, fun h => h.2.2⟩

theorem relStep_symm (r1 r2 : ResView) (a b : Rel) : relStep r1 r2 (a, b) = relStep r2 r1 (b, a) := by
  unfold relStep
  by_cases hc : a.fromName ≠ b.fromName ∨ a.toOne ≠ b.toOne
  · rw [if_pos hc, if_pos (hc.imp Ne.symm Ne.symm)]
  · rw [if_neg hc, if_neg (fun h => hc (h.imp Ne.symm Ne.symm))]
    simp only [ne_eq, not_or, Decidable.not_not] at hc
    rw [relVals_symm]
    simp only [hc.1, hc.2]

theorem relFold_stuck (r1 r2 : ResView) (l : List (Rel × Rel)) (acc : Res Bool) (h : acc ≠ .ok true) :
    relFold r1 r2 l acc = acc := by
  induction l with
  | nil => rfl
  | cons p l ih =>
    show relFold r1 r2 l (relAcc r1 r2 acc p) = acc
    have : relAcc r1 r2 acc p = acc := by
      unfold relAcc; split
      · exact absurd rfl h
      · rfl
    rw [this]; exact ih

theorem relFold_ok_iff (r1 r2 : ResView) (l : List (Rel × Rel)) :
    relFold r1 r2 l (.ok true) = .ok true ↔ ∀ p ∈ l, relStep r1 r2 p = .ok true := by
  induction l with
  | nil => simp [relFold]
  | cons p l ih =>
    show relFold r1 r2 l (relStep r1 r2 p) = _ ↔ _
    by_cases hp : relStep r1 r2 p = .ok true
    · rw [hp, ih]; simp [hp]
    · rw [relFold_stuck _ _ _ _ hp]; simp [hp]

theorem equal_ok_iff (r1 r2 : ResView) :
    equal r1 r2 = .ok true ↔
      r1.typeName = r2.typeName ∧
      (sortOn (fun a : Attr => a.name) r1.attrs.vals).length =
        (sortOn (fun a : Attr => a.name) r2.attrs.vals).length ∧
      (∀ p ∈ (sortOn (fun a : Attr => a.name) r1.attrs.vals).zip
        (sortOn (fun a : Attr => a.name) r2.attrs.vals), attrTest r1 r2 p = false) ∧
      (sortOn (fun r : Rel => r.fromName) r1.rels.vals).length =
        (sortOn (fun r : Rel => r.fromName) r2.rels.vals).length ∧
      ∀ p ∈ (sortOn (fun r : Rel => r.fromName) r1.rels.vals).zip
        (sortOn (fun r : Rel => r.fromName) r2.rels.vals), relStep r1 r2 p = .ok true := by
  rw [equal_unfold]
  by_cases h1 : r1.typeName = r2.typeName
  case neg => rw [if_pos h1]; exact ⟨nofun, fun h => (h1 h.1).elim⟩
  by_cases h2 : (sortOn (fun a : Attr => a.name) r1.attrs.vals).length =
      (sortOn (fun a : Attr => a.name) r2.attrs.vals).length
  case neg => rw [if_neg (not_not_intro h1), if_pos h2]; exact ⟨nofun, fun h => (h2 h.2.1).elim⟩
  by_cases h3 : ((sortOn (fun a : Attr => a.name) r1.attrs.vals).zip
      (sortOn (fun a : Attr => a.name) r2.attrs.vals)).any (attrTest r1 r2) = true
  · rw [if_neg (not_not_intro h1), if_neg (not_not_intro h2), if_pos h3]
    refine ⟨nofun, fun h => ?_⟩
    obtain ⟨p, hp, hb⟩ := List.any_eq_true.1 h3
    rw [h.2.2.1 p hp] at hb; cases hb
  by_cases h4 : (sortOn (fun r : Rel => r.fromName) r1.rels.vals).length =
      (sortOn (fun r : Rel => r.fromName) r2.rels.vals).length
  case neg =>
    rw [if_neg (not_not_intro h1), if_neg (not_not_intro h2), if_neg h3, if_pos h4]
    exact ⟨nofun, fun h => (h4 h.2.2.2.1).elim⟩
  rw [if_neg (not_not_intro h1), if_neg (not_not_intro h2), if_neg h3, if_neg (not_not_intro h4),
    relFold_ok_iff]
  rw [Bool.not_eq_true, List.any_eq_false] at h3
  exact ⟨fun h => ⟨h1, h2, fun p hp => Bool.not_eq_true _ ▸ h3 p hp, h4, h⟩, fun h => h.2.2.2.2⟩

/-! ### Symmetry -/

theorem relFold_symm (r1 r2 : ResView) (l1 l2 : List Rel) (acc : Res Bool) :
    relFold r1 r2 (l1.zip l2) acc = relFold r2 r1 (l2.zip l1) acc := by
  induction l1 generalizing l2 acc with
  | nil => cases l2 <;> rfl
  | cons a l1 ih =>
    cases l2 with
    | nil => rfl
    | cons b l2 =>
      show relFold r1 r2 (l1.zip l2) (relAcc r1 r2 acc (a, b)) =
        relFold r2 r1 (l2.zip l1) (relAcc r2 r1 acc (b, a))
      have : relAcc r1 r2 acc (a, b) = relAcc r2 r1 acc (b, a) := by
        unfold relAcc; split
        · exact relStep_symm r1 r2 a b
        · rfl
      rw [this]
      exact ih l2 _

theorem ite_ne_symm {α β : Type} [DecidableEq α] (x y : α) (u v w : β) (h : x = y → v = w) :
    (if x ≠ y then u else v) = (if y ≠ x then u else w) := by
  by_cases e : x = y
  · rw [if_neg (not_not_intro e), if_neg (not_not_intro e.symm)]; exact h e
  · rw [if_pos e, if_pos (fun e' => e e'.symm)]

theorem attrTest_symm (a b : ResView) (x y : Attr) : attrTest a b (x, y) = attrTest b a (y, x) := by
  unfold attrTest deepEqual
  rw [Bool.and_comm (a.get x.name).isNilValue, Bool.and_comm (a.get x.name).isEmptyBytes]
  simp only [eq_comm]

theorem equal_symm (a b : ResView) : equal a b = equal b a := by
  rw [equal_unfold, equal_unfold]
  apply ite_ne_symm; intro _
  apply ite_ne_symm; intro _
  rw [zip_any_swap (attrTest a b) (attrTest b a) (attrTest_symm a b)]
  split
  · rfl
  · apply ite_ne_symm; intro _
    exact relFold_symm _ _ _ _ _

/-! ### Well-formed views -/

/-- Map keys are the names stored in the definitions, and are unique. -/
def ResView.keyed (r : ResView) : Prop :=
  (∀ p ∈ r.attrs, p.1 = p.2.name) ∧ (∀ p ∈ r.rels, p.1 = p.2.fromName) ∧
  r.attrs.keys.Nodup ∧ r.rels.keys.Nodup

instance (r : ResView) : Decidable r.keyed := by unfold ResView.keyed; exact inferInstance

/-- The domain of the equality theorems: well-typed values (`wf`) and `keyed`. -/
def ResView.ok (r : ResView) : Prop := r.wf = true ∧ r.keyed

instance (r : ResView) : Decidable r.ok := by unfold ResView.ok; exact inferInstance

theorem ResView.wf_iff_of_keyed {r : ResView} (hk : r.keyed) :
    r.wf = true ↔
      (∀ p ∈ r.attrs, r.rels.has p.1 = false ∧ ∃ k, Kind.ofCode? p.2.ty = some k ∧
        ((r.get p.1).hasAttrType k p.2.nullable || (p.2.nullable && r.get p.1 = .nil)) = true) ∧
      ∀ p ∈ r.rels, RelShape (r.get p.1) p.2.toOne := by
  unfold ResView.wf
  rw [Bool.and_eq_true, List.all_eq_true, List.all_eq_true]
  refine and_congr (forall_congr' fun p => forall_congr' fun hp => ?_)
    (forall_congr' fun p => forall_congr' fun hp => ?_)
  · rw [get?_of_mem_nodup hk.2.2.1 hp, Bool.and_eq_true, Bool.not_eq_true']
    simp only []
    cases Kind.ofCode? p.2.ty <;> simp
  · rw [get?_of_mem_nodup hk.2.2.2 hp]
    simp only []
    split
    · rename_i e; rw [e, RelShape.val]
    · rename_i e; rw [e, RelShape.strs, Bool.not_eq_true']
    · rename_i h1 h2; exact iff_of_false Bool.false_ne_true (RelShape.other h1 h2)

theorem ResView.rel_shape {r : ResView} (h : r.ok) {x : Rel} (hx : x ∈ r.rels.vals) :
    RelShape (r.get x.fromName) x.toOne := by
  obtain ⟨p, hp, rfl⟩ := List.mem_map.1 hx
  rw [← h.2.2.1 p hp]
  exact ((ResView.wf_iff_of_keyed h.2).1 h.1).2 p hp

theorem equal_refl {a : ResView} (h : a.ok) : equal a a = .ok true := by
  refine (equal_ok_iff a a).2 ⟨rfl, rfl, fun p hp => ?_, rfl, fun p hp => ?_⟩
  all_goals
    obtain ⟨i, h1, h2⟩ := mem_zip_iff.1 hp
    obtain ⟨x, y⟩ := p
    obtain rfl : x = y := Option.some.inj (h1.symm.trans h2)
  · simp [attrTest, deepEqual]
  · exact relStep_ok_iff.2 ⟨rfl, rfl, rfl,
      ResView.rel_shape h ((mem_sortOn _ _ _).1 (List.mem_of_getElem? h1))⟩

end Jsonapi
