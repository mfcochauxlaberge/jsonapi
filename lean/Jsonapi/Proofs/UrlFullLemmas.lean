/-
Lemmas about `Spec.goUrlParse` (Spec/UrlFull.lean) for Props/C07B.lean.
-/
import Jsonapi.Spec.UrlFull
import Jsonapi.Proofs.UrlStringLemmas
import Jsonapi.Proofs.UrlLemmas
namespace Jsonapi.UrlFullL
open Jsonapi Jsonapi.Spec Jsonapi.UrlL.Esc

theorem cut_cons_ne {sep c : UInt8} (h : c ≠ sep) (rest : GoString) :
    cut sep (c :: rest) = (c :: (cut sep rest).1, (cut sep rest).2) := by
  simp only [cut, h, if_false]

theorem cut_cons_eq (sep : UInt8) (rest : GoString) :
    cut sep (sep :: rest) = ([], some rest) := by
  simp only [cut, if_true]

/-! ### `getScheme` finds nothing when the first segment has no colon -/

/-- the text before the first '/' or '?' -/
def firstSeg (s : GoString) : GoString := (cut 47 (cut 63 s).1).1

theorem firstSeg_cons {c : UInt8} (h63 : c ≠ 63) (h47 : c ≠ 47) (rest : GoString) :
    firstSeg (c :: rest) = c :: firstSeg rest := by
  unfold firstSeg
  rw [cut_cons_ne h63]
  simp only
  rw [cut_cons_ne h47]

theorem schemeByte_ne {c : UInt8} (h : isSchemeByte c = true) : c ≠ 63 ∧ c ≠ 47 := by
  constructor <;> (intro e; subst e; revert h; decide)

theorem alpha_ne {c : UInt8} (h : isAlpha c = true) : c ≠ 63 ∧ c ≠ 47 :=
  schemeByte_ne (by rw [isSchemeByte, h]; rfl)

theorem schemeTail_mem : ∀ (s r : GoString), schemeTail s = some r → (58 : UInt8) ∈ firstSeg s
  | [], r, h => by simp [schemeTail] at h
  | c :: rest, r, h => by
    unfold schemeTail at h
    by_cases hb : isSchemeByte c = true
    · rw [if_pos hb] at h
      rw [firstSeg_cons (schemeByte_ne hb).1 (schemeByte_ne hb).2]
      exact List.mem_cons_of_mem _ (schemeTail_mem rest r h)
    · rw [if_neg hb] at h
      by_cases hc : c = 58
      · subst hc
        rw [firstSeg_cons (by decide) (by decide)]
        exact List.mem_cons_self
      · rw [if_neg hc] at h; cases h

theorem getScheme_absent (s : GoString) (h : (58 : UInt8) ∉ firstSeg s) : getScheme s = .absent := by
  cases s with
  | nil => rfl
  | cons c rest =>
    simp only [getScheme]
    by_cases ha : isAlpha c = true
    · rw [if_pos ha]
      cases ht : schemeTail rest with
      | none => rfl
      | some r =>
        exfalso; apply h
        rw [firstSeg_cons (alpha_ne ha).1 (alpha_ne ha).2]
        exact List.mem_cons_of_mem _ (schemeTail_mem rest r ht)
    · rw [if_neg ha]
      by_cases hc : c = 58
      · subst hc
        exfalso; apply h
        rw [firstSeg_cons (by decide) (by decide)]
        exact List.mem_cons_self
      · rw [if_neg hc]

theorem splitOn_go_mem (sep : UInt8) : ∀ (rest cur x : GoString), x ∈ splitOn.go sep cur rest →
    ∀ c ∈ x, c ∈ cur ∨ c ∈ rest
  | [], cur, x, hx, c, hc => by
    simp only [splitOn.go, List.mem_singleton] at hx
    subst hx
    exact Or.inl (List.mem_reverse.1 hc)
  | d :: rest, cur, x, hx, c, hc => by
    unfold splitOn.go at hx
    by_cases hd : d = sep
    · rw [if_pos hd] at hx
      rcases List.mem_cons.1 hx with e | hx
      · subst e; exact Or.inl (List.mem_reverse.1 hc)
      · rcases splitOn_go_mem sep rest [] x hx c hc with h | h
        · cases h
        · exact Or.inr (List.mem_cons_of_mem _ h)
    · rw [if_neg hd] at hx
      rcases splitOn_go_mem sep rest (d :: cur) x hx c hc with h | h
      · rcases List.mem_cons.1 h with e | h
        · subst e; exact Or.inr List.mem_cons_self
        · exact Or.inl h
      · exact Or.inr (List.mem_cons_of_mem _ h)

theorem splitOn_mem (sep : UInt8) (q x : GoString) (hx : x ∈ splitOn sep q) : ∀ c ∈ x, c ∈ q := by
  intro c hc
  rcases splitOn_go_mem sep q [] x hx c hc with h | h
  · cases h
  · exact h

theorem queryStep_eq : queryStep = step := rfl

theorem contains_false_iff (s : GoString) (c : UInt8) : s.contains c = false ↔ c ∉ s := by
  rw [← Bool.not_eq_true, List.contains_iff_mem]

theorem goParseQuery_eq_parseQuery (q : GoString) (h : (59 : UInt8) ∉ q) :
    goParseQuery q = Spec.parseQuery q := by
  unfold goParseQuery
  rw [parseQuery_eq, queryStep_eq]
  have : (splitOn 38 q).filter (fun pair => !pair.contains 59) = splitOn 38 q := by
    apply List.filter_eq_self.2
    intro x hx
    have : (59 : UInt8) ∉ x := fun hm => h (splitOn_mem 38 q x hx 59 hm)
    rw [(contains_false_iff x 59).2 this]; rfl
  rw [this]

/-! ### the full parser on plain references -/

theorem goParseNoFrag_plain (s : GoString) (hctl : hasCTL s = false)
    (hcolon : (58 : UInt8) ∉ firstSeg s)
    (hauth : (hasPrefix (cut 63 s).1 [47, 47] && !hasPrefix (cut 63 s).1 [47, 47, 47]) = false) :
    goParseNoFrag s =
      (unescape false (cut 63 s).1).map (fun p => (p, ((cut 63 s).2).getD [])) := by
  unfold goParseNoFrag
  rw [hctl, getScheme_absent s hcolon]
  simp only [Bool.false_eq_true, if_false]
  unfold afterScheme
  congr 1
  unfold pathOf
  have hc : ((cut 47 (cut 63 s).1).1).contains 58 = false := (contains_false_iff _ _).2 hcolon
  by_cases hh : (cut 63 s).1.head? ≠ some 47
  · rw [if_pos hh]
    simp only [Bool.false_eq_true, if_false, hc]
  · rw [if_neg hh]
    have : (hasPrefix (cut 63 s).1 [47, 47] && (false || !hasPrefix (cut 63 s).1 [47, 47, 47])) = false := by
      simpa using hauth
    rw [this]
    simp only [Bool.false_eq_true, if_false]

theorem goUrlParse_plain (s : GoString) (h : plainRef s = true) : goUrlParse s = Spec.parseRaw s := by
  unfold plainRef at h
  simp only [Bool.and_eq_true, Bool.not_eq_true'] at h
  obtain ⟨⟨⟨⟨hctl, hhash⟩, hcolon⟩, hauth⟩, hsemi⟩ := h
  have hhash' : (35 : UInt8) ∉ s := (contains_false_iff _ _).1 hhash
  have hcolon' : (58 : UInt8) ∉ firstSeg s := (contains_false_iff _ _).1 hcolon
  have hsemi' : (59 : UInt8) ∉ ((cut 63 s).2).getD [] := (contains_false_iff _ _).1 hsemi
  unfold goUrlParse
  rw [cut_of_not_mem 35 s hhash']
  simp only [Option.getD_none]
  rw [goParseNoFrag_plain s hctl hcolon' hauth]
  unfold Spec.parseRaw
  cases hcut : cut 63 s with
  | mk p q =>
    rw [hcut] at hsemi'
    simp only at hsemi' ⊢
    cases hu : unescape false p with
    | none => simp only [Option.map_none]
    | some path =>
      simp only [Option.map_some, unescape_nil, Option.isSome_some, if_true]
      rw [goParseQuery_eq_parseQuery _ hsemi']

/-! ### `Query()` as a grouping of the decoded pairs -/

theorem queryStep_entry (m : GoMap (List GoString)) (pair : GoString)
    (h : pair.contains 59 = false) :
    queryStep m pair = (match pairEntry pair with | none => m | some kv => addPair m kv) := by
  unfold queryStep pairEntry
  by_cases hp : pair = []
  · simp only [hp, if_true, true_or]
  · simp only [hp, if_false, h, false_or, Bool.false_eq_true]
    cases hc : cut 61 pair with
    | mk k v =>
      simp only
      cases hk : unescape true k with
      | none => simp only
      | some k' =>
        cases hv : unescape true (v.getD []) with
        | none => simp only
        | some v' => simp only [addPair]

theorem foldl_queryStep_group : ∀ (l : List GoString) (acc : GoMap (List GoString)),
    (l.filter (fun pair => !pair.contains 59)).foldl queryStep acc =
      (l.filterMap pairEntry).foldl addPair acc
  | [], acc => rfl
  | x :: l, acc => by
    cases hx : x.contains 59 with
    | true =>
      have he : pairEntry x = none := by unfold pairEntry; simp only [hx, or_true, if_true]
      simp only [List.filter_cons, hx, Bool.not_true, Bool.false_eq_true, if_false,
        List.filterMap_cons, he]
      exact foldl_queryStep_group l acc
    | false =>
      simp only [List.filter_cons, hx, Bool.not_false, if_true, List.foldl_cons,
        List.filterMap_cons, queryStep_entry acc x hx]
      cases he : pairEntry x with
      | none => simp only; exact foldl_queryStep_group l acc
      | some kv => simp only [List.foldl_cons]; exact foldl_queryStep_group l _

/-- `Query()`: the decoded pairs that are kept, grouped by key in order -/
theorem goParseQuery_eq_group (q : GoString) :
    goParseQuery q = groupPairs ((splitOn 38 q).filterMap pairEntry) :=
  foldl_queryStep_group _ _

theorem foldl_addPair_nodup : ∀ (l : List (GoString × GoString)) (acc : GoMap (List GoString)),
    acc.keys.Nodup → (l.foldl addPair acc).keys.Nodup
  | [], _, h => h
  | kv :: l, acc, h => by
    rw [List.foldl_cons]
    exact foldl_addPair_nodup l _ (GoMap.nodup_keys_set _ _ h)

theorem goParseQuery_keys_nodup (q : GoString) : (goParseQuery q).keys.Nodup := by
  rw [goParseQuery_eq_group]
  exact foldl_addPair_nodup _ [] (by simp [GoMap.keys])

theorem foldl_addPair_distinct : ∀ (l : List (GoString × GoString)) (acc : GoMap (List GoString)),
    (acc.keys ++ l.map (·.1)).Nodup →
      l.foldl addPair acc = acc ++ l.map (fun kv => (kv.1, [kv.2]))
  | [], acc, _ => by simp
  | kv :: l, acc, h => by
    have hk : kv.1 ∉ acc.keys := by
      intro hm
      exact (List.nodup_append.1 h).2.2 kv.1 hm kv.1 (by simp) rfl
    rw [List.foldl_cons]
    have h1 : addPair acc kv = acc ++ [(kv.1, [kv.2])] := by
      unfold addPair
      rw [GoMap.get?_eq_none_of_not_mem hk]
      exact GoMap.set_of_not_mem acc kv.1 _ hk
    rw [h1, foldl_addPair_distinct l]
    · simp
    · have : (acc ++ [(kv.1, [kv.2])]).keys ++ l.map (·.1) = acc.keys ++ (kv :: l).map (·.1) := by
        simp [GoMap.keys]
      rw [this]; exact h

theorem groupPairs_distinct (l : List (GoString × GoString)) (h : (l.map (·.1)).Nodup) :
    groupPairs l = l.map (fun kv => (kv.1, [kv.2])) := by
  unfold groupPairs
  rw [foldl_addPair_distinct l [] (by simpa [GoMap.keys] using h)]
  simp

theorem goParseQuery_perm (ps₁ ps₂ : List GoString) (hp : ps₁.Perm ps₂) (hne : ps₁ ≠ [])
    (hamp : ∀ p ∈ ps₁, (38 : UInt8) ∉ p)
    (hd : ((ps₁.filterMap pairEntry).map (·.1)).Nodup) :
    (goParseQuery (joinWith [38] ps₁)).Perm (goParseQuery (joinWith [38] ps₂)) := by
  have hne2 : ps₂ ≠ [] := by
    intro e; subst e; exact hne (List.Perm.eq_nil hp)
  have hamp2 : ∀ p ∈ ps₂, (38 : UInt8) ∉ p := fun p h => hamp p (hp.mem_iff.2 h)
  have hperm : (ps₁.filterMap pairEntry).Perm (ps₂.filterMap pairEntry) := hp.filterMap _
  have hd2 : ((ps₂.filterMap pairEntry).map (·.1)).Nodup := (hperm.map _).nodup_iff.1 hd
  rw [goParseQuery_eq_group, goParseQuery_eq_group, splitOn_joinWith 38 ps₁ hne hamp,
    splitOn_joinWith 38 ps₂ hne2 hamp2, groupPairs_distinct _ hd, groupPairs_distinct _ hd2]
  exact hperm.map _

/-! ### everything `URL.String()` writes is a plain reference -/

/-- neither a control byte, nor '#', nor ';' -/
def okB (x : UInt8) : Bool := !isCTL x && x != 35 && x != 59

/-- the unreserved bytes are letters, digits and `- _ . ~`: all between '-' and '~', none of them ';' -/
theorem okB_unreserved {c : UInt8} (h : isUnreserved c = true) : okB c = true := by
  simp only [isUnreserved, okB, isCTL, Bool.or_eq_true, Bool.and_eq_true, decide_eq_true_eq,
    UInt8.le_iff_toNat_le, UInt8.lt_iff_toNat_lt, ← UInt8.toNat_inj, Bool.not_eq_true', bne_iff_ne, ne_eq,
    Bool.or_eq_false_iff, decide_eq_false_iff_not, UInt8.toNat_ofNat] at *
  omega

def Ok (s : GoString) : Prop := ∀ x ∈ s, okB x = true

theorem Ok.of_all {s : GoString} (h : s.all okB = true) : Ok s := List.all_eq_true.1 h

theorem Ok.append {a b : GoString} (ha : Ok a) (hb : Ok b) : Ok (a ++ b) :=
  fun x hx => (List.mem_append.1 hx).elim (ha x) (hb x)

theorem Ok.joinWith {sep : GoString} {l : List GoString} (hs : Ok sep) (hl : ∀ p ∈ l, Ok p) :
    Ok (joinWith sep l) :=
  fun x hx => (mem_joinWith hx).elim (hs x) fun ⟨e, he, hc⟩ => hl e he x hc

theorem queryEscape_ok (s : GoString) : Ok (queryEscape s) := by
  intro x hx
  obtain ⟨c, _, hc⟩ := queryEscape_mem hx
  rcases qe1_mem hc with h | rfl | rfl
  · exact okB_unreserved h
  all_goals decide

theorem pathEscape_ok (s : GoString) : Ok (pathEscape s) := by
  intro x hx
  obtain ⟨c, _, hc⟩ := pathEscape_mem hx
  rcases pe1_mem hc with h | rfl
  · simp only [pathSafe, Bool.or_eq_true, decide_eq_true_eq] at h
    rcases h with (((((h | rfl) | rfl) | rfl) | rfl) | rfl) | rfl
    · exact okB_unreserved h
    all_goals decide
  · decide

theorem encPath_ok (fs : List GoString) : Ok (encPath fs) := by
  cases fs with
  | nil => exact fun _ h => nomatch h
  | cons f l =>
    exact (Ok.of_all (s := [47]) rfl).append
      (.joinWith (.of_all rfl) (List.forall_mem_map.2 fun g _ => pathEscape_ok g))

theorem ok_pct2C : Ok pct2C := .of_all rfl
theorem ok_close : Ok (gs "%5D=") := .of_all (by decide +kernel)

theorem fieldPar_ok (u : URL) (t : GoString) : Ok (fieldPar u t) := fun x hx =>
  (((Ok.of_all (by decide +kernel)).append (queryEscape_ok t)).append ok_close).append
    (fun y hy => by
      obtain ⟨f, _, hf⟩ := List.mem_flatMap.1 hy
      exact (queryEscape_ok f).append ok_pct2C y hf) x (List.mem_of_mem_take hx)

theorem pagePar_ok (u : URL) (k : GoString) : Ok (pagePar u k) :=
  (((Ok.of_all (by decide +kernel)).append (queryEscape_ok k)).append ok_close).append (queryEscape_ok _)

theorem filterPar_ok (v : GoString) : Ok (gs "filter=" ++ queryEscape v) :=
  (Ok.of_all (by decide +kernel)).append (queryEscape_ok v)

theorem pars_ok (u : URL) (env : StringEnv) :
    ∀ par ∈ fieldPars u ++ filterPars u env ++ pagePars u ++ sortPars u, Ok par := by
  intro par hpar
  simp only [List.mem_append] at hpar
  rcases hpar with ((h | h) | h) | h
  · obtain ⟨t, _, rfl⟩ := List.mem_map.1 h
    exact fieldPar_ok u t
  · unfold filterPars at h
    split at h
    · rw [List.mem_singleton.1 h]; exact filterPar_ok _
    · split at h
      · rw [List.mem_singleton.1 h]; exact filterPar_ok _
      · cases h
  · unfold pagePars at h
    split at h
    · obtain ⟨k, _, rfl⟩ := List.mem_map.1 h
      exact pagePar_ok u k
    · cases h
  · unfold sortPars at h
    split at h
    · cases h
    · rw [List.mem_singleton.1 h]
      exact (Ok.of_all (by decide +kernel)).append
        (.joinWith ok_pct2C (List.forall_mem_map.2 fun g _ => queryEscape_ok g))

theorem Ok.not_mem {s : GoString} (h : Ok s) {c : UInt8} (hc : okB c = false) : c ∉ s :=
  fun hm => Bool.noConfusion ((h c hm).symm.trans hc)

theorem Ok.hasCTL {s : GoString} (h : Ok s) : hasCTL s = false :=
  List.any_eq_false.2 fun x hx hc => by have := h x hx; simp [okB, hc] at this

/-- the path `String()` writes starts with one '/' only: its first fragment is not empty, and
`pathEscape` writes no '/' -/
theorem encPath_no_authority (fs : List GoString) (hfs : [] ∉ fs) :
    (hasPrefix (encPath fs) [47, 47] && !hasPrefix (encPath fs) [47, 47, 47]) = false := by
  cases fs with
  | nil => rfl
  | cons f l =>
    obtain ⟨rest, hr⟩ : ∃ rest, encPath (f :: l) = 47 :: (pathEscape f ++ rest) := by
      cases l with
      | nil => exact ⟨[], by rw [List.append_nil]; rfl⟩
      | cons g l' => exact ⟨_, congrArg (47 :: ·) (List.append_assoc ..)⟩
    cases f with
    | nil => exact absurd List.mem_cons_self hfs
    | cons c f' =>
      rw [hr, pathEscape_cons]
      cases hp : pe1 c with
      | nil => unfold pe1 pctEncode at hp; split at hp <;> cases hp
      | cons y r =>
        have hy : (47 == y) = false := beq_false_of_ne (pe1_no_struct (hp ▸ List.mem_cons_self)).1.symm
        simp only [hasPrefix, List.cons_append, List.isPrefixOf, hy, Bool.and_false, Bool.false_and]

theorem encPath_firstSeg (fs : List GoString) : (cut 47 (encPath fs)).1 = [] := by
  cases fs with
  | nil => rfl
  | cons f l =>
    show (cut 47 (47 :: joinWith [47] ((f :: l).map pathEscape))).1 = []
    rw [cut_cons_eq]

theorem string_plainRef (u : URL) (env : StringEnv) (hfs : [] ∉ u.fragments) :
    plainRef (u.string env) = true := by
  have hpars := pars_ok u env
  have hq : (63 : UInt8) ∉ encPath u.fragments := encPath_no_q _
  rw [string_eq]
  generalize fieldPars u ++ filterPars u env ++ pagePars u ++ sortPars u = pars at hpars
  have hj : Ok (joinWith [38] pars) := .joinWith (.of_all rfl) hpars
  -- the text is the path, or the path, '?' and the joined parameters
  obtain ⟨q, hs, hcut, hq59⟩ : ∃ q : Option GoString,
      Ok (encPath u.fragments ++ (if pars.isEmpty then [] else [63] ++ joinWith [38] pars)) ∧
      cut 63 (encPath u.fragments ++ (if pars.isEmpty then [] else [63] ++ joinWith [38] pars)) =
        (encPath u.fragments, q) ∧ (59 : UInt8) ∉ q.getD [] := by
    cases pars.isEmpty with
    | true =>
      exact ⟨none, (encPath_ok _).append (fun _ h => nomatch h),
        by rw [if_pos rfl, List.append_nil]; exact cut_of_not_mem 63 _ hq, fun h => nomatch h⟩
    | false =>
      exact ⟨some (joinWith [38] pars), (encPath_ok _).append ((Ok.of_all (s := [63]) rfl).append hj),
        cut_append_sep 63 _ _ hq, hj.not_mem rfl⟩
  unfold plainRef
  rw [hcut, hs.hasCTL, (contains_false_iff _ _).2 (hs.not_mem rfl), encPath_firstSeg,
    encPath_no_authority u.fragments hfs, (contains_false_iff _ _).2 hq59]
  rfl

/-! ### the path does not depend on the query -/

theorem schemeTail_suffix : ∀ (s r : GoString), schemeTail s = some r → ∀ x ∈ r, x ∈ s
  | [], r, h, _, _ => by simp [schemeTail] at h
  | c :: rest, r, h, x, hx => by
    unfold schemeTail at h
    by_cases hb : isSchemeByte c = true
    · rw [if_pos hb] at h
      exact List.mem_cons_of_mem _ (schemeTail_suffix rest r h x hx)
    · rw [if_neg hb] at h
      by_cases hc : c = 58
      · rw [if_pos hc] at h; cases h; exact List.mem_cons_of_mem _ hx
      · rw [if_neg hc] at h; cases h

theorem schemeTail_append (q : GoString) : ∀ (s : GoString), (63 : UInt8) ∉ s →
    schemeTail (s ++ 63 :: q) = (schemeTail s).map (· ++ 63 :: q)
  | [], _ => by
    show schemeTail (63 :: q) = none
    unfold schemeTail
    rw [if_neg (by decide), if_neg (by decide)]
  | c :: rest, h => by
    have hr : (63 : UInt8) ∉ rest := fun e => h (List.mem_cons_of_mem _ e)
    show schemeTail (c :: (rest ++ 63 :: q)) = (schemeTail (c :: rest)).map (· ++ 63 :: q)
    unfold schemeTail
    by_cases hb : isSchemeByte c = true
    · rw [if_pos hb, if_pos hb]; exact schemeTail_append q rest hr
    · rw [if_neg hb, if_neg hb]
      by_cases hc : c = 58
      · rw [if_pos hc, if_pos hc]; rfl
      · rw [if_neg hc, if_neg hc]; rfl

/-- `parse` on the text before the '?': the path, or an error -/
def pathPart (pre : GoString) : Option GoString :=
  if hasCTL pre then none
  else match getScheme pre with
    | .missing => none
    | .present r => pathOf true r
    | .absent => pathOf false pre

theorem afterScheme_append (b : Bool) (r q : GoString) (h : (63 : UInt8) ∉ r) :
    afterScheme b (r ++ 63 :: q) = (pathOf b r).map (fun p => (p, q)) := by
  unfold afterScheme
  rw [cut_append_sep 63 r q h]
  rfl

theorem goParseNoFrag_query (pre q : GoString) (h : (63 : UInt8) ∉ pre) :
    goParseNoFrag (pre ++ 63 :: q) =
      if hasCTL q then none else (pathPart pre).map (fun p => (p, q)) := by
  unfold goParseNoFrag pathPart
  have hctl : hasCTL (pre ++ 63 :: q) = (hasCTL pre || hasCTL q) := by
    unfold hasCTL
    rw [List.any_append, List.any_cons]
    have : isCTL 63 = false := by decide
    rw [this, Bool.false_or]
  rw [hctl]
  cases hp : hasCTL pre with
  | true => cases hasCTL q <;> rfl
  | false =>
    cases hq : hasCTL q with
    | true => rfl
    | false =>
      simp only [Bool.or_false, Bool.false_eq_true, if_false]
      cases pre with
      | nil =>
        show (match getScheme (63 :: q) with
          | .missing => none | .present r => afterScheme true r | .absent => afterScheme false (63 :: q)) = _
        have : getScheme (63 :: q) = .absent := by
          simp only [getScheme]
          rw [if_neg (by decide), if_neg (by decide)]
        rw [this]
        exact afterScheme_append false [] q (by simp)
      | cons c rest =>
        have hr : (63 : UInt8) ∉ rest := fun e => h (List.mem_cons_of_mem _ e)
        show (match getScheme (c :: (rest ++ 63 :: q)) with
          | .missing => none | .present r => afterScheme true r
          | .absent => afterScheme false (c :: rest ++ 63 :: q)) = _
        simp only [getScheme]
        by_cases ha : isAlpha c = true
        · rw [if_pos ha, if_pos ha, schemeTail_append q rest hr]
          cases ht : schemeTail rest with
          | none => exact afterScheme_append false (c :: rest) q h
          | some r =>
            have h63 : (63 : UInt8) ∉ r := fun e => hr (schemeTail_suffix rest r ht 63 e)
            exact afterScheme_append true r q h63
        · rw [if_neg ha, if_neg ha]
          by_cases hc : c = 58
          · rw [if_pos hc]; rfl
          · rw [if_neg hc]
            exact afterScheme_append false (c :: rest) q h

/-- `url.Parse` + `Query()` of `pre?q` without '#': the path comes from `pre`, the values from
`q`; a control byte in `q` is an error -/
theorem goUrlParse_query (pre q : GoString) (h63 : (63 : UInt8) ∉ pre) (hp : (35 : UInt8) ∉ pre)
    (hq : (35 : UInt8) ∉ q) :
    goUrlParse (pre ++ 63 :: q) =
      if hasCTL q then none else (pathPart pre).map (fun p => (p, goParseQuery q)) := by
  have h35 : (35 : UInt8) ∉ pre ++ 63 :: q := by
    intro e
    rcases List.mem_append.1 e with e | e
    · exact hp e
    · rcases List.mem_cons.1 e with e | e
      · revert e; decide
      · exact hq e
  unfold goUrlParse
  rw [cut_of_not_mem 35 _ h35]
  simp only [Option.getD_none, unescape_nil, Option.isSome_some, if_true]
  rw [goParseNoFrag_query pre q h63]
  cases hasCTL q with
  | true => rfl
  | false =>
    simp only [Bool.false_eq_true, if_false]
    cases pathPart pre <;> rfl

theorem hasCTL_joinWith : ∀ (ps : List GoString), hasCTL (joinWith [38] ps) = ps.any hasCTL
  | [] => rfl
  | [x] => by simp [joinWith_single]
  | x :: y :: ys => by
    rw [joinWith_cons_cons, List.any_cons, ← hasCTL_joinWith (y :: ys)]
    unfold hasCTL
    rw [List.any_append, List.any_append]
    have : [38].any isCTL = false := by decide
    rw [this, Bool.or_false]

theorem any_perm {α : Type} (p : α → Bool) {l₁ l₂ : List α} (h : l₁.Perm l₂) :
    l₁.any p = l₂.any p := by
  rw [Bool.eq_iff_iff, List.any_eq_true, List.any_eq_true]
  constructor
  · rintro ⟨x, hx, hp⟩; exact ⟨x, h.mem_iff.1 hx, hp⟩
  · rintro ⟨x, hx, hp⟩; exact ⟨x, h.mem_iff.2 hx, hp⟩

/-- Permuting the differently named `&`-separated pieces of the query of a raw string
changes neither whether `url.Parse` accepts it nor the path, and permutes the values map. -/
theorem goUrlParse_perm (pre : GoString) (ps₁ ps₂ : List GoString) (hperm : ps₁.Perm ps₂)
    (hne : ps₁ ≠ []) (hamp : ∀ p ∈ ps₁, (38 : UInt8) ∉ p) (hhash : ∀ p ∈ ps₁, (35 : UInt8) ∉ p)
    (hd : ((ps₁.filterMap pairEntry).map (·.1)).Nodup)
    (h63 : (63 : UInt8) ∉ pre) (h35 : (35 : UInt8) ∉ pre) :
    (goUrlParse (pre ++ 63 :: joinWith [38] ps₁) = none ∧
      goUrlParse (pre ++ 63 :: joinWith [38] ps₂) = none) ∨
    ∃ path v₁ v₂, goUrlParse (pre ++ 63 :: joinWith [38] ps₁) = some (path, v₁) ∧
      goUrlParse (pre ++ 63 :: joinWith [38] ps₂) = some (path, v₂) ∧ v₁.Perm v₂ := by
  have hq : ∀ ps : List GoString, (∀ p ∈ ps, (35 : UInt8) ∉ p) → (35 : UInt8) ∉ joinWith [38] ps := by
    intro ps h e
    rcases mem_joinWith e with e | ⟨p, hp, e⟩
    · revert e; decide
    · exact h p hp e
  have hhash2 : ∀ p ∈ ps₂, (35 : UInt8) ∉ p := fun p h => hhash p (hperm.mem_iff.2 h)
  rw [goUrlParse_query pre _ h63 h35 (hq ps₁ hhash), goUrlParse_query pre _ h63 h35 (hq ps₂ hhash2),
    hasCTL_joinWith, hasCTL_joinWith, any_perm hasCTL hperm]
  cases ps₂.any hasCTL with
  | true => exact Or.inl ⟨rfl, rfl⟩
  | false =>
    simp only [Bool.false_eq_true, if_false]
    cases pathPart pre with
    | none => exact Or.inl ⟨rfl, rfl⟩
    | some path =>
      exact Or.inr ⟨path, _, _, rfl, rfl, goParseQuery_perm ps₁ ps₂ hperm hne hamp hd⟩

end Jsonapi.UrlFullL
