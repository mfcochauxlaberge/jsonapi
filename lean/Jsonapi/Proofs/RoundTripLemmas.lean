/-
The round trip of one attribute value (C01 / C02): "same value" (`Spec.sameVal`) through
canonical readings, and the value round trip of one attribute.
-/
import Jsonapi.Spec.RoundTrip
import Jsonapi.Proofs.UnmarshalLemmas6
namespace Jsonapi
namespace RtL
open GoMap UnmL

theorem sameVal_strs (a b : List GoString) : Spec.sameVal (.strs a) (.strs b) = a.Perm b := by
  simp [Spec.sameVal]

/-- the comparison of canonical readings that `sameVal` makes outside the to-many case -/
def sameCanon (x y : GoVal) : Prop :=
  match x, y with
  | GoVal.val k (.t x), GoVal.val k' (.t y) => k = k' ∧ x.sec = y.sec ∧ x.nsec = y.nsec
  | GoVal.ptr k (some (.t x)), GoVal.ptr k' (some (.t y)) => k = k' ∧ x.sec = y.sec ∧ x.nsec = y.nsec
  | x, y => x = y

theorem sameVal_nonstrs {a : GoVal} (b : GoVal) (h : ∀ l, a ≠ .strs l) :
    Spec.sameVal a b = sameCanon (Spec.canon a) (Spec.canon b) := by
  unfold Spec.sameVal sameCanon
  split
  · exact absurd rfl (h _)
  · rfl

theorem sameVal_refl (a : GoVal) : Spec.sameVal a a := by
  by_cases ha : ∃ l, a = .strs l
  · obtain ⟨l, rfl⟩ := ha
    rw [sameVal_strs]
  · rw [sameVal_nonstrs a (fun l e => ha ⟨l, e⟩)]
    unfold sameCanon
    split <;> simp_all

theorem sameVal_congr_left {a a' b : GoVal} (h : Spec.canon a = Spec.canon a')
    (hs : Spec.sameVal a' b) : Spec.sameVal a b := by
  by_cases ha : ∃ l, a = .strs l
  · obtain ⟨l, rfl⟩ := ha
    cases canon_eq_strs h.symm
    exact hs
  · have ha' : ∀ l, a' ≠ .strs l := by
      rintro l rfl
      exact ha ⟨l, canon_eq_strs h⟩
    rw [sameVal_nonstrs b (fun l e => ha ⟨l, e⟩), h]
    rwa [sameVal_nonstrs b ha'] at hs

theorem sameVal_of_canon_eq {a b : GoVal} (h : Spec.canon a = Spec.canon b) : Spec.sameVal a b :=
  sameVal_congr_left h (sameVal_refl b)

theorem str_raw_ne_null (c : Spec.Codecs) (s : GoString) : (Spec.rawOf c (.str s)).bytes ≠ sNull := by
  simp only [Spec.rawOf]; intro e; cases e

/-- the JSON `encodeAttr` writes for an attribute payload: `encodePay`, except that a nil byte
slice is the empty string -/
def payJson (p : Pay) : Json := if p = .bs none then .str [] else encodePay p

theorem encodeAttr_mkVal (k : Kind) (n : Bool) (p : Pay) : encodeAttr (mkVal k n p) = payJson p := by
  cases n <;> cases p <;> first | rfl | (rename_i o; cases o <;> rfl)

theorem payload_roundtrip (c : Spec.Codecs) (a : Attr) (k : Kind) (hk : Kind.ofCode? a.ty = some k)
    (p : Pay) (hp : k.payOk p = true) (ht : ∀ t, p = .t t → c.TimeOk t) :
    unmarshalToType a (Spec.rawOf c (payJson p)) = .ok (mkVal k a.nullable (canonPay k p)) := by
  cases p with
  | s v =>
    cases (by simpa [Kind.payOk] using hp : k = .string)
    exact (toType_string a _ (str_raw_ne_null c v) hk).trans rfl
  | i n =>
    have hb : (Spec.rawOf c (payJson (.i n))).bytes = printInt n := rfl
    have hnn : (Spec.rawOf c (payJson (.i n))).bytes ≠ sNull := printInt_ne_null n
    rw [canonPay_of_ne (p := .i n) nofun]
    cases hr : k.range? with
    | none => simp [Kind.payOk, hr] at hp
    | some r =>
      have hint : k.isInt = true := by unfold Kind.isInt; rw [hr]; rfl
      rcases Kind.int_cases k hint with ⟨hs, -⟩ | ⟨-, hu⟩
      · simp only [Kind.payOk, Kind.signed_range k hs, decide_eq_true_eq] at hp
        rw [toType_signed a _ k hnn hk hs, hb, parseInt_printInt k.bits n (by omega) (by omega)]
      · simp only [Kind.payOk, Kind.unsigned_range k hu, decide_eq_true_eq] at hp
        rw [toType_unsigned a _ k hnn hk hu, hb, parseUint_printInt k.bits n (by omega) (by omega)]
        simp only [Int.toNat_of_nonneg hp.1]
  | b v =>
    cases (by simpa [Kind.payOk] using hp : k = .bool)
    have hnn : (Spec.rawOf c (.bool v)).bytes ≠ sNull := by
      cases v <;> simp [Spec.rawOf] <;> decide
    refine (toType_bool a _ hnn hk).trans ?_
    cases v <;> simp [Spec.rawOf, show sFalse ≠ sTrue by decide, canonPay]
  | t v =>
    cases (by simpa [Kind.payOk] using hp : k = .time)
    refine (toType_time a _ (str_raw_ne_null c _) hk).trans ?_
    simp only [Spec.rawOf, c.time_law v (ht v rfl)]; rfl
  | bs o =>
    cases (by simpa [Kind.payOk] using hp : k = .bytes)
    have hb : c.b64dec [] = some [] := c.b64_law []
    cases o with
    | none =>
      refine (toType_bytes a _ (str_raw_ne_null c _) hk).trans ?_
      simp [Spec.rawOf, hb, canonPay]
    | some l =>
      refine (toType_bytes a _ (str_raw_ne_null c _) hk).trans ?_
      simp [Spec.rawOf, c.b64_law l, canonPay]

theorem null_roundtrip (c : Spec.Codecs) (a : Attr) (k : Kind) (hk : Kind.ofCode? a.ty = some k)
    (hn : a.nullable = true) :
    unmarshalToType a (Spec.rawOf c .null) = .ok (.ptr k none) := by
  rw [toType_null a _ rfl]
  simp [hn, Attr.zero, hk, GoVal.zero]

/-- C01, one attribute value: what the model's marshaling writes for a value of the
attribute's type is accepted by `Attr.UnmarshalToType` and decodes to the same value. -/
theorem value_roundtrip (c : Spec.Codecs) (a : Attr) (k : Kind) (hk : Kind.ofCode? a.ty = some k)
    (v : GoVal) (hv : v.hasAttrType k a.nullable = true ∨ (a.nullable = true ∧ v = .nil))
    (hdom : Spec.codecDom c v) :
    ∃ v', unmarshalToType a (Spec.rawOf c (encodeAttr v)) = .ok v' ∧ Spec.sameVal v' v := by
  rcases hv with hv | ⟨hn, rfl⟩
  · rcases hasAttrType_cases hv with ⟨p, rfl, hp⟩ | ⟨hn, rfl⟩
    · rw [encodeAttr_mkVal]
      refine ⟨_, payload_roundtrip c a k hk p hp ?_, sameVal_of_canon_eq ?_⟩
      · rintro t rfl
        exact hdom k t (by cases a.nullable <;> simp [mkVal])
      · rw [canon_mkVal, canon_mkVal, canonPay_idem]
    · exact ⟨_, null_roundtrip c a k hk hn, sameVal_refl _⟩
  · exact ⟨_, null_roundtrip c a k hk hn, sameVal_of_canon_eq rfl⟩

end RtL
end Jsonapi
