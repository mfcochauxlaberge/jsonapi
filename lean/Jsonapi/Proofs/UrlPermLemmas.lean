/-
Order independence of NewSimpleURL / NewParams / NewURL / URL.String with respect to
Go's map iteration order (the list order of the association lists of the model).

This file: association lists as maps, folds over them, relations on `Res` and `Option`.
UrlPermLemmas2 treats `NewSimpleURL`, UrlPermLemmas3 `NewParams` / `NewURL` / `NewURLFromRaw`.
(`URL.string` reads the `fields` / `page` maps only through lookups on sorted keys:
`string_canonical` in UrlStringLemmas.)
-/
import Jsonapi.Proofs.DetLemmas
import Jsonapi.Proofs.GoMapLemmas
import Jsonapi.Proofs.UrlEmitDefs
namespace Jsonapi.UrlL.Perm
open Jsonapi

/-! ### association lists: maps with the same keys, maps under a map of the values -/

theorem keys_perm_of_isSome {β γ} {m₁ : GoMap β} {m₂ : GoMap γ}
    (h₁ : m₁.keys.Nodup) (h₂ : m₂.keys.Nodup)
    (h : ∀ k, (m₁.get? k).isSome = (m₂.get? k).isSome) : m₁.keys.Perm m₂.keys := by
  rw [List.perm_ext_iff_of_nodup h₁ h₂]
  intro k
  rw [← GoMap.has_iff_mem_keys, ← GoMap.has_iff_mem_keys]
  exact Bool.eq_iff_iff.1 (h k)

theorem sortKeys_eq_of_isSome {β γ} {m₁ : GoMap β} {m₂ : GoMap γ}
    (h₁ : m₁.keys.Nodup) (h₂ : m₂.keys.Nodup)
    (h : ∀ k, (m₁.get? k).isSome = (m₂.get? k).isSome) :
    Typ.sortStrings m₁.keys = Typ.sortStrings m₂.keys :=
  DetL.sortStrings_eq_of_perm (keys_perm_of_isSome h₁ h₂ h)

/-! ### generic fold lemmas -/

theorem foldl_rel_congr {α β} (f : β → α → β) (R : β → β → Prop)
    (hcongr : ∀ a b x, R a b → R (f a x) (f b x)) :
    ∀ (l : List α) (a b : β), R a b → R (l.foldl f a) (l.foldl f b)
  | [], _, _, h => h
  | x :: l, a, b, h => foldl_rel_congr f R hcongr l _ _ (hcongr a b x h)

/-- A fold is invariant (up to `R`) under permutations of a list whose elements pairwise
commute (up to `R`). -/
theorem foldl_perm_rel {α β} (f : β → α → β) (R : β → β → Prop) (P : α → α → Prop)
    (hrefl : ∀ a, R a a) (htrans : ∀ a b c, R a b → R b c → R a c)
    (hcongr : ∀ a b x, R a b → R (f a x) (f b x))
    (hsymm : ∀ x y, P x y → P y x)
    (hcomm : ∀ a x y, P x y → R (f (f a x) y) (f (f a y) x))
    {l₁ l₂ : List α} (hp : l₁.Perm l₂) :
    l₁.Pairwise P → ∀ a, R (l₁.foldl f a) (l₂.foldl f a) := by
  induction hp with
  | nil => intro _ a; exact hrefl _
  | cons x _ ih =>
    intro hpw a
    exact ih (List.pairwise_cons.1 hpw).2 (f a x)
  | swap x y l =>
    intro hpw a
    have hyx : P y x := (List.pairwise_cons.1 hpw).1 x List.mem_cons_self
    exact foldl_rel_congr f R hcongr l _ _ (hcomm a y x hyx)
  | trans h₁ _ ih₁ ih₂ =>
    intro hpw a
    exact htrans _ _ _ (ih₁ hpw a)
      (ih₂ ((List.Perm.pairwise_iff (fun {x y} => hsymm x y) h₁).1 hpw) a)

/-! ### relations on `Res` -/

/-- same constructor, and related payloads on `ok` -/
def ResRel {α} (Q : α → α → Prop) : Res α → Res α → Prop
  | .ok a, .ok b => Q a b
  | .err, .err => True
  | .panic, .panic => True
  | _, _ => False

theorem ResRel.isOk_eq {α} {Q : α → α → Prop} : ∀ {r r' : Res α}, ResRel Q r r' → r.isOk = r'.isOk
  | .ok _, .ok _, _ => rfl
  | .err, .err, _ => rfl
  | .panic, .panic, _ => rfl
  | .ok _, .err, h | .ok _, .panic, h | .err, .ok _, h | .err, .panic, h
  | .panic, .ok _, h | .panic, .err, h => h.elim

theorem ResRel.of_ok {α} {Q : α → α → Prop} {a b : α} (h : ResRel Q (.ok a) (.ok b)) : Q a b := h

theorem ResRel.comp {α : Type} {Q Q' Q'' : α → α → Prop} (hc : ∀ a b c, Q a b → Q' b c → Q'' a c) :
    ∀ {r₁ r₂ r₃ : Res α}, ResRel Q r₁ r₂ → ResRel Q' r₂ r₃ → ResRel Q'' r₁ r₃ := by
  intro r₁ r₂ r₃ h₁ h₂
  cases r₁ <;> cases r₂ <;> cases r₃ <;>
    first
      | exact h₁.elim
      | exact h₂.elim
      | trivial
      | exact hc _ _ _ h₁ h₂

/-! ### relations on `Option`; maps whose lookups are related -/

/-- both absent, or both present and related -/
def ORel {α : Type} (V : α → α → Prop) : Option α → Option α → Prop
  | none, none => True
  | some a, some b => V a b
  | _, _ => False

theorem ORel.refl {α : Type} {V : α → α → Prop} (hV : ∀ a, V a a) : ∀ o, ORel V o o
  | none => trivial
  | some a => hV a

theorem ORel.of_eq {α : Type} {V : α → α → Prop} (hV : ∀ a, V a a) {o o' : Option α} (h : o = o') :
    ORel V o o' := h ▸ ORel.refl hV o

theorem ORel.trans {α : Type} {V : α → α → Prop} (hV : ∀ a b c, V a b → V b c → V a c) :
    ∀ {o₁ o₂ o₃ : Option α}, ORel V o₁ o₂ → ORel V o₂ o₃ → ORel V o₁ o₃
  | none, none, none, _, _ => trivial
  | some _, some _, some _, h₁, h₂ => hV _ _ _ h₁ h₂
  | none, some _, _, h, _ | some _, none, _, h, _ => h.elim
  | none, none, some _, _, h | some _, some _, none, _, h => h.elim

theorem ORel.symm {α : Type} {V : α → α → Prop} (hV : ∀ a b, V a b → V b a) :
    ∀ {o₁ o₂ : Option α}, ORel V o₁ o₂ → ORel V o₂ o₁
  | none, none, _ => trivial
  | some _, some _, h => hV _ _ h
  | none, some _, h | some _, none, h => h.elim

theorem ORel.map {α β : Type} {V : α → α → Prop} {W : β → β → Prop} (g : α → β)
    (hg : ∀ a b, V a b → W (g a) (g b)) : ∀ {o₁ o₂ : Option α}, ORel V o₁ o₂ →
    ORel W (o₁.map g) (o₂.map g)
  | none, none, _ => trivial
  | some _, some _, h => hg _ _ h
  | none, some _, h | some _, none, h => h.elim

/-- lookups agree up to a permutation of the value -/
abbrev PermO (o o' : Option (List GoString)) : Prop := ORel List.Perm o o'

theorem PermO.refl (o : Option (List GoString)) : PermO o o := ORel.refl List.Perm.refl o

theorem PermO.trans {o₁ o₂ o₃ : Option (List GoString)} (h₁ : PermO o₁ o₂) (h₂ : PermO o₂ o₃) :
    PermO o₁ o₃ := ORel.trans (V := List.Perm) (fun _ _ _ h h' => h.trans h') h₁ h₂

theorem PermO.map_sort {o o' : Option (List GoString)} (h : PermO o o') :
    o.map Typ.sortStrings = o'.map Typ.sortStrings := by
  cases o <;> cases o'
  · rfl
  · exact h.elim
  · exact h.elim
  · exact congrArg some (DetL.sortStrings_eq_of_perm h)

theorem all_of_get?_rel {β : Type} {V : β → β → Prop} {m₁ m₂ : GoMap β} (h₂ : m₂.keys.Nodup)
    (h : ∀ k, ORel V (m₁.get? k) (m₂.get? k)) (f : GoString × β → Bool)
    (hf : ∀ k v v', V v v' → f (k, v) = true → f (k, v') = true) :
    m₁.all f = true → m₂.all f = true := by
  rw [List.all_eq_true, List.all_eq_true]
  rintro H ⟨k, v'⟩ hm
  have hg := GoMap.get?_of_mem_nodup h₂ hm
  have hk := h k
  rw [hg] at hk
  cases hg₁ : m₁.get? k with
  | none => rw [hg₁] at hk; exact hk.elim
  | some v =>
    rw [hg₁] at hk
    exact hf k v v' hk (H _ (GoMap.mem_of_get? hg₁))

theorem all_eq_of_get?_rel {m₁ m₂ : GoMap (List GoString)} (h₁ : m₁.keys.Nodup) (h₂ : m₂.keys.Nodup)
    (h : ∀ k, PermO (m₁.get? k) (m₂.get? k)) (f : GoString × List GoString → Bool)
    (hf : ∀ k v v', v.Perm v' → f (k, v) = f (k, v')) : m₁.all f = m₂.all f := by
  rw [Bool.eq_iff_iff]
  constructor
  · exact all_of_get?_rel h₂ h f (fun k v v' hv hfv => (hf k v v' hv) ▸ hfv)
  · exact all_of_get?_rel (V := List.Perm) h₁ (fun k => ORel.symm (fun _ _ => List.Perm.symm) (h k)) f
      (fun k v v' hv hfv => (hf k v' v hv.symm) ▸ hfv)

end Jsonapi.UrlL.Perm
