/- `Spec.intLit`, the integer a JSON literal denotes. strconv, in two namespaces: `RtL` holds
printing (`printNat` / `printInt` against `digitsVal`) and parsing what was printed; `UnmL` holds
parsing (`parseUint` / `parseInt`: range, value, agreement with `Spec.intLit`). Then, in `UnmL`,
for C01 / C05 / C06 / C13: the kinds, `mkVal`, `Attr.unmarshalToType` case by case, and the
relationship value. -/
import Jsonapi.Model.Unmarshal
namespace Jsonapi

/-! ### Denotation of an integer literal (specification side, independent of strconv) -/
namespace Spec

/-- ASCII decimal digit, on the byte's numeric value. -/
def isDigitByte (c : UInt8) : Bool := decide (48 ≤ c.toNat ∧ c.toNat ≤ 57)

/-- Base-10 value of a digit string, most significant digit first. -/
def natLit (s : GoString) : Nat := s.foldl (fun acc c => 10 * acc + (c.toNat - 48)) 0

/-- The integer a JSON integer literal denotes: an optional leading '-' (45) followed by a
non-empty string of ASCII digits; `none` for everything else (a leading '+' is no JSON). -/
def intLit (s : GoString) : Option Int :=
  match s with
  | [] => none
  | c :: r =>
    if c = 45 then (if r ≠ [] ∧ r.all isDigitByte = true then some (-(natLit r : Int)) else none)
    else if (c :: r).all isDigitByte = true then some (natLit (c :: r) : Int) else none

end Spec

/-! ### strconv: decimal printing against `digitsVal` -/
namespace RtL

theorem digitChar_toNat (d : Nat) : (digitChar d).toNat = 48 + d % 10 := by
  simp [digitChar, UInt8.toNat_ofNat']
  omega

theorem isDigit_digitChar (d : Nat) : isDigit (digitChar d) = true := by
  simp [isDigit, UInt8.le_iff_toNat_le, digitChar_toNat]
  omega

theorem digitsVal_snoc (s : GoString) (c : UInt8) :
    digitsVal (s ++ [c]) = digitsVal s * 10 + (c.toNat - 48) := by
  simp [digitsVal]

theorem printNat_lt (n : Nat) (h : n < 10) : printNat n = [digitChar n] := by
  rw [printNat]; simp [h]

theorem printNat_ge (n : Nat) (h : ¬ n < 10) :
    printNat n = printNat (n / 10) ++ [digitChar (n % 10)] := by
  rw [printNat]; simp [h]

theorem printNat_spec (n : Nat) :
    printNat n ≠ [] ∧ (printNat n).all isDigit = true ∧ digitsVal (printNat n) = n := by
  induction n using printNat.induct with
  | case1 n h =>
    rw [printNat_lt n h]
    refine ⟨by simp, by simp [isDigit_digitChar], ?_⟩
    simp [digitsVal, digitChar_toNat]
    omega
  | case2 n h ih =>
    rw [printNat_ge n h, digitsVal_snoc, ih.2.2, digitChar_toNat]
    simp [ih.2.1, isDigit_digitChar]
    omega

theorem printNat_ne_nil (n : Nat) : printNat n ≠ [] := (printNat_spec n).1

theorem printNat_all_digit (n : Nat) : (printNat n).all isDigit = true := (printNat_spec n).2.1

theorem digitsVal_printNat (n : Nat) : digitsVal (printNat n) = n := (printNat_spec n).2.2

theorem printNat_head (n : Nat) : ∃ c r, printNat n = c :: r ∧ isDigit c = true := by
  have h1 := printNat_ne_nil n
  have h2 := printNat_all_digit n
  cases h : printNat n with
  | nil => exact absurd h h1
  | cons c r =>
    rw [h] at h2
    simp only [List.all_cons, Bool.and_eq_true] at h2
    exact ⟨c, r, rfl, h2.1⟩

theorem isDigit_ne {c : UInt8} (h : isDigit c = true) : c ≠ 43 ∧ c ≠ 45 ∧ c ≠ 110 ∧ c ≠ 34 := by
  simp only [isDigit, Bool.and_eq_true, decide_eq_true_eq, UInt8.le_iff_toNat_le] at h
  have h1 : (48 : UInt8).toNat = 48 := rfl
  refine ⟨?_, ?_, ?_, ?_⟩ <;> (intro e; subst e; revert h; decide)

end RtL

namespace UnmL

/-! ### strconv: parsing -/

theorem isDigitByte_eq (c : UInt8) : Spec.isDigitByte c = isDigit c := by
  simp [Spec.isDigitByte, isDigit, UInt8.le_iff_toNat_le]

theorem all_isDigitByte_eq (s : GoString) : s.all Spec.isDigitByte = s.all isDigit := by
  congr 1; funext c; exact isDigitByte_eq c

theorem natLit_eq (s : GoString) : Spec.natLit s = digitsVal s := by
  unfold Spec.natLit digitsVal
  generalize 0 = acc
  induction s generalizing acc with
  | nil => rfl
  | cons c s ih => simp only [List.foldl_cons]; rw [Nat.mul_comm 10 acc]; exact ih _

theorem parseUint_spec (bits : Nat) (s : GoString) (n : Nat) :
    parseUint bits s = some n ↔ s ≠ [] ∧ s.all isDigit = true ∧ n = digitsVal s ∧ n < 2 ^ bits := by
  unfold parseUint
  simp only [Option.ite_none_left_eq_some, Option.ite_none_right_eq_some, Option.some.injEq]
  constructor
  · rintro ⟨h1, h2, h3, rfl⟩; exact ⟨h1, h2, rfl, h3⟩
  · rintro ⟨h1, h2, rfl, h3⟩; exact ⟨h1, h2, h3, rfl⟩

theorem parseUint_lt {bits : Nat} {s : GoString} {n : Nat} (h : parseUint bits s = some n) : n < 2 ^ bits :=
  ((parseUint_spec bits s n).1 h).2.2.2

theorem parseInt_nosign (bits : Nat) (c : UInt8) (r : GoString) (h1 : c ≠ 43) (h2 : c ≠ 45) :
    parseInt bits (c :: r) =
      if (c :: r).all isDigit = true then
        (if digitsVal (c :: r) < 2 ^ (bits - 1) then some (digitsVal (c :: r) : Int) else none)
      else none := by
  unfold parseInt
  split
  rename_i neg rest e
  split at e
  · rename_i e'; simp only [List.cons.injEq] at e'; exact absurd e'.1 h1
  · rename_i e'; simp only [List.cons.injEq] at e'; exact absurd e'.1 h2
  · simp only [Prod.mk.injEq] at e
    obtain ⟨e1, e2⟩ := e
    subst e1 e2
    simp

theorem parseInt_neg (bits : Nat) (r : GoString) :
    parseInt bits (45 :: r) =
      if r = [] then none
      else if r.all isDigit = true then
        (if digitsVal r ≤ 2 ^ (bits - 1) then some (-(digitsVal r : Int)) else none)
      else none := by
  simp [parseInt]

theorem parseInt_pos (bits : Nat) (r : GoString) :
    parseInt bits (43 :: r) =
      if r = [] then none
      else if r.all isDigit = true then
        (if digitsVal r < 2 ^ (bits - 1) then some ((digitsVal r : Int)) else none)
      else none := by
  simp [parseInt]

theorem parseInt_range {bits : Nat} {s : GoString} {n : Int} (h : parseInt bits s = some n) :
    -((2 ^ (bits - 1) : Nat) : Int) ≤ n ∧ n < ((2 ^ (bits - 1) : Nat) : Int) := by
  have hB : 0 < 2 ^ (bits - 1) := Nat.two_pow_pos _
  cases s with
  | nil => simp [parseInt] at h
  | cons c r =>
    by_cases h43 : c = 43
    · subst h43
      simp only [parseInt_pos, Option.ite_none_left_eq_some, Option.ite_none_right_eq_some,
        Option.some.injEq] at h
      omega
    by_cases h45 : c = 45
    · subst h45
      simp only [parseInt_neg, Option.ite_none_left_eq_some, Option.ite_none_right_eq_some,
        Option.some.injEq] at h
      omega
    · simp only [parseInt_nosign bits c r h43 h45, Option.ite_none_right_eq_some,
        Option.some.injEq] at h
      omega

/-- `ParseInt` accepts exactly the integer literals (no leading '+') in the signed range
of the width, and returns the integer denoted. -/
theorem parseInt_spec (bits : Nat) (s : GoString) (n : Int) (hplus : s.head? ≠ some 43) :
    parseInt bits s = some n ↔
      Spec.intLit s = some n ∧ -((2 ^ (bits - 1) : Nat) : Int) ≤ n ∧ n < ((2 ^ (bits - 1) : Nat) : Int) := by
  have hB : 0 < 2 ^ (bits - 1) := Nat.two_pow_pos _
  cases s with
  | nil => simp [parseInt, Spec.intLit]
  | cons c r =>
    have h43 : c ≠ 43 := by intro e; subst e; exact hplus rfl
    by_cases h45 : c = 45
    · subst h45
      simp only [parseInt_neg, Spec.intLit, if_true, all_isDigitByte_eq, natLit_eq,
        Option.ite_none_left_eq_some, Option.ite_none_right_eq_some, Option.some.injEq]
      generalize 2 ^ (bits - 1) = B at hB
      constructor
      · rintro ⟨h1, h2, h3, rfl⟩; exact ⟨⟨⟨h1, h2⟩, rfl⟩, by omega, by omega⟩
      · rintro ⟨⟨h, rfl⟩, h3, -⟩; exact ⟨h.1, h.2, by omega, rfl⟩
    · simp only [parseInt_nosign bits c r h43 h45, Spec.intLit, h45, if_false, all_isDigitByte_eq,
        natLit_eq, Option.ite_none_right_eq_some, Option.some.injEq]
      generalize 2 ^ (bits - 1) = B at hB
      constructor
      · rintro ⟨h1, h2, rfl⟩; exact ⟨⟨h1, rfl⟩, by omega, by omega⟩
      · rintro ⟨⟨h, rfl⟩, -, h3⟩; exact ⟨h, by omega, rfl⟩

/-- `ParseUint` accepts exactly the integer literals without sign below `2^bits`. -/
theorem parseUint_intLit (bits : Nat) (s : GoString) (n : Nat) :
    parseUint bits s = some n ↔
      Spec.intLit s = some (n : Int) ∧ n < 2 ^ bits ∧ s.head? ≠ some 45 := by
  rw [parseUint_spec]
  cases s with
  | nil => simp [Spec.intLit]
  | cons c r =>
    by_cases h45 : c = 45
    · subst h45
      have : (45 :: r).all isDigit = false := by simp [isDigit]
      simp [this]
    · simp only [Spec.intLit, h45, if_false, all_isDigitByte_eq, natLit_eq, ne_eq, reduceCtorEq,
        not_false_eq_true, true_and, List.head?_cons, Option.some.injEq]
      by_cases hd : (c :: r).all isDigit = true
      · simp only [hd, if_true, Option.some.injEq, true_and]
        constructor
        · rintro ⟨e, h⟩; subst e; exact ⟨rfl, h, trivial⟩
        · rintro ⟨e, h, _⟩; exact ⟨by omega, h⟩
      · simp [hd]

end UnmL

namespace RtL
open UnmL

theorem parseUint_printNat (bits n : Nat) (h : n < 2 ^ bits) :
    parseUint bits (printNat n) = some n := by
  rw [parseUint_spec]
  exact ⟨printNat_ne_nil n, printNat_all_digit n, (digitsVal_printNat n).symm, h⟩

theorem parseInt_printNat (bits n : Nat) (h : n < 2 ^ (bits - 1)) :
    parseInt bits (printNat n) = some (n : Int) := by
  obtain ⟨c, r, e, hc⟩ := printNat_head n
  have hall := printNat_all_digit n
  have hval := digitsVal_printNat n
  rw [e] at hall hval ⊢
  obtain ⟨h43, h45, -, -⟩ := isDigit_ne hc
  rw [parseInt_nosign bits c r h43 h45, hall, hval]
  simp [h]

theorem parseInt_neg_printNat (bits n : Nat) (h : n ≤ 2 ^ (bits - 1)) :
    parseInt bits (45 :: printNat n) = some (-(n : Int)) := by
  rw [parseInt_neg, printNat_all_digit, digitsVal_printNat]
  simp [printNat_ne_nil, h]

theorem printInt_nonneg (i : Int) (h : 0 ≤ i) : printInt i = printNat i.toNat := by
  unfold printInt
  have : ¬ i < 0 := by omega
  simp only [this, if_false]
  congr 1
  lia

theorem printInt_neg (i : Int) (h : i < 0) : printInt i = 45 :: printNat i.natAbs := by
  unfold printInt
  simp [h]

theorem printInt_ne_nil (i : Int) : printInt i ≠ [] := by
  unfold printInt
  split
  · simp
  · exact printNat_ne_nil _

/-- `ParseInt(FormatInt(i, 10), 10, bits) = i` for `i` in the signed range of the width -/
theorem parseInt_printInt (bits : Nat) (i : Int)
    (hlo : -((2 ^ (bits - 1) : Nat) : Int) ≤ i) (hhi : i < ((2 ^ (bits - 1) : Nat) : Int)) :
    parseInt bits (printInt i) = some i := by
  by_cases h : i < 0
  · rw [printInt_neg i h, parseInt_neg_printNat bits i.natAbs (by omega)]
    congr 1; omega
  · rw [printInt_nonneg i (by omega), parseInt_printNat bits i.toNat (by omega)]
    congr 1; omega

/-- `ParseUint(FormatUint(i, 10), 10, bits) = i` for `0 ≤ i < 2^bits` -/
theorem parseUint_printInt (bits : Nat) (i : Int) (hlo : 0 ≤ i) (hhi : i < ((2 ^ bits : Nat) : Int)) :
    parseUint bits (printInt i) = some i.toNat := by
  rw [printInt_nonneg i hlo]
  exact parseUint_printNat bits i.toNat (by omega)

theorem printInt_ne_null (i : Int) : printInt i ≠ sNull := by
  by_cases h : i < 0
  · rw [printInt_neg i h]; intro e; cases e
  · rw [printInt_nonneg i (by omega)]
    obtain ⟨c, r, e, hc⟩ := printNat_head i.toNat
    rw [e]
    intro e'
    have : c = 110 := by cases e'; rfl
    exact (isDigit_ne hc).2.2.1 this

#print axioms parseInt_range
#print axioms parseInt_printInt

end RtL

namespace UnmL

theorem Kind.int_cases (k : Kind) (h : k.isInt = true) :
    (k.isSigned = true ∧ k.isUnsigned = false) ∨ (k.isSigned = false ∧ k.isUnsigned = true) := by
  revert h; cases k <;> decide

theorem Kind.signed_range (k : Kind) (h : k.isSigned = true) :
    k.range? = some (-((2 ^ (k.bits - 1) : Nat) : Int), ((2 ^ (k.bits - 1) : Nat) : Int) - 1) := by
  cases k <;> first | rfl | cases h

theorem Kind.unsigned_range (k : Kind) (h : k.isUnsigned = true) :
    k.range? = some (0, ((2 ^ k.bits : Nat) : Int) - 1) := by
  cases k <;> first | rfl | cases h

theorem Kind.signed_ne (k : Kind) (h : k.isSigned = true) : k ≠ .string := by
  intro e; subst e; cases h

theorem Kind.unsigned_ne (k : Kind) (h : k.isUnsigned = true) : k ≠ .string ∧ k.isSigned = false := by
  cases k <;> first | exact ⟨Kind.noConfusion, rfl⟩ | cases h

theorem Kind.mem_all (k : Kind) : k ∈ Kind.all := by cases k <;> decide

theorem ofCode?_code (k : Kind) : Kind.ofCode? k.code = some k := by cases k <;> rfl

theorem Kind.code_inj {k k' : Kind} (h : k.code = k'.code) : k = k' :=
  Option.some.inj (by rw [← ofCode?_code k, h, ofCode?_code])

/-- the classes of kinds that `unmarshalToType` tells apart -/
theorem Kind.classes (k : Kind) :
    k = .string ∨ k.isSigned = true ∨ k.isUnsigned = true ∨ k = .bool ∨ k = .time ∨ k = .bytes := by
  cases k <;> decide

theorem mkVal_hasAttrType (k : Kind) (n : Bool) (p : Pay) : (mkVal k n p).hasAttrType k n = k.payOk p := by
  cases n <;> simp [mkVal, GoVal.hasAttrType]

theorem zero_hasAttrType (k : Kind) (n : Bool) : (GoVal.zero k n).hasAttrType k n = true := by
  cases n <;> cases k <;> decide

theorem mkVal_ne_nil (k : Kind) (n : Bool) (p : Pay) : mkVal k n p ≠ .nil := by
  cases n <;> simp [mkVal]

theorem mkVal_inj {k : Kind} {n : Bool} {p q : Pay} (h : mkVal k n p = mkVal k n q) : p = q := by
  cases n <;> simpa [mkVal] using h

/-! ### `unmarshalToType` -/

theorem toType_null (a : Attr) (raw : RawVal) (h : raw.bytes = sNull) :
    unmarshalToType a raw = if a.nullable then .ok a.zero else .err := by
  unfold unmarshalToType; rw [if_pos h]

theorem toType_badKind (a : Attr) (raw : RawVal) (h : raw.bytes ≠ sNull) (hk : Kind.ofCode? a.ty = none) :
    unmarshalToType a raw = .err := by
  unfold unmarshalToType; rw [if_neg h, hk]

theorem toType_string (a : Attr) (raw : RawVal) (h : raw.bytes ≠ sNull) (hk : Kind.ofCode? a.ty = some .string) :
    unmarshalToType a raw =
      match raw.decStr with | some s => .ok (mkVal .string a.nullable (.s s)) | none => .err := by
  unfold unmarshalToType; rw [if_neg h, hk]; simp only [if_true]; rfl

theorem toType_signed (a : Attr) (raw : RawVal) (k : Kind) (h : raw.bytes ≠ sNull)
    (hk : Kind.ofCode? a.ty = some k) (hs : k.isSigned = true) :
    unmarshalToType a raw =
      match parseInt k.bits raw.bytes with | some n => .ok (mkVal k a.nullable (.i n)) | none => .err := by
  unfold unmarshalToType; rw [if_neg h, hk]
  simp only [Kind.signed_ne k hs, if_false, hs, if_true]
  rfl

theorem toType_unsigned (a : Attr) (raw : RawVal) (k : Kind) (h : raw.bytes ≠ sNull)
    (hk : Kind.ofCode? a.ty = some k) (hs : k.isUnsigned = true) :
    unmarshalToType a raw =
      match parseUint k.bits raw.bytes with | some n => .ok (mkVal k a.nullable (.i n)) | none => .err := by
  unfold unmarshalToType; rw [if_neg h, hk]
  simp only [(Kind.unsigned_ne k hs).1, if_false, (Kind.unsigned_ne k hs).2, hs, if_true, Bool.false_eq_true]
  rfl

theorem toType_bool (a : Attr) (raw : RawVal) (h : raw.bytes ≠ sNull) (hk : Kind.ofCode? a.ty = some .bool) :
    unmarshalToType a raw =
      if raw.bytes = sTrue then .ok (mkVal .bool a.nullable (.b true))
      else if raw.bytes = sFalse then .ok (mkVal .bool a.nullable (.b false)) else .err := by
  unfold unmarshalToType; rw [if_neg h, hk]; simp [Kind.isSigned, Kind.isUnsigned]

theorem toType_time (a : Attr) (raw : RawVal) (h : raw.bytes ≠ sNull) (hk : Kind.ofCode? a.ty = some .time) :
    unmarshalToType a raw =
      match raw.decTime with | some t => .ok (mkVal .time a.nullable (.t t)) | none => .err := by
  unfold unmarshalToType; rw [if_neg h, hk]; simp [Kind.isSigned, Kind.isUnsigned]
  rfl

theorem toType_bytes (a : Attr) (raw : RawVal) (h : raw.bytes ≠ sNull) (hk : Kind.ofCode? a.ty = some .bytes) :
    unmarshalToType a raw =
      if raw.bytes.head? ≠ some 34 then .err
      else match raw.decBytes with | some b => .ok (mkVal .bytes a.nullable (.bs b)) | none => .err := by
  unfold unmarshalToType; rw [if_neg h, hk]; simp [Kind.isSigned, Kind.isUnsigned]
  rfl

theorem payOk_signed (k : Kind) (hs : k.isSigned = true) {s : GoString} {n : Int}
    (h : parseInt k.bits s = some n) : k.payOk (.i n) = true := by
  have hr := Kind.signed_range k hs
  simp only [Kind.payOk, hr, decide_eq_true_eq]
  have := parseInt_range h
  omega

theorem payOk_unsigned (k : Kind) (hs : k.isUnsigned = true) {s : GoString} {n : Nat}
    (h : parseUint k.bits s = some n) : k.payOk (.i (n : Int)) = true := by
  have hr := Kind.unsigned_range k hs
  have := parseUint_lt h
  simp only [Kind.payOk, hr, decide_eq_true_eq]
  omega

theorem toType_cases {P : Res GoVal → Prop} (a : Attr) (raw : RawVal) (herr : P .err)
    (hzero : a.nullable = true → P (.ok a.zero))
    (hok : ∀ k p, Kind.ofCode? a.ty = some k → k.payOk p = true → P (.ok (mkVal k a.nullable p))) :
    P (unmarshalToType a raw) := by
  by_cases hn : raw.bytes = sNull
  · rw [toType_null a raw hn]; split
    · exact hzero ‹_›
    · exact herr
  cases hk : Kind.ofCode? a.ty with
  | none => rw [toType_badKind a raw hn hk]; exact herr
  | some k =>
    rcases Kind.classes k with rfl | hs | hu | rfl | rfl | rfl
    · rw [toType_string a raw hn hk]; split
      · exact hok _ _ hk rfl
      · exact herr
    · rw [toType_signed a raw k hn hk hs]; split
      · exact hok _ _ hk (payOk_signed k hs ‹_›)
      · exact herr
    · rw [toType_unsigned a raw k hn hk hu]; split
      · exact hok _ _ hk (payOk_unsigned k hu ‹_›)
      · exact herr
    · rw [toType_bool a raw hn hk]; split
      · exact hok _ _ hk rfl
      · split
        · exact hok _ _ hk rfl
        · exact herr
    · rw [toType_time a raw hn hk]; split
      · exact hok _ _ hk rfl
      · exact herr
    · rw [toType_bytes a raw hn hk]; split
      · exact herr
      · split
        · exact hok _ _ hk rfl
        · exact herr

theorem toType_no_panic (a : Attr) (raw : RawVal) : unmarshalToType a raw ≠ .panic :=
  toType_cases (P := (· ≠ .panic)) a raw nofun (fun _ => nofun) (fun _ _ _ _ => nofun)

theorem toType_hasAttrType (a : Attr) (raw : RawVal) (v : GoVal) (k : Kind)
    (h : unmarshalToType a raw = .ok v) (hk : Kind.ofCode? a.ty = some k) :
    v.hasAttrType k a.nullable = true := by
  revert h
  refine toType_cases (P := (· = .ok v → _)) a raw nofun (fun hn h => ?_) (fun k' p hk' hp h => ?_)
  · cases h
    simp only [Attr.zero, hk, hn]
    exact zero_hasAttrType k true
  · cases h
    cases hk.symm.trans hk'
    rw [mkVal_hasAttrType]; exact hp

/-! ### The relationship value -/

theorem relValue_absent (rel : Rel) (v : RelRaw) (h : v.present = false) : relValue rel v = (none, false) := by
  unfold relValue; simp [h]

theorem relValue_isSome (rel : Rel) (v : RelRaw) : (relValue rel v).1.isSome = v.present := by
  unfold relValue
  cases hp : v.present
  · simp
  · simp only [Bool.not_true, Bool.false_eq_true, if_false]
    split
    · split <;> rfl
    · split <;> rfl

theorem relValue_typed (rel : Rel) (v : RelRaw) (x : GoVal) (h : (relValue rel v).1 = some x) :
    if rel.toOne then ∃ id, x = .val .string (.s id) else ∃ l, x = .strs l := by
  unfold relValue at h
  split at h
  · cases h
  · split at h
    · rw [if_pos ‹_›]
      split at h <;> (cases h; exact ⟨_, rfl⟩)
    · rw [if_neg ‹_›]
      split at h <;> (cases h; exact ⟨_, rfl⟩)

end UnmL
end Jsonapi
