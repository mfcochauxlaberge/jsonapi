/-
Namespace `RepL` (definitions only): the loops of marshaling as folds over named steps and the
resource / document a run leaves behind - the vocabulary of Props/C11R and MarshalRepeatLemmas.
Namespace `MarshalL`: for each of the model's marshaling functions, what a successful run returns,
for every input; and that on the domain `ResView.keyedWf` the run succeeds and returns the object
of the specification (C04).
-/
import Jsonapi.Proofs.MarshalCongrLemmas
namespace Jsonapi

namespace RepL
open DetL

abbrev RelAcc := Res (List (GoString × Json) × ResView)

/-- one iteration of the relationships loop of `marshalResource` -/
def relStep (prepath : GoString) (fields want : List GoString) (acc : RelAcc)
    (p : GoString × Rel) : RelAcc :=
  match acc with
  | .ok (m, r') =>
    if fields.contains p.2.fromName then
      match marshalRel r' prepath p.2 (want.contains p.2.fromName) with
      | .ok (j, none) => .ok (GoMap.set m p.2.fromName j, r')
      | .ok (j, some sorted) =>
        .ok (GoMap.set m p.2.fromName j,
          { r' with vals := GoMap.set r'.vals p.2.fromName (.strs sorted) })
      | .err => .err
      | .panic => .panic
    else .ok (m, r')
  | e => e

/-- the loop from the resource itself -/
def relsFold (r : ResView) (prepath : GoString) (fields : List GoString)
    (relData : GoMap (List GoString)) : RelAcc :=
  r.rels.foldl (relStep prepath fields ((relData.get? r.typeName).getD [])) (.ok ([], r))

/-- The resource as `MarshalResource` leaves it (to-many lists of the selected relationships
whose data is wanted sorted in place); the resource itself when marshaling fails. -/
def postRes (r : ResView) (prepath : GoString) (fields : List GoString)
    (relData : GoMap (List GoString)) : ResView :=
  match relsFold r prepath fields relData with
  | .ok (_, r') => r'
  | _ => r

/-- the resource of a document after `MarshalDocument` marshaled it -/
def postR (d : Document) (f : GoMap (List GoString)) (r : ResView) : ResView :=
  postRes r d.prePath ((f.get? r.typeName).getD []) d.relData

/-- `MarshalDocument` writes no data member: data of an unknown type, or no data in a document
with errors (then the included resources are sorted but not marshaled) -/
def noData (d : Document) : Bool :=
  match d.data with
  | .other => true
  | .none => !d.errors.isEmpty
  | _ => false

/-- The document as `MarshalDocument` leaves it: the included list sorted by ID, and every
resource it marshaled as `MarshalResource` leaves it. -/
def postDoc (d : Document) (f : GoMap (List GoString)) : Document :=
  { d with data := mapRes (postR d f) d.data,
           included := if noData d then sortById d.included
                       else (sortById d.included).map (postR d f) }

end RepL

namespace MarshalL
open RepL

/-! ### loops that stop at the first failure -/

theorem fold_inv' {σ α : Type} (F : σ → α → σ) (Inv : σ → List α → Prop)
    (hF : ∀ s a rest, Inv s (a :: rest) → Inv (F s a) rest) :
    ∀ (l : List α) (s : σ), Inv s l → Inv (l.foldl F s) [] := by
  intro l
  induction l with
  | nil => intro s h; exact h
  | cons a l ih =>
    intro s h
    simp only [List.foldl_cons]
    exact ih _ (hF s a l h)

theorem foldl_ok {σ α : Type} {F : Res σ → α → Res σ} {G : σ → α → σ} {Q : α → Prop}
    (hE : ∀ a, F .err a = .err) (hP : ∀ a, F .panic a = .panic)
    (hF : ∀ s a s', F (.ok s) a = .ok s' → s' = G s a ∧ Q a) :
    ∀ (l : List α) (s s' : σ), l.foldl F (.ok s) = .ok s' → s' = l.foldl G s ∧ ∀ a ∈ l, Q a := by
  have hfail : ∀ (l : List α) (x : Res σ), (∀ s, x ≠ .ok s) → ∀ s, l.foldl F x ≠ .ok s := by
    intro l
    induction l with
    | nil => exact fun _ hx => hx
    | cons a l ih =>
      intro x hx
      refine ih _ ?_
      cases x with
      | ok s => exact absurd rfl (hx s)
      | err => rw [hE]; exact hx
      | panic => rw [hP]; exact hx
  intro l
  induction l with
  | nil => intro s s' h; cases h; exact ⟨rfl, fun _ h => nomatch h⟩
  | cons a l ih =>
    intro s s' h
    rw [List.foldl_cons] at h
    cases hs : F (.ok s) a with
    | ok s1 =>
      rw [hs] at h
      obtain ⟨e, hq⟩ := hF s a s1 hs
      obtain ⟨e', hq'⟩ := ih s1 s' h
      exact ⟨by rw [List.foldl_cons, ← e]; exact e',
        fun b hb => (List.mem_cons.1 hb).elim (· ▸ hq) (hq' b)⟩
    | err => rw [hs] at h; exact absurd h (hfail l _ (by intro _ e; cases e) _)
    | panic => rw [hs] at h; exact absurd h (hfail l _ (by intro _ e; cases e) _)

theorem ok_pair_iff {α β : Type} {a x : α} {b y : β} :
    Res.ok (a, b) = Res.ok (x, y) ↔ x = a ∧ y = b := by
  simp only [Res.ok.injEq, Prod.mk.injEq]
  exact ⟨fun ⟨h1, h2⟩ => ⟨h1.symm, h2.symm⟩, fun ⟨h1, h2⟩ => ⟨h1.symm, h2.symm⟩⟩

theorem bind_eq_ok {α β : Type} {r : Res α} {f : α → Res β} {b : β} :
    r.bind f = .ok b ↔ ∃ a, r = .ok a ∧ f a = .ok b := by
  cases r <;> simp [Res.bind]

/-- A successful `marshalRel` returns the relationship object of the specification; the list
it hands back is the sorted ID list of a to-many relationship whose data is wanted. -/
theorem marshalRel_ok {r : ResView} {p : GoString} {rel : Rel} {w : Bool} {j : Json}
    {o : Option (List GoString)} (h : marshalRel r p rel w = .ok (j, o)) :
    j = Spec.relObject r p rel w ∧
    o = if w && !rel.toOne then
          (match r.get rel.fromName with | .strs ids => some (Typ.sortStrings ids) | _ => none)
        else none := by
  unfold marshalRel at h
  unfold Spec.relObject Spec.relDataJson
  cases ho : rel.toOne <;> cases hw : w <;>
    simp only [ho, hw, Bool.false_eq_true, if_false, if_true] at h ⊢
  · cases h; exact ⟨rfl, rfl⟩
  · split at h
    · rename_i hg; cases h; simp [hg]
    · cases h
  · cases h; exact ⟨rfl, rfl⟩
  · split at h
    · rename_i id hg; cases h
      by_cases hid : id = [] <;> simp [hg, hid]
    · cases h

theorem marshalRel_toOne {r : ResView} (p : GoString) {rel : Rel} {id : GoString}
    (hone : rel.toOne = true) (hg : r.get rel.fromName = .val .string (.s id)) (w : Bool) :
    marshalRel r p rel w = .ok (Spec.relObject r p rel w, none) := by
  unfold marshalRel Spec.relObject Spec.relDataJson
  cases w <;> simp only [hone, hg, if_true, Bool.false_eq_true, if_false]
  · rfl
  · by_cases h : id = [] <;> simp [h]

theorem marshalRel_toMany {r : ResView} (p : GoString) {rel : Rel} {ids : List GoString}
    (hmany : rel.toOne = false) (hg : r.get rel.fromName = .strs ids) (w : Bool) :
    marshalRel r p rel w =
      .ok (Spec.relObject r p rel w, if w then some (Typ.sortStrings ids) else none) := by
  unfold marshalRel Spec.relObject Spec.relDataJson
  cases w <;> simp only [hmany, hg, Bool.false_eq_true, if_false, if_true] <;> rfl

/-! ### the relationships loop -/

/-- the ID list stored under `k` sorted in place -/
def sortAt (r : ResView) (k : GoString) : ResView :=
  match r.get k with
  | .strs ids => { r with vals := GoMap.set r.vals k (.strs (Typ.sortStrings ids)) }
  | _ => r

/-- a successful iteration of the relationships loop, as a function of the members written so
far and the resource as it is -/
def relStepP (prepath : GoString) (fields want : List GoString)
    (s : List (GoString × Json) × ResView) (q : GoString × Rel) :
    List (GoString × Json) × ResView :=
  if fields.contains q.2.fromName then
    (GoMap.set s.1 q.2.fromName (Spec.relObject s.2 prepath q.2 (want.contains q.2.fromName)),
     if want.contains q.2.fromName && !q.2.toOne then sortAt s.2 q.2.fromName else s.2)
  else s

theorem relStep_ok {prepath : GoString} {fields want : List GoString}
    {s s' : List (GoString × Json) × ResView} {q : GoString × Rel}
    (h : relStep prepath fields want (.ok s) q = .ok s') : s' = relStepP prepath fields want s q := by
  obtain ⟨m, r0⟩ := s
  unfold relStep at h
  unfold relStepP
  by_cases hc : fields.contains q.2.fromName = true
  · simp only [hc, if_true] at h ⊢
    cases hm : marshalRel r0 prepath q.2 (want.contains q.2.fromName) with
    | ok x =>
      obtain ⟨j, o⟩ := x
      obtain ⟨rfl, ho⟩ := marshalRel_ok hm
      rw [hm] at h
      by_cases hw : (want.contains q.2.fromName && !q.2.toOne) = true
      · rw [if_pos hw] at ho ⊢
        unfold sortAt
        cases hg : r0.get q.2.fromName <;> simp only [hg] at ho ⊢ <;> subst ho <;> cases h <;> rfl
      · rw [if_neg hw] at ho ⊢
        subst ho; cases h; rfl
    | err => rw [hm] at h; cases h
    | panic => rw [hm] at h; cases h
  · simp only [hc, Bool.false_eq_true, if_false] at h ⊢
    cases h; rfl

theorem relsFold_ok {r : ResView} {prepath : GoString} {fields : List GoString}
    {relData : GoMap (List GoString)} {s : List (GoString × Json) × ResView}
    (h : relsFold r prepath fields relData = .ok s) :
    s = r.rels.foldl (relStepP prepath fields (wantOf r relData)) ([], r) :=
  (foldl_ok (Q := fun _ => True) (fun _ => rfl) (fun _ => rfl)
    (fun _ _ _ hs => ⟨relStep_ok hs, trivial⟩) _ _ _ h).1

/-- the object `marshalResource` assembles from the relationship members -/
def resJson (r : ResView) (prepath : GoString) (fields : List GoString) (rmeta : Meta)
    (rels : List (GoString × Json)) : Json :=
  .obj (sortMembers (resTop r prepath
    (r.attrs.foldl (fun m p => if fields.contains p.2.name then
      GoMap.set m p.2.name (encodeAttr (r.get p.2.name)) else m) []) rels rmeta))

theorem marshalResource_eq_fold (r : ResView) (prepath : GoString) (fields : List GoString)
    (relData : GoMap (List GoString)) (rmeta : Meta) :
    marshalResource r prepath fields relData rmeta =
      match relsFold r prepath fields relData with
      | .ok (rels, r') => .ok (resJson r prepath fields rmeta rels, r')
      | .err => .err
      | .panic => .panic := rfl

/-- marshaling changes nothing in a resource but the order of its to-many ID lists -/
def SameUpTo (r r' : ResView) : Prop :=
  r'.typeName = r.typeName ∧ r'.id = r.id ∧ r'.attrs = r.attrs ∧ r'.rels = r.rels ∧
  ∀ k, r'.get k = r.get k ∨ ∃ l, r.get k = .strs l ∧ r'.get k = .strs (Typ.sortStrings l)

theorem SameUpTo.refl (r : ResView) : SameUpTo r r := ⟨rfl, rfl, rfl, rfl, fun _ => Or.inl rfl⟩

theorem get_set (r : ResView) (n k : GoString) (v : GoVal) :
    ({ r with vals := GoMap.set r.vals n v } : ResView).get k = if k = n then v else r.get k := by
  unfold ResView.get
  by_cases h : k = n
  · subst h; simp [GoMap.get?_set_self]
  · simp [GoMap.get?_set_ne _ _ _ _ h, h]

theorem SameUpTo.sortAt {r r0 : ResView} (h : SameUpTo r r0) (k : GoString) :
    SameUpTo r (sortAt r0 k) := by
  unfold MarshalL.sortAt
  split
  · rename_i ids hg
    obtain ⟨ht, hi, ha, hr, hget⟩ := h
    refine ⟨ht, hi, ha, hr, fun k' => ?_⟩
    rw [get_set]
    split
    · rename_i e
      subst e
      rcases hget k' with e | ⟨l, e1, e2⟩
      · exact Or.inr ⟨ids, by rw [← e, hg], rfl⟩
      · rw [hg] at e2
        cases e2
        exact Or.inr ⟨l, e1, by rw [DetL.sortStrings_idem]⟩
    · exact hget k'
  · exact h

theorem SameUpTo.relObject {r r0 : ResView} (h : SameUpTo r r0) (p : GoString) (rel : Rel)
    (w : Bool) : Spec.relObject r0 p rel w = Spec.relObject r p rel w := by
  refine DetL.relObject_congr h.1 h.2.1 p rel w ?_
  rcases h.2.2.2.2 rel.fromName with e | ⟨l, e1, e2⟩
  · exact DetL.relDataJson_congr_get rel e
  · exact DetL.relDataJson_strs rel e2 e1 (sortStrings_perm l)

theorem relFoldP_inv {r : ResView} (prepath : GoString) (fields want : List GoString)
    (l : List (GoString × Rel)) (s : List (GoString × Json) × ResView) (hs : SameUpTo r s.2) :
    SameUpTo r (l.foldl (relStepP prepath fields want) s).2 ∧
    ∀ q ∈ (l.foldl (relStepP prepath fields want) s).1,
      q ∈ s.1 ∨ ∃ rel w, q = (rel.fromName, Spec.relObject r prepath rel w) := by
  refine fold_inv' _ (fun s' _ => SameUpTo r s'.2 ∧
    ∀ q ∈ s'.1, q ∈ s.1 ∨ ∃ rel w, q = (rel.fromName, Spec.relObject r prepath rel w))
    (fun s' q _ hs' => ?_) l s ⟨hs, fun _ h => Or.inl h⟩
  unfold relStepP
  split
  · refine ⟨?_, fun x hx => ?_⟩
    · split
      · exact hs'.1.sortAt _
      · exact hs'.1
    · rcases GoMap.mem_set hx with hx | rfl
      · exact hs'.2 x hx
      · exact Or.inr ⟨_, _, by rw [hs'.1.relObject]⟩
  · exact hs'

theorem postRes_sameUpTo (r : ResView) (prepath : GoString) (fields : List GoString)
    (relData : GoMap (List GoString)) : SameUpTo r (postRes r prepath fields relData) := by
  unfold postRes
  cases hf : relsFold r prepath fields relData with
  | ok s =>
    rw [relsFold_ok hf]
    exact (relFoldP_inv _ _ _ _ _ (SameUpTo.refl r)).1
  | err => exact SameUpTo.refl r
  | panic => exact SameUpTo.refl r

/-- **What a successful `marshalResource` returns, for every resource**: a resource object whose
attribute members encode values of the resource and whose relationship members are relationship
objects of the specification; the resource is left as `postRes` says. -/
theorem marshalResource_ok {r : ResView} {prepath : GoString} {fields : List GoString}
    {relData : GoMap (List GoString)} {rmeta : Meta} {j : Json} {r' : ResView}
    (h : marshalResource r prepath fields relData rmeta = .ok (j, r')) :
    (∃ attrs rels, j = .obj (sortMembers (resTop r prepath attrs rels rmeta)) ∧
      (∀ q ∈ attrs, ∃ n, q = (n, encodeAttr (r.get n))) ∧
      (∀ q ∈ rels, ∃ rel w, q = (rel.fromName, Spec.relObject r prepath rel w))) ∧
    r' = postRes r prepath fields relData := by
  rw [marshalResource_eq_fold] at h
  unfold postRes
  cases hf : relsFold r prepath fields relData with
  | ok s =>
    rw [hf] at h
    cases h
    refine ⟨⟨_, _, rfl, ?_, fun q hq => ?_⟩, rfl⟩
    · refine fold_inv' _ (fun (m : List (GoString × Json)) _ => ∀ q ∈ m, ∃ n, q = (n, encodeAttr (r.get n)))
        (fun m a _ hm => ?_) _ _ (fun _ h => by cases h)
      split
      · intro q hq
        rcases GoMap.mem_set hq with hq | rfl
        · exact hm q hq
        · exact ⟨_, rfl⟩
      · exact hm
    · rw [relsFold_ok hf] at hq
      exact ((relFoldP_inv _ _ _ _ _ (SameUpTo.refl r)).2 q hq).resolve_left (fun h => by cases h)
  | err => rw [hf] at h; cases h
  | panic => rw [hf] at h; cases h

/-! ### on the domain: the object of the specification -/

theorem attrs_fold (r : ResView) (fields : List GoString) (l : GoMap Attr) :
    ∀ (acc : List (GoString × Json)), (GoMap.keys acc ++ l.map (·.2.name)).Nodup →
    l.foldl (fun m p => if fields.contains p.2.name then
        GoMap.set m p.2.name (encodeAttr (r.get p.2.name)) else m) acc
    = acc ++ ((GoMap.vals l).filter (fun a => fields.contains a.name)).map
        (fun a => (a.name, encodeAttr (r.get a.name))) := by
  induction l with
  | nil => intro acc _; simp [GoMap.vals]
  | cons p l ih =>
    intro acc hnd
    simp only [List.foldl_cons]
    simp only [List.map_cons] at hnd
    obtain ⟨hnot, -, hnd'⟩ := nodup_mid.1 hnd
    by_cases hc : fields.contains p.2.name = true
    · have hc' : p.2.name ∈ fields := by simpa using hc
      simp only [hc, if_true]
      rw [GoMap.set_of_not_mem _ _ _ hnot, ih]
      · simp [GoMap.vals, hc']
      · rw [keys_append]
        simpa [GoMap.keys, List.append_assoc] using hnd
    · have hc' : p.2.name ∉ fields := by simpa using hc
      rw [if_neg hc, ih _ hnd']
      simp [GoMap.vals, hc']

/-- on the domain an iteration of the relationships loop succeeds, whatever order the ID lists
have been brought into -/
theorem relStep_succeeds {r r0 : ResView} (hr : r.keyedWf) (hs : SameUpTo r r0)
    (prepath : GoString) (fields want : List GoString) (m : List (GoString × Json))
    {q : GoString × Rel} (hq : q ∈ r.rels) :
    ∃ s', relStep prepath fields want (.ok (m, r0)) q = .ok s' := by
  unfold relStep
  by_cases hc : fields.contains q.2.fromName = true
  · simp only [hc, if_true]
    rcases wf_rel_val hr (List.mem_map_of_mem (f := (·.2)) hq) with ⟨hone, id, hv⟩ | ⟨hmany, ids, hv⟩
    · have hv0 : r0.get q.2.fromName = .val .string (.s id) := by
        rcases hs.2.2.2.2 q.2.fromName with e | ⟨l, e1, _⟩
        · rw [e, hv]
        · rw [hv] at e1; cases e1
      rw [marshalRel_toOne prepath hone hv0]
      exact ⟨_, rfl⟩
    · obtain ⟨ids0, hv0⟩ : ∃ ids0, r0.get q.2.fromName = .strs ids0 := by
        rcases hs.2.2.2.2 q.2.fromName with e | ⟨l, _, e2⟩
        · exact ⟨ids, by rw [e, hv]⟩
        · exact ⟨_, e2⟩
      rw [marshalRel_toMany prepath hmany hv0]
      cases want.contains q.2.fromName <;> exact ⟨_, rfl⟩
  · simp only [hc]
    exact ⟨_, rfl⟩

theorem rels_fold {r : ResView} (hr : r.keyedWf) (prepath : GoString) (fields want : List GoString) :
    ∀ (l : List (GoString × Rel)) (m : List (GoString × Json)) (r0 : ResView),
      (∀ q ∈ l, q ∈ r.rels) → (GoMap.keys m ++ l.map (·.2.fromName)).Nodup → SameUpTo r r0 →
      ∃ r1, l.foldl (relStep prepath fields want) (.ok (m, r0)) =
        .ok (m ++ relMembers r prepath fields want l, r1) := by
  intro l
  induction l with
  | nil => intro m r0 _ _ _; exact ⟨r0, by simp [relMembers, GoMap.vals]⟩
  | cons q l ih =>
    intro m r0 hmem hnd hs
    obtain ⟨s', hstep⟩ := relStep_succeeds hr hs prepath fields want m (hmem q List.mem_cons_self)
    have hs' := relStep_ok hstep
    have hsame : SameUpTo r s'.2 := by
      rw [hs']; exact (relFoldP_inv prepath fields want [q] (m, r0) hs).1
    rw [List.foldl_cons, hstep]
    simp only [List.map_cons] at hnd
    obtain ⟨hnot, -, hnd'⟩ := nodup_mid.1 hnd
    have hm : s'.1 ++ relMembers r prepath fields want l =
        m ++ relMembers r prepath fields want (q :: l) ∧
        (GoMap.keys s'.1 ++ l.map (·.2.fromName)).Nodup := by
      rw [hs']
      unfold relStepP
      by_cases hc : fields.contains q.2.fromName = true
      · have hc' : q.2.fromName ∈ fields := by simpa using hc
        simp only [hc, if_true]
        rw [GoMap.set_of_not_mem _ _ _ hnot, hs.relObject]
        constructor
        · simp [relMembers, GoMap.vals, hc']
        · rw [keys_append]
          simpa [GoMap.keys, List.append_assoc] using hnd
      · have hc' : q.2.fromName ∉ fields := by simpa using hc
        rw [if_neg hc]
        exact ⟨by simp [relMembers, GoMap.vals, hc'], hnd'⟩
    obtain ⟨r1, h1⟩ := ih s'.1 s'.2 (fun x hx => hmem x (List.mem_cons_of_mem _ hx)) hm.2 hsame
    exact ⟨r1, by rw [h1, hm.1]⟩

theorem marshalResource_eq (r : ResView) (hr : r.keyedWf) (prepath : GoString)
    (fields : List GoString) (relData : GoMap (List GoString)) (rmeta : Meta) :
    ∃ r', marshalResource r prepath fields relData rmeta =
        .ok (Spec.resourceObject r prepath fields relData rmeta, r') ∧ SameUpTo r r' := by
  obtain ⟨r1, h1⟩ := rels_fold hr prepath fields (wantOf r relData) r.rels [] r (fun _ h => h)
    (by simpa [GoMap.keys, GoMap.vals, Function.comp_def] using rel_names_nodup hr) (SameUpTo.refl r)
  have hm : marshalResource r prepath fields relData rmeta =
      .ok (Spec.resourceObject r prepath fields relData rmeta, r1) := by
    rw [marshalResource_eq_fold]
    unfold relsFold
    rw [show (relData.get? r.typeName).getD [] = wantOf r relData from rfl, h1]
    unfold resJson
    rw [attrs_fold r fields r.attrs [] (by simpa [GoMap.keys, GoMap.vals, Function.comp_def] using attr_names_nodup hr)]
    rfl
  exact ⟨r1, hm, (marshalResource_ok hm).2 ▸ postRes_sameUpTo r prepath fields relData⟩

/-! ### the loop over resources -/

abbrev ColAcc := Res (List Json × List ResView)

/-- one iteration of the loops over resources (`marshalCollection`, included resources) -/
def resStep (prepath : GoString) (fields relData : GoMap (List GoString)) (acc : ColAcc)
    (r : ResView) : ColAcc :=
  match acc with
  | .ok (js, rs) =>
    (match marshalResource r prepath ((fields.get? r.typeName).getD []) relData with
      | .ok (j, r') => .ok (js ++ [j], rs ++ [r'])
      | .err => .err
      | .panic => .panic)
  | e => e

/-- the object `marshalResource` writes for `r` under the selection of its type (null when it
fails) -/
def objOf (prepath : GoString) (fields relData : GoMap (List GoString)) (r : ResView) : Json :=
  match marshalResource r prepath ((fields.get? r.typeName).getD []) relData with
  | .ok (j, _) => j
  | _ => .null

/-- the resource after `marshalResource` under the selection of its type -/
abbrev postOf (prepath : GoString) (fields relData : GoMap (List GoString)) (r : ResView) :
    ResView :=
  postRes r prepath ((fields.get? r.typeName).getD []) relData

def Marshals (prepath : GoString) (fields relData : GoMap (List GoString)) (r : ResView) : Prop :=
  marshalResource r prepath ((fields.get? r.typeName).getD []) relData =
    .ok (objOf prepath fields relData r, postOf prepath fields relData r)

theorem marshals_iff {prepath : GoString} {fields relData : GoMap (List GoString)} {r : ResView}
    {o : Json × ResView} :
    marshalResource r prepath ((fields.get? r.typeName).getD []) relData = .ok o ↔
      Marshals prepath fields relData r ∧
      o = (objOf prepath fields relData r, postOf prepath fields relData r) := by
  refine ⟨fun h => ?_, fun h => h.2 ▸ h.1⟩
  obtain ⟨j, r'⟩ := o
  have e := (marshalResource_ok h).2
  subst e
  have : objOf prepath fields relData r = j := by unfold objOf; rw [h]
  rw [← this] at h
  exact ⟨h, by rw [this]⟩

theorem foldl_snoc_pair {α β γ : Type} (g : α → β) (h : α → γ) (l : List α) :
    ∀ (x : List β) (y : List γ),
      l.foldl (fun s a => (s.1 ++ [g a], s.2 ++ [h a])) (x, y) = (x ++ l.map g, y ++ l.map h) := by
  induction l with
  | nil => intro x y; simp
  | cons a l ih => intro x y; simp [ih]

theorem resStep_eq (prepath : GoString) (fields relData : GoMap (List GoString))
    (js : List Json) (rs : List ResView) (r : ResView) :
    resStep prepath fields relData (.ok (js, rs)) r =
      (marshalResource r prepath ((fields.get? r.typeName).getD []) relData).bind
        (fun (j, r') => .ok (js ++ [j], rs ++ [r'])) := by
  unfold resStep
  cases marshalResource r prepath ((fields.get? r.typeName).getD []) relData <;> rfl

theorem resFold_ok {prepath : GoString} {fields relData : GoMap (List GoString)}
    {l : List ResView} {js0 js : List Json} {rs0 rs : List ResView} :
    l.foldl (resStep prepath fields relData) (.ok (js0, rs0)) = .ok (js, rs) ↔
      (∀ r ∈ l, Marshals prepath fields relData r) ∧
      js = js0 ++ l.map (objOf prepath fields relData) ∧
      rs = rs0 ++ l.map (postOf prepath fields relData) := by
  constructor
  · intro h
    have hF : ∀ (s : List Json × List ResView) a s', resStep prepath fields relData (.ok s) a = .ok s' →
        s' = (s.1 ++ [objOf prepath fields relData a], s.2 ++ [postOf prepath fields relData a]) ∧
        Marshals prepath fields relData a := by
      rintro ⟨js, rs⟩ a s' hs
      rw [resStep_eq, bind_eq_ok] at hs
      obtain ⟨o, hm, hs⟩ := hs
      obtain ⟨hmar, rfl⟩ := marshals_iff.1 hm
      cases hs
      exact ⟨rfl, hmar⟩
    obtain ⟨e, hq⟩ := foldl_ok (fun _ => rfl) (fun _ => rfl) hF l _ _ h
    rw [foldl_snoc_pair] at e
    cases e
    exact ⟨hq, rfl, rfl⟩
  · rintro ⟨hm, rfl, rfl⟩
    induction l generalizing js0 rs0 with
    | nil => simp
    | cons a l ih =>
      rw [List.foldl_cons, resStep_eq, hm a List.mem_cons_self]
      show l.foldl _ (Res.ok _) = _
      rw [ih (fun r hr => hm r (List.mem_cons_of_mem _ hr))]
      simp

theorem marshalCollection_eq_fold (c : List ResView) (prepath : GoString)
    (fields relData : GoMap (List GoString)) :
    marshalCollection c prepath fields relData =
      (c.foldl (resStep prepath fields relData) (.ok ([], []))).bind
        (fun (js, rs) => .ok (.arr js, rs)) := by
  show (match c.foldl (resStep prepath fields relData) (.ok ([], [])) with
    | .ok (js, rs) => Res.ok (Json.arr js, rs) | .err => .err | .panic => .panic) = _
  cases c.foldl (resStep prepath fields relData) (.ok ([], [])) <;> rfl

theorem marshalCollection_ok {c : List ResView} {prepath : GoString}
    {fields relData : GoMap (List GoString)} {j : Json} {c' : List ResView} :
    marshalCollection c prepath fields relData = .ok (j, c') ↔
      (∀ r ∈ c, Marshals prepath fields relData r) ∧
      j = .arr (c.map (objOf prepath fields relData)) ∧
      c' = c.map (postOf prepath fields relData) := by
  rw [marshalCollection_eq_fold, bind_eq_ok]
  constructor
  · rintro ⟨⟨js, rs⟩, hf, he⟩
    obtain ⟨hm, rfl, rfl⟩ := resFold_ok.1 hf
    cases he
    exact ⟨hm, rfl, rfl⟩
  · rintro ⟨hm, rfl, rfl⟩
    exact ⟨_, resFold_ok.2 ⟨hm, rfl, rfl⟩, rfl⟩

theorem marshals_of_keyedWf {r : ResView} (hr : r.keyedWf) (prepath : GoString)
    (fields relData : GoMap (List GoString)) :
    Marshals prepath fields relData r ∧
    objOf prepath fields relData r =
      Spec.resourceObject r prepath (Spec.selection fields r.typeName) relData := by
  obtain ⟨r', h, -⟩ := marshalResource_eq r hr prepath ((fields.get? r.typeName).getD []) relData []
  obtain ⟨hm, e⟩ := marshals_iff.1 h
  exact ⟨hm, (congrArg Prod.fst e).symm⟩

/-! ### documents -/

/-- the primary data of `marshalDocument`: the `data` member (if any) and the data afterwards -/
def docData (doc : Document) (fields : GoMap (List GoString)) : Res (Option Json × DocData) :=
  match doc.data with
  | .res r =>
    (match marshalResource r doc.prePath ((fields.get? r.typeName).getD []) doc.relData with
      | .ok (j, r') => .ok (some j, .res r')
      | .err => .err | .panic => .panic)
  | .col tn ms =>
    (match marshalCollection ms doc.prePath fields doc.relData with
      | .ok (j, ms') => .ok (some j, .col tn ms')
      | .err => .err | .panic => .panic)
  | .ident id typ => .ok (some (identifierJson id typ), doc.data)
  | .idents _ l => .ok (some (.arr (l.map (fun p => identifierJson p.1 p.2))), doc.data)
  | .other => if doc.errors.isEmpty then .err else .ok (none, doc.data)
  | .none => .ok (if doc.errors.isEmpty then some .null else none, doc.data)

/-- the included resources of `marshalDocument`, given its `data` member -/
def docInc (doc : Document) (fields : GoMap (List GoString)) (data : Option Json) : ColAcc :=
  let incSorted := if doc.included.isEmpty then [] else sortById doc.included
  if incSorted.isEmpty ∨ data.isNone then .ok ([], incSorted)
  else incSorted.foldl (resStep doc.prePath fields doc.relData) (.ok ([], []))

theorem marshalDocument_eq_parts (doc : Document) (fields : GoMap (List GoString)) (s : GoString) :
    marshalDocument doc fields s =
      match docData doc fields with
      | .ok (data, data') =>
        (match docInc doc fields data with
          | .ok (incs, incs') =>
            .ok (.obj (sortMembers (shapeMembers doc s (bodyOf
                (if doc.errors.isEmpty then none else some (.arr (doc.errors.map ErrorObj.toJson)))
                data incs))),
              { doc with data := data', included := incs' })
          | .err => .err
          | .panic => .panic)
      | .err => .err
      | .panic => .panic := rfl

/-- the object `marshalResource` writes for a resource of the document -/
abbrev docObj (doc : Document) (fields : GoMap (List GoString)) : ResView → Json :=
  objOf doc.prePath fields doc.relData

abbrev DocMarshals (doc : Document) (fields : GoMap (List GoString)) : ResView → Prop :=
  Marshals doc.prePath fields doc.relData

theorem dataWith_isNone (g : ResView → Json) (doc : Document) :
    (dataWith g doc).isNone = noData doc := by
  unfold dataWith noData
  cases doc.data <;> cases doc.errors.isEmpty <;> rfl

theorem docData_ok {doc : Document} {fields : GoMap (List GoString)} {data : Option Json}
    {data' : DocData} :
    docData doc fields = .ok (data, data') ↔
      (∀ r ∈ docPrimary doc, DocMarshals doc fields r) ∧
      ¬ (DetL.isOther doc.data = true ∧ doc.errors.isEmpty = true) ∧
      data = dataWith (docObj doc fields) doc ∧ data' = DetL.mapRes (postR doc fields) doc.data := by
  unfold docData dataWith docPrimary
  cases hd : doc.data with
  | res r =>
    simp only [DetL.isOther, DetL.mapRes, List.mem_singleton, forall_eq, Bool.false_eq_true,
      false_and, not_false_eq_true, true_and]
    cases hm : marshalResource r doc.prePath ((fields.get? r.typeName).getD []) doc.relData with
    | ok o =>
      obtain ⟨h1, rfl⟩ := marshals_iff.1 hm
      simp only [ok_pair_iff, h1, true_and]
      rfl
    | err => exact ⟨(fun h => nomatch h), fun h => nomatch hm.symm.trans h.1⟩
    | panic => exact ⟨(fun h => nomatch h), fun h => nomatch hm.symm.trans h.1⟩
  | col tn ms =>
    simp only [DetL.isOther, DetL.mapRes, Bool.false_eq_true, false_and, not_false_eq_true,
      true_and]
    cases hm : marshalCollection ms doc.prePath fields doc.relData with
    | ok o =>
      obtain ⟨j, ms'⟩ := o
      obtain ⟨h1, rfl, rfl⟩ := marshalCollection_ok.1 hm
      simp only [ok_pair_iff]
      exact ⟨fun h => ⟨h1, h⟩, fun h => h.2⟩
    | err =>
      refine ⟨(fun h => nomatch h), fun h => ?_⟩
      rw [marshalCollection_ok.2 ⟨h.1, rfl, rfl⟩] at hm
      cases hm
    | panic =>
      refine ⟨(fun h => nomatch h), fun h => ?_⟩
      rw [marshalCollection_ok.2 ⟨h.1, rfl, rfl⟩] at hm
      cases hm
  | other =>
    cases doc.errors.isEmpty <;> simp only [Bool.false_eq_true, if_false, if_true, ok_pair_iff] <;>
      simp [DetL.isOther, DetL.mapRes]
  | _ => simp only [ok_pair_iff]; simp [DetL.isOther, DetL.mapRes]

theorem docInc_ok {doc : Document} {fields : GoMap (List GoString)} {data : Option Json}
    {incs : List Json} {incs' : List ResView} :
    docInc doc fields data = .ok (incs, incs') ↔
      (data.isNone = false → ∀ r ∈ doc.included, DocMarshals doc fields r) ∧
      incs = (if data.isNone then [] else (sortById doc.included).map (docObj doc fields)) ∧
      incs' = (if data.isNone then sortById doc.included
               else (sortById doc.included).map (postR doc fields)) := by
  have hs : (if doc.included.isEmpty then [] else sortById doc.included) = sortById doc.included := by
    cases doc.included <;> rfl
  unfold docInc
  rw [hs]
  cases hn : data.isNone
  · by_cases he : (sortById doc.included).isEmpty = true
    · have he' := List.isEmpty_iff.1 he
      rw [if_pos (Or.inl he), ok_pair_iff, he']
      simp [(sortById_eq_nil _).1 he']
    · simp only [he, Bool.false_eq_true, or_self, if_false, resFold_ok, List.nil_append,
        forall_const]
      exact and_congr_left' ⟨fun h r hr => h r ((sortById_perm _).mem_iff.2 hr),
        fun h r hr => h r ((sortById_perm _).mem_iff.1 hr)⟩
  · rw [if_pos (Or.inr rfl), ok_pair_iff]
    simp

/-- **What a successful `marshalDocument` returns, for every document**: it succeeds iff the
resources of the primary data marshal, the included ones do when there is a `data` member, and
the data is not of an unknown type in a document without errors. The tree is then the tree of the
specification with, for each resource, the object `marshalResource` writes for it; the document
is left as `postDoc` says. -/
theorem marshalDocument_ok {doc : Document} {fields : GoMap (List GoString)} {s : GoString}
    {t : Json} {doc' : Document} :
    marshalDocument doc fields s = .ok (t, doc') ↔
      (∀ r ∈ docPrimary doc, DocMarshals doc fields r) ∧
      (noData doc = false → ∀ r ∈ doc.included, DocMarshals doc fields r) ∧
      ¬ (DetL.isOther doc.data = true ∧ doc.errors.isEmpty = true) ∧
      t = .obj (sortMembers (shapeMembers doc s (bodyWith (docObj doc fields) doc))) ∧
      doc' = postDoc doc fields := by
  have hbody : bodyOf
      (if doc.errors.isEmpty then none else some (.arr (doc.errors.map ErrorObj.toJson)))
      (dataWith (docObj doc fields) doc)
      (if noData doc then [] else (sortById doc.included).map (docObj doc fields)) =
      bodyWith (docObj doc fields) doc := by
    unfold bodyWith bodyOf
    have := dataWith_isNone (docObj doc fields) doc
    cases doc.errors.isEmpty <;> cases hd : dataWith (docObj doc fields) doc <;>
      rw [hd] at this <;> simp [← this]
  rw [marshalDocument_eq_parts]
  constructor
  · intro h
    cases hd : docData doc fields with
    | ok d =>
      obtain ⟨data, data'⟩ := d
      obtain ⟨h1, h2, rfl, rfl⟩ := docData_ok.1 hd
      simp only [hd] at h
      cases hi : docInc doc fields (dataWith (docObj doc fields) doc) with
      | ok i =>
        obtain ⟨incs, incs'⟩ := i
        obtain ⟨h3, rfl, rfl⟩ := docInc_ok.1 hi
        rw [dataWith_isNone] at h3
        simp only [hi, ok_pair_iff, dataWith_isNone, hbody] at h
        exact ⟨h1, h3, h2, h.1, h.2⟩
      | err => simp only [hi] at h; cases h
      | panic => simp only [hi] at h; cases h
    | err => simp only [hd] at h; cases h
    | panic => simp only [hd] at h; cases h
  · rintro ⟨h1, h3, h2, rfl, rfl⟩
    rw [← dataWith_isNone (docObj doc fields)] at h3
    simp only [docData_ok.2 ⟨h1, h2, rfl, rfl⟩, docInc_ok.2 ⟨h3, rfl, rfl⟩, dataWith_isNone, hbody]
    rfl

theorem marshalDocument_post {d : Document} {f : GoMap (List GoString)} {s : GoString} {t : Json}
    {d' : Document} (h : marshalDocument d f s = .ok (t, d')) : d' = postDoc d f :=
  (marshalDocument_ok.1 h).2.2.2.2

/-- data of an unknown type in a document without errors: the one failure on the domain -/
theorem marshalDocument_other {doc : Document} (fields : GoMap (List GoString)) (s : GoString)
    (h : (DetL.isOther doc.data && doc.errors.isEmpty) = true) :
    marshalDocument doc fields s = .err := by
  rw [marshalDocument_eq_parts]
  unfold docData
  rw [Bool.and_eq_true] at h
  cases hd : doc.data <;> rw [hd] at h <;> simp [DetL.isOther] at h
  simp [h]

/-- On the domain `marshalDocument` returns the tree of the specification, or fails where the
specification has none. -/
theorem marshalDocument_eq' (doc : Document) (hdom : ∀ r ∈ docResources doc, r.keyedWf)
    (fields : GoMap (List GoString)) (selfHref : GoString) :
    ∃ doc', marshalDocument doc fields selfHref =
      match Spec.documentTree doc fields selfHref with
      | some t => .ok (t, doc')
      | none => .err := by
  have hm := fun r hr => marshals_of_keyedWf (hdom r hr) doc.prePath fields doc.relData
  refine ⟨postDoc doc fields, ?_⟩
  rw [documentTree_eq]
  by_cases hc : (DetL.isOther doc.data && doc.errors.isEmpty) = true
  · rw [if_pos hc, marshalDocument_other fields selfHref hc]
  · rw [if_neg hc]
    refine marshalDocument_ok.2 ⟨fun r hr => (hm r (List.mem_append_left _ hr)).1,
      fun _ r hr => (hm r (List.mem_append_right _ hr)).1, by simpa using hc, ?_, rfl⟩
    rw [docBody_eq, bodyWith_congr (fun r hr => (hm r hr).2)]

theorem documentTree_of_ok {doc : Document} (hdom : ∀ r ∈ docResources doc, r.keyedWf)
    {fields : GoMap (List GoString)} {s : GoString} {t : Json} {doc' : Document}
    (h : marshalDocument doc fields s = .ok (t, doc')) : Spec.documentTree doc fields s = some t := by
  obtain ⟨d0, h0⟩ := marshalDocument_eq' doc hdom fields s
  rw [h] at h0
  cases hs : Spec.documentTree doc fields s <;> rw [hs] at h0 <;> cases h0
  rfl

end MarshalL
end Jsonapi
