/-
Lemmas for Props/GenC14b: the loop shapes the translator (harness/cmd/translate) produces for
the receiver-mutating methods of the schema editing API, related to the list functions the
hand-written model uses.
-/
import Jsonapi.Proofs.C14Lemmas
namespace Jsonapi
open Schema GoMap

namespace GenC14b

/-! ### `for k, v := range m { if p v { delete(m, n) } }` -/

/-- One step of the loop as the translator renders it: the entry is looked at only if its key
is still in the map. The map is a field (`get`, `put`) of the state. -/
def delStep {σ β : Type} (get : σ → GoMap β) (put : σ → GoMap β → σ) (p : β → Bool) (n : GoString)
    (s : σ) (e : GoString × β) : σ :=
  if GoMap.has (get s) e.1 then (if p e.2 then put s (GoMap.del (get s) n) else s) else s

theorem delLoop {σ β : Type} (get : σ → GoMap β) (put : σ → GoMap β → σ)
    (hgp : ∀ s m, get (put s m) = m) (hpp : ∀ s m m', put (put s m) m' = put s m')
    (p : β → Bool) (n : GoString) (l : GoMap β) (s : σ) (hl : ∀ e ∈ l, e ∈ get s) :
    l.foldl (delStep get put p n) s
      = if l.any (fun e => p e.2) then put s (GoMap.del (get s) n) else s := by
  have del_del : GoMap.del (GoMap.del (get s) n) n = GoMap.del (get s) n := by
    unfold GoMap.del; rw [List.filter_filter]; simp only [Bool.and_self]
  induction l with
  | nil => rfl
  | cons e l ih =>
    rw [List.foldl_cons, List.any_cons, delStep,
      has_iff_mem_keys.2 (mem_keys_of_mem (hl e List.mem_cons_self)), if_pos rfl]
    cases p e.2
    · exact ih fun e' he' => hl e' (List.mem_cons_of_mem _ he')
    · exact foldl_fix (delStep get put p n) (put s (GoMap.del (get s) n))
        (fun e => by simp only [delStep, hgp, hpp, del_del, ite_self]) l

/-! ### `for i := range xs { if p xs[i] { … return } }` -/

theorem find?_range_getD {α} (p : α → Bool) (d : α) (l : List α) :
    (List.range l.length).find? (fun i => p (l.getD i d)) = l.findIdx? p := by
  induction l with
  | nil => rfl
  | cons a l ih =>
    rw [List.length_cons, List.range_succ_eq_map, List.find?_cons, List.find?_map, List.findIdx?_cons,
      ← ih, List.getD_cons_zero]
    cases p a <;> rfl

theorem eraseFirst_eq_findIdx? {α} (p : α → Bool) (l : List α) :
    eraseFirst p l = match l.findIdx? p with
      | some i => l.take i ++ l.drop (i + 1)
      | none => l := by
  rw [eraseFirst_eq_eraseP, List.eraseP_eq_eraseIdx]
  cases l.findIdx? p <;> simp only [List.eraseIdx_eq_take_drop_succ]

/-! ### `for i := range xs { if p xs[i] { xs[i].M() } }` -/

/-- The loop as the translator renders it (a fold over the indices that reads and writes the
current state) is a map over the elements. `pre`: the part already gone through. -/
theorem foldRange (p : Typ → Bool) (f : Typ → Typ) (l pre : List Typ) :
    (List.range' pre.length l.length).foldl (fun (s : Schema) i =>
        if p (s.types.getD i Typ.empty) then { s with types := s.types.set i (f (s.types.getD i Typ.empty)) } else s)
      ({ types := pre ++ l } : Schema)
      = { types := pre ++ l.map (fun t => if p t then f t else t) } := by
  induction l generalizing pre with
  | nil => simp
  | cons a l ih =>
    have := ih (pre ++ [if p a then f a else a])
    simp only [List.length_append, List.length_singleton, List.append_assoc, List.singleton_append] at this
    rw [List.length_cons, List.range'_succ, List.foldl_cons, List.map_cons, ← this, getD_append_at, set_append_at]
    cases p a <;> rfl

/-! ### `AddTwoWayRel`: index variables set in a loop, then used -/

theorem foldl_prod {α β γ : Type} (F : α × β → γ → α × β) (g₁ : α → γ → α) (g₂ : β → γ → β)
    (hF : ∀ a b e, F (a, b) e = (g₁ a e, g₂ b e)) (l : List γ) (a : α) (b : β) :
    l.foldl F (a, b) = (l.foldl g₁ a, l.foldl g₂ b) := by
  induction l generalizing a b with
  | nil => rfl
  | cons x l ih => rw [List.foldl_cons, hF, ih]; rfl

/-- the index variable of `v := -1; for i := range xs { if xs[i].Name == n { v = i } }` -/
def idx (l : List Typ) (n : GoString) : Int :=
  (List.range l.length).foldl (fun acc i => if decide ((l.getD i Typ.empty).name = n) then Int.ofNat i else acc) (-1)

theorem idx_aux (n : GoString) (l : List Typ) (g : Nat → Int) (acc : Int) :
    let v := (List.range l.length).foldl
      (fun acc i => if decide ((l.getD i Typ.empty).name = n) then g i else acc) acc
    (v = acc ∧ n ∉ l.map (·.name)) ∨ ∃ j, v = g j ∧ (l.map (·.name))[j]? = some n := by
  intro v
  revert v
  induction l generalizing g acc with
  | nil => exact .inl ⟨rfl, List.not_mem_nil⟩
  | cons a l ih =>
    rw [List.length_cons, List.range_succ_eq_map, List.foldl_cons, List.foldl_map]
    rcases ih (fun i => g (i + 1)) (if decide (a.name = n) then g 0 else acc) with ⟨e, hn⟩ | ⟨j, e, hj⟩
    · by_cases ha : a.name = n
      · exact .inr ⟨0, e.trans (by simp [ha]), by simp [ha]⟩
      · refine .inl ⟨e.trans (by simp [ha]), ?_⟩
        rw [List.map_cons, List.mem_cons, not_or]
        exact ⟨fun h => ha h.symm, hn⟩
    · exact .inr ⟨j + 1, e, hj⟩

theorem idx_spec (l : List Typ) (n : GoString) :
    (idx l n = -1 ∧ n ∉ l.map (·.name)) ∨ ∃ j : Nat, idx l n = Int.ofNat j ∧ (l.map (·.name))[j]? = some n :=
  idx_aux n l Int.ofNat (-1)

theorem names_twUndo (s : Schema) (x : Rel) : (twUndo s x).types.map (·.name) = s.types.map (·.name) :=
  mapNamed_names x.fromType (fun t => t.removeRel x.fromName) (fun t => Typ.removeRel_name t _) s.types

/-- `if i >= 0 { s.Types[i] = g(s.Types[i]) }` -/
def applyAt (s : Schema) (i : Int) (g : Typ → Typ) : Schema :=
  if 0 ≤ i then { types := s.types.set i.toNat (g (s.types.getD i.toNat Typ.empty)) } else s

/-- `if i >= 0 { err = s.Types[i].AddRel(x) }`, `err` being nil before -/
def resAt (add : Typ → Rel → Typ × Res Unit) (s : Schema) (i : Int) (x : Rel) : Res Unit :=
  if 0 ≤ i then (add (s.types.getD i.toNat Typ.empty) x).2 else .ok ()

/-- schema.go `AddTwoWayRel` after its loop, as a function of the two index variables and of the
two methods of `Type` it calls. The two tests of `err` are Booleans, as the translator writes
them, so that the translated function unfolds to this one. -/
def twoWayAt (add : Typ → Rel → Typ × Res Unit) (rem : Typ → GoString → Typ) (s : Schema)
    (i1 i2 : Int) (x y : Rel) : Schema × Res Unit :=
  let s1 := applyAt s i1 (fun t => (add t x).1)
  if decide (resAt add s i1 x ≠ .ok ()) then (s1, resAt add s i1 x)
  else
    let s2 := applyAt s1 i2 (fun t => (add t y).1)
    if decide (resAt add s1 i2 y ≠ .ok ()) then
      (applyAt s2 i1 (fun t => rem t x.fromName), resAt add s1 i2 y)
    else if 0 ≤ i1 ∧ 0 ≤ i2 then (s2, .ok ())
    else (applyAt (applyAt s2 i1 (fun t => rem t x.fromName)) i2 (fun t => rem t y.fromName), .err)

theorem twoWayAt_no_panic {add : Typ → Rel → Typ × Res Unit} (h : ∀ t x, (add t x).2 ≠ .panic)
    (rem : Typ → GoString → Typ) (s : Schema) (i1 i2 : Int) (x y : Rel) :
    (twoWayAt add rem s i1 i2 x y).2 ≠ .panic := by
  have ite : ∀ (c : Prop) [Decidable c] (a b : Res Unit), a ≠ .panic → b ≠ .panic →
      (if c then a else b) ≠ .panic := by
    intro c _ a b ha hb; split <;> assumption
  have hr : ∀ s i x, resAt add s i x ≠ .panic := fun s i x => ite _ _ _ (h _ _) nofun
  simp only [twoWayAt, apply_ite Prod.snd]
  exact ite _ _ _ (hr _ _ _) (ite _ _ _ (hr _ _ _) (ite _ _ _ nofun nofun))

section
variable {s : Schema} {l : List Typ} (hl : s.types.map (·.name) = l.map (·.name))
  (hnd : (l.map (·.name)).Nodup)
include hl hnd

theorem applyAt_idx (n : GoString) (g : Typ → Typ) :
    applyAt s (idx l n) g = { types := mapNamed n g s.types } := by
  rcases idx_spec l n with ⟨e, hn⟩ | ⟨j, e, hj⟩
  · rw [e, mapNamed_absent _ _ _ (hl ▸ hn)]; rfl
  · rw [e, ← ((at_name s.types j n (hl ▸ hnd) (hl ▸ hj)).2 g)]; rfl

theorem applyAt_add (x : Rel) :
    applyAt s (idx l x.fromType) (fun t => (t.addRel x).1) = twAdd s x :=
  applyAt_idx hl hnd _ _

theorem applyAt_undo (x : Rel) :
    applyAt s (idx l x.fromType) (fun t => t.removeRel x.fromName) = twUndo s x :=
  applyAt_idx hl hnd _ _

theorem resAt_idx (x : Rel) : resAt Typ.addRel s (idx l x.fromType) x = twRes s x := by
  unfold twRes
  rcases idx_spec l x.fromType with ⟨e, hn⟩ | ⟨j, e, hj⟩
  · rw [e, if_neg (fun h => hn (hl ▸ (hasType_iff s _).1 h))]; rfl
  · rw [e, if_pos ((hasType_iff s _).2 (hl ▸ List.mem_of_getElem? hj)),
      ← (at_name s.types j _ (hl ▸ hnd) (hl ▸ hj)).1]; rfl

end

theorem idx_nonneg_iff (s : Schema) (n : GoString) : 0 ≤ idx s.types n ↔ s.hasType n = true := by
  rw [hasType_iff]
  rcases idx_spec s.types n with ⟨e, hn⟩ | ⟨j, e, hj⟩
  · rw [e]; exact ⟨fun h => absurd h (by decide), fun h => absurd h hn⟩
  · rw [e]; exact ⟨fun _ => List.mem_of_getElem? hj, fun _ => Int.natCast_nonneg j⟩

theorem twoWayAt_idx (s : Schema) (hnd : (s.types.map (·.name)).Nodup) (r : Rel) :
    twoWayAt Typ.addRel Typ.removeRel s (idx s.types r.normalize.fromType)
      (idx s.types r.normalize.invert.fromType) r.normalize r.normalize.invert = s.addTwoWayRel r := by
  simp only [twoWayAt, Schema.addTwoWayRel]
  generalize r.normalize = x
  have h1 := names_twAdd s x
  have h2 := (names_twAdd (twAdd s x) x.invert).trans h1
  rw [applyAt_add rfl hnd, resAt_idx rfl hnd, applyAt_add h1 hnd, resAt_idx h1 hnd,
    applyAt_undo h2 hnd, applyAt_undo ((names_twUndo _ x).trans h2) hnd]
  simp only [decide_eq_true_eq, idx_nonneg_iff, ← Bool.and_eq_true]
  by_cases c1 : twRes s x ≠ .ok ()
  · rw [if_pos c1, if_pos c1, twAdd_err s x hnd c1]
  · rw [if_neg c1, if_neg c1]
    by_cases c2 : twRes (twAdd s x) x.invert ≠ .ok ()
    · rw [if_pos c2, if_pos c2, twAdd_err _ _ (h1 ▸ hnd) c2]
    · rw [if_neg c2, if_neg c2]

end GenC14b
end Jsonapi
