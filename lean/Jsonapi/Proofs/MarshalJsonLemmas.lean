/-
Helper lemmas for C03 ("a successful marshal returns syntactically valid JSON"): every
tree the marshaling builds has well-formed number literals (`Json.numsOk`), provided the
JSON values the caller supplies verbatim (meta objects, error sources) have. With
`JsonL.parseJson_render` this makes the rendered bytes parse back to the tree.

The only numbers the marshaling itself creates come from `printInt` (`encodePay`);
everything else it adds is strings, null, booleans, arrays and objects.
-/
import Jsonapi.Proofs.MarshalLemmas
import Jsonapi.Proofs.JsonTextLemmas
namespace Jsonapi

/-! ### the side condition on the input -/

/-- the JSON values an error object carries verbatim (`source`, `meta`) have well-formed
number literals -/
def ErrorObj.numsOk (e : ErrorObj) : Prop :=
  Json.numsOkMembers e.source = true ∧ Json.numsOkMembers e.emeta = true

def LinkObj.numsOk (l : LinkObj) : Prop := Json.numsOkMembers l.lmeta = true

/-- Every JSON value the caller supplies verbatim to `MarshalDocument` has well-formed
number literals: the document's meta, the meta of each link, each error's source and meta.
(Resource objects carry no meta in a `Document`: `marshalDocument` calls `marshalResource`
with its default `rmeta := []`, as do `Spec.dataMember` / `Spec.documentTree` with
`Spec.resourceObject`; resource-level meta only appears in `C03_valid_json_resource`.) -/
def Document.numsOk (doc : Document) : Prop :=
  Json.numsOkMembers doc.dmeta = true ∧
  (∀ p ∈ doc.links, p.2.numsOk) ∧
  (∀ e ∈ doc.errors, e.numsOk)

instance c03_decErrorNumsOk (e : ErrorObj) : Decidable e.numsOk := by
  unfold ErrorObj.numsOk; exact inferInstance

instance c03_decLinkNumsOk (l : LinkObj) : Decidable l.numsOk := by
  unfold LinkObj.numsOk; exact inferInstance

instance c03_decDocNumsOk (doc : Document) : Decidable doc.numsOk := by
  unfold Document.numsOk; exact inferInstance

namespace MJsonL
open MarshalL

theorem numsOk_obj (ms : List (GoString × Json)) :
    (Json.obj ms).numsOk = true ↔ ∀ p ∈ ms, p.2.numsOk = true := by
  rw [← Json.numsOkMembers_iff]; simp [Json.numsOk]

theorem numsOk_arr (l : List Json) :
    (Json.arr l).numsOk = true ↔ ∀ v ∈ l, v.numsOk = true := by
  rw [← Json.numsOkList_iff]; simp [Json.numsOk]

theorem numsOk_arr_map {α : Type} {g : α → Json} {l : List α}
    (h : ∀ a ∈ l, (g a).numsOk = true) : (Json.arr (l.map g)).numsOk = true := by
  rw [numsOk_arr]
  intro v hv
  obtain ⟨a, ha, rfl⟩ := List.mem_map.1 hv
  exact h a ha

theorem numsOk_str (s : GoString) : (Json.str s).numsOk = true := by simp [Json.numsOk]
theorem numsOk_null : Json.null.numsOk = true := by simp [Json.numsOk]
theorem numsOk_bool (b : Bool) : (Json.bool b).numsOk = true := by simp [Json.numsOk]

theorem numsOk_obj_sort (ms : List (GoString × Json)) :
    (Json.obj (sortMembers ms)).numsOk = true ↔ ∀ p ∈ ms, p.2.numsOk = true := by
  rw [numsOk_obj]
  exact ⟨fun H p hp => H p ((sortMembers_perm ms).mem_iff.2 hp),
    fun H p hp => H p ((sortMembers_perm ms).mem_iff.1 hp)⟩

theorem numsOkMembers_append (a b : List (GoString × Json)) :
    Json.numsOkMembers (a ++ b) = (Json.numsOkMembers a && Json.numsOkMembers b) := by
  rw [Bool.eq_iff_iff, Bool.and_eq_true, Json.numsOkMembers_iff, Json.numsOkMembers_iff, Json.numsOkMembers_iff]
  simp only [List.mem_append]
  exact ⟨fun H => ⟨fun p hp => H p (Or.inl hp), fun p hp => H p (Or.inr hp)⟩,
    fun H p hp => hp.elim (H.1 p) (H.2 p)⟩

theorem numsOk_opt {c : Prop} [Decidable c] {k : GoString} {v : Json} (hv : v.numsOk = true) :
    ∀ p ∈ (if c then [] else [(k, v)]), p.2.numsOk = true := by
  intro p hp
  split at hp
  · cases hp
  · cases List.mem_singleton.1 hp; exact hv

theorem encodePay_numsOk (p : Pay) : (encodePay p).numsOk = true := by
  cases p with
  | i v => simp [encodePay, Json.numsOk, JsonL.printInt_numOk]
  | bs o => cases o <;> simp [encodePay, Json.numsOk]
  | _ => simp [encodePay, Json.numsOk]

theorem encodeVal_numsOk (v : GoVal) : (encodeVal v).numsOk = true := by
  cases v with
  | val k p => exact encodePay_numsOk p
  | ptr k o =>
    cases o with
    | none => simp [encodeVal, Json.numsOk]
    | some p => exact encodePay_numsOk p
  | strs l => exact numsOk_arr_map (fun s _ => numsOk_str s)
  | _ => simp [encodeVal, Json.numsOk]

theorem encodeAttr_numsOk (v : GoVal) : (encodeAttr v).numsOk = true := by
  unfold encodeAttr
  split
  · exact numsOk_str _
  · exact numsOk_str _
  · exact encodeVal_numsOk _

theorem identifierJson_numsOk (id typ : GoString) : (identifierJson id typ).numsOk = true := by
  simp [identifierJson, Json.numsOk, Json.numsOkMembers]

theorem relLinks_numsOk (r : ResView) (prepath rel : GoString) :
    (buildRelationshipLinks r prepath rel).numsOk = true := by
  simp [buildRelationshipLinks, Json.numsOk, Json.numsOkMembers]

theorem relDataJson_numsOk (r : ResView) (rel : Rel) : (Spec.relDataJson r rel).numsOk = true := by
  rcases relDataJson_isLinkage r rel with h | ⟨id, t, h⟩ | ⟨ids, t, h⟩ <;> rw [h]
  · exact numsOk_null
  · exact identifierJson_numsOk ..
  · exact numsOk_arr_map (fun _ _ => identifierJson_numsOk ..)

theorem relObject_numsOk (r : ResView) (prepath : GoString) (rel : Rel) (w : Bool) :
    (Spec.relObject r prepath rel w).numsOk = true := by
  unfold Spec.relObject
  rw [numsOk_obj]
  intro p hp
  rcases List.mem_append.1 hp with hp | hp
  · split at hp
    · cases List.mem_singleton.1 hp; exact relDataJson_numsOk ..
    · cases hp
  · cases List.mem_singleton.1 hp; exact relLinks_numsOk ..

/-! ### resource objects -/

theorem resTop_numsOk (r : ResView) (prepath : GoString)
    (attrs rels : List (GoString × Json)) (rmeta : Meta)
    (ha : ∀ p ∈ attrs, p.2.numsOk = true) (hr : ∀ p ∈ rels, p.2.numsOk = true)
    (hm : Json.numsOkMembers rmeta = true) :
    (Json.obj (sortMembers (resTop r prepath attrs rels rmeta))).numsOk = true := by
  rw [numsOk_obj_sort]
  intro p hp
  simp only [resTop, List.mem_append] at hp
  rcases hp with ((hp | hp) | hp) | hp
  · simp only [List.mem_cons, List.not_mem_nil, or_false] at hp
    rcases hp with rfl | rfl | rfl <;> simp [Json.numsOk, Json.numsOkMembers]
  · exact numsOk_opt ((numsOk_obj_sort _).2 ha) p hp
  · exact numsOk_opt ((numsOk_obj_sort _).2 hr) p hp
  · exact numsOk_opt (by simpa [Json.numsOk] using hm) p hp

theorem resourceObject_numsOk (r : ResView) (prepath : GoString) (fields : List GoString)
    (relData : GoMap (List GoString)) (rmeta : Meta) (hm : Json.numsOkMembers rmeta = true) :
    (Spec.resourceObject r prepath fields relData rmeta).numsOk = true := by
  refine resTop_numsOk r prepath _ _ rmeta (fun p hp => ?_) (fun p hp => ?_) hm
  · obtain ⟨a, -, rfl⟩ := List.mem_map.1 hp
    exact encodeAttr_numsOk _
  · obtain ⟨a, -, rfl⟩ := List.mem_map.1 hp
    exact relObject_numsOk ..

theorem marshalResource_numsOk {r : ResView} {prepath : GoString} {fields : List GoString}
    {relData : GoMap (List GoString)} {rmeta : Meta} {j : Json} {r' : ResView}
    (hm : Json.numsOkMembers rmeta = true)
    (h : marshalResource r prepath fields relData rmeta = .ok (j, r')) : j.numsOk = true := by
  obtain ⟨⟨attrs, rels, rfl, ha, hr⟩, -⟩ := marshalResource_ok h
  refine resTop_numsOk r prepath _ _ rmeta (fun q hq => ?_) (fun q hq => ?_) hm
  · obtain ⟨n, rfl⟩ := ha q hq
    exact encodeAttr_numsOk _
  · obtain ⟨rel, w, rfl⟩ := hr q hq
    exact relObject_numsOk ..

theorem objOf_numsOk (prepath : GoString) (fields relData : GoMap (List GoString)) (r : ResView) :
    (objOf prepath fields relData r).numsOk = true := by
  unfold objOf
  split
  · rename_i h; exact marshalResource_numsOk rfl h
  · exact numsOk_null

/-! ### documents -/

theorem linkToJson_numsOk (l : LinkObj) (h : l.numsOk) : l.toJson.numsOk = true := by
  unfold LinkObj.toJson
  split
  · exact numsOk_str _
  · unfold LinkObj.numsOk at h
    simp [Json.numsOk, Json.numsOkMembers, h]

theorem errorToJson_numsOk (e : ErrorObj) (h : e.numsOk) : e.toJson.numsOk = true := by
  unfold ErrorObj.toJson
  rw [numsOk_obj_sort]
  intro p hp
  simp only [List.mem_append, ne_eq, ite_not] at hp
  rcases hp with ((((((hp | hp) | hp) | hp) | hp) | hp) | hp) | hp
  · exact numsOk_opt (numsOk_str _) p hp
  · exact numsOk_opt (numsOk_str _) p hp
  · exact numsOk_opt (numsOk_str _) p hp
  · exact numsOk_opt (numsOk_str _) p hp
  · exact numsOk_opt (numsOk_str _) p hp
  · refine numsOk_opt ((numsOk_obj_sort _).2 (fun q hq => ?_)) p hp
    obtain ⟨a, -, rfl⟩ := List.mem_map.1 hq
    exact numsOk_str _
  · exact numsOk_opt (by simpa [Json.numsOk] using h.1) p hp
  · exact numsOk_opt (by simpa [Json.numsOk] using h.2) p hp

theorem docLinks_numsOk (doc : Document) (selfHref : GoString) (hn : doc.numsOk) :
    ∀ p ∈ docLinks doc selfHref, p.2.numsOk = true := by
  intro p hp
  simp only [docLinks, List.mem_append, List.mem_map, List.mem_filter, List.mem_cons,
    List.not_mem_nil, or_false] at hp
  rcases hp with ⟨q, ⟨hq, -⟩, rfl⟩ | rfl
  · exact linkToJson_numsOk _ (hn.2.1 q hq)
  · exact numsOk_str _

theorem shapeMembers_numsOk (doc : Document) (selfHref : GoString)
    (body : List (GoString × Json)) (hn : doc.numsOk) (hb : ∀ p ∈ body, p.2.numsOk = true) :
    (Json.obj (sortMembers (shapeMembers doc selfHref body))).numsOk = true := by
  rw [numsOk_obj_sort]
  intro p hp
  simp only [shapeMembers, List.mem_append, List.mem_cons, List.not_mem_nil, or_false] at hp
  rcases hp with ((hp | hp) | rfl | rfl)
  · exact hb p hp
  · exact numsOk_opt (by simpa [Json.numsOk] using hn.1) p hp
  · exact (numsOk_obj_sort _).2 (docLinks_numsOk doc selfHref hn)
  · simp [Json.numsOk, Json.numsOkMembers]

theorem bodyWith_numsOk {g : ResView → Json} (hg : ∀ r, (g r).numsOk = true) (doc : Document)
    (hn : doc.numsOk) : ∀ p ∈ bodyWith g doc, p.2.numsOk = true := by
  have hd : ∀ dj, dataWith g doc = some dj → dj.numsOk = true := by
    intro dj h
    unfold dataWith at h
    split at h <;> try split at h
    all_goals first | cases h | skip
    · exact numsOk_null
    · exact hg _
    · exact numsOk_arr_map (fun r _ => hg r)
    · exact identifierJson_numsOk ..
    · exact numsOk_arr_map (fun _ _ => identifierJson_numsOk ..)
  intro p hp
  unfold bodyWith bodyOf at hp
  split at hp
  · rename_i e _ he
    cases List.mem_singleton.1 hp
    split at he
    · cases he
    · cases he
      exact numsOk_arr_map (fun e he => errorToJson_numsOk e (hn.2.2 e he))
  · rename_i dj _ hdj
    rcases List.mem_append.1 hp with hp | hp
    · cases List.mem_singleton.1 hp; exact hd dj hdj
    · exact numsOk_opt (numsOk_arr_map (fun r _ => hg r)) p hp
  · cases hp

theorem documentTree_numsOk {doc : Document} {fields : GoMap (List GoString)}
    {selfHref : GoString} {t : Json} (hn : doc.numsOk)
    (h : Spec.documentTree doc fields selfHref = some t) : t.numsOk = true := by
  rw [documentTree_some h]
  refine shapeMembers_numsOk doc selfHref _ hn ?_
  rw [docBody_eq]
  exact bodyWith_numsOk (fun r => resourceObject_numsOk _ _ _ _ _ rfl) doc hn

theorem marshalDocument_numsOk {doc : Document} {fields : GoMap (List GoString)}
    {selfHref : GoString} {t : Json} {doc' : Document} (hn : doc.numsOk)
    (h : marshalDocument doc fields selfHref = .ok (t, doc')) : t.numsOk = true := by
  rw [(marshalDocument_ok.1 h).2.2.2.1]
  exact shapeMembers_numsOk doc selfHref _ hn (bodyWith_numsOk (objOf_numsOk _ _ _) doc hn)

end MJsonL
end Jsonapi
