-- Root of the `Jsonapi` library: everything, including all property modules.
-- Basic: Go strings, `Res`, `Forall2`
import Jsonapi.Basic.Core
import Jsonapi.Basic.Sx
-- Model: the hand-written model of the library (the other Model modules come in through the Props)
import Jsonapi.Model.Schema
import Jsonapi.Model.JsonText
import Jsonapi.Model.Decode
import Jsonapi.Model.UrlRaw
-- Spec: the specification side
import Jsonapi.Spec.JsonParse
import Jsonapi.Spec.JsonFull
import Jsonapi.Spec.UrlFull
-- Generated: what the extractor (Facts) and the translator (Funcs) print from the Go source
import Jsonapi.Generated.Facts
import Jsonapi.Generated.Funcs
-- Proofs: lists; marshaling; JSON text and bytes; the lemma files of the translated functions
-- (the remaining lemma files come in through the Props that use them)
import Jsonapi.Proofs.ListLemmas
import Jsonapi.Proofs.MarshalRepeatLemmas
import Jsonapi.Proofs.JsonTextLemmas
import Jsonapi.Proofs.DecodeLemmas
import Jsonapi.Proofs.JsonFullLemmas
import Jsonapi.Proofs.RoundTripBytesLemmas
import Jsonapi.Proofs.DocBytesLemmas
import Jsonapi.Proofs.GenC03bLemmas
import Jsonapi.Proofs.GenC09Lemmas
import Jsonapi.Proofs.GenC10bLemmas
import Jsonapi.Proofs.GenC15bLemmas
-- Props: the properties C01 .. C20 with their suffixed companions
import Jsonapi.Props.C01
import Jsonapi.Props.C01B
import Jsonapi.Props.C02
import Jsonapi.Props.C02B
import Jsonapi.Props.C03
import Jsonapi.Props.C03D
import Jsonapi.Props.C04
import Jsonapi.Props.C04M
import Jsonapi.Props.C05
import Jsonapi.Props.C05B
import Jsonapi.Props.C05N
import Jsonapi.Props.C05R
import Jsonapi.Props.C06
import Jsonapi.Props.C06P
import Jsonapi.Props.C06R
import Jsonapi.Props.C06W
import Jsonapi.Props.C07
import Jsonapi.Props.C07B
import Jsonapi.Props.C07T
import Jsonapi.Props.C08
import Jsonapi.Props.C08F
import Jsonapi.Props.C08G
import Jsonapi.Props.C09
import Jsonapi.Props.C09P
import Jsonapi.Props.C10
import Jsonapi.Props.C10M
import Jsonapi.Props.C11
import Jsonapi.Props.C11M
import Jsonapi.Props.C11R
import Jsonapi.Props.C12
import Jsonapi.Props.C13
import Jsonapi.Props.C13P
import Jsonapi.Props.C14
import Jsonapi.Props.C14T
import Jsonapi.Props.C15
import Jsonapi.Props.C15C
import Jsonapi.Props.C16
import Jsonapi.Props.C16N
import Jsonapi.Props.C17
import Jsonapi.Props.C17E
import Jsonapi.Props.C17S
import Jsonapi.Props.C18
import Jsonapi.Props.C19
import Jsonapi.Props.C20
-- Props: the translated functions against the model; the bridge to the abstract views; the rest
import Jsonapi.Props.GenC03
import Jsonapi.Props.GenC03b
import Jsonapi.Props.GenC07
import Jsonapi.Props.GenC07b
import Jsonapi.Props.GenC07c
import Jsonapi.Props.GenC08
import Jsonapi.Props.GenC09
import Jsonapi.Props.GenC10
import Jsonapi.Props.GenC10b
import Jsonapi.Props.GenC14
import Jsonapi.Props.GenC14b
import Jsonapi.Props.GenC15
import Jsonapi.Props.GenC15b
import Jsonapi.Props.GenC16
import Jsonapi.Props.Bridge
import Jsonapi.Props.CMisc
